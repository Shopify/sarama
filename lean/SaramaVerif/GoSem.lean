/-
  GoSem: the fragment of Go's integer semantics that the regenerated definitions (`Gen/*.lean`) and the
  hand-written models use, with the remaining operators of the same family (the translator may emit any of them).
  Fixed-width Go integers are modelled as `Int` values kept in range by explicit wrap functions, so that `omega`
  can reason about them.
-/
namespace Go

/-- two's complement wrap of an unbounded integer into int32 -/
def wrap32 (x : Int) : Int := (x + 2147483648) % 4294967296 - 2147483648
def wrap64 (x : Int) : Int := (x + 9223372036854775808) % 18446744073709551616 - 9223372036854775808
def wrapU32 (x : Int) : Int := x % 4294967296

def InI32 (x : Int) : Prop := -2147483648 ≤ x ∧ x ≤ 2147483647
def InI64 (x : Int) : Prop := -9223372036854775808 ≤ x ∧ x ≤ 9223372036854775807
def InU32 (x : Int) : Prop := 0 ≤ x ∧ x ≤ 4294967295

instance (x : Int) : Decidable (InI32 x) := by unfold InI32; infer_instance
instance (x : Int) : Decidable (InI64 x) := by unfold InI64; infer_instance
instance (x : Int) : Decidable (InU32 x) := by unfold InU32; infer_instance

def add32 (a b : Int) : Int := wrap32 (a + b)
def sub32 (a b : Int) : Int := wrap32 (a - b)
def mul32 (a b : Int) : Int := wrap32 (a * b)
def neg32 (a : Int) : Int := wrap32 (-a)
/-- Go `/` on signed integers truncates toward zero -/
def div32 (a b : Int) : Int := wrap32 (Int.tdiv a b)
/-- Go `%` on signed integers: sign follows the dividend -/
def rem32 (a b : Int) : Int := wrap32 (Int.tmod a b)
def and32 (a b : Int) : Int := (BitVec.ofInt 32 a &&& BitVec.ofInt 32 b).toInt

def add64 (a b : Int) : Int := wrap64 (a + b)
def sub64 (a b : Int) : Int := wrap64 (a - b)
def mul64 (a b : Int) : Int := wrap64 (a * b)
def neg64 (a : Int) : Int := wrap64 (-a)
def div64 (a b : Int) : Int := wrap64 (Int.tdiv a b)
def rem64 (a b : Int) : Int := wrap64 (Int.tmod a b)

/-- conversion `int32(x)` from any integer type -/
def toI32 (x : Int) : Int := wrap32 x
def toI64 (x : Int) : Int := wrap64 x

theorem wrap32_id {x : Int} (h : InI32 x) : wrap32 x = x := by
  unfold InI32 at h; unfold wrap32; omega
theorem wrap64_id {x : Int} (h : InI64 x) : wrap64 x = x := by
  unfold InI64 at h; unfold wrap64; omega
theorem wrap32_in (x : Int) : InI32 (wrap32 x) := by unfold InI32 wrap32; omega
theorem wrap64_in (x : Int) : InI64 (wrap64 x) := by unfold InI64 wrap64; omega

theorem add64_id {a b : Int} (h : InI64 (a + b)) : add64 a b = a + b := wrap64_id h
theorem sub64_id {a b : Int} (h : InI64 (a - b)) : sub64 a b = a - b := wrap64_id h
theorem add32_id {a b : Int} (h : InI32 (a + b)) : add32 a b = a + b := wrap32_id h
theorem sub32_id {a b : Int} (h : InI32 (a - b)) : sub32 a b = a - b := wrap32_id h
theorem toI32_id {x : Int} (h : InI32 x) : toI32 x = x := wrap32_id h

theorem InI64.between {a b x : Int} (ha : InI64 a) (hb : InI64 b) (h1 : a ≤ x) (h2 : x ≤ b) : InI64 x :=
  ⟨Int.le_trans ha.1 h1, Int.le_trans h2 hb.2⟩
theorem InI32.between {a b x : Int} (ha : InI32 a) (hb : InI32 b) (h1 : a ≤ x) (h2 : x ≤ b) : InI32 x :=
  ⟨Int.le_trans ha.1 h1, Int.le_trans h2 hb.2⟩
theorem InI32.toI64 {x : Int} (h : InI32 x) : InI64 x :=
  ⟨Int.le_trans (by decide) h.1, Int.le_trans h.2 (by decide)⟩

theorem add64_nn {a b : Int} (ha : 0 ≤ a) (hb : 0 ≤ b) (h : a + b ≤ 9223372036854775807) : add64 a b = a + b :=
  wrap64_id ⟨Int.le_trans (by decide) (Int.add_nonneg ha hb), h⟩

/-- no range hypothesis: `and32` reads its arguments modulo 2^32 -/
theorem and32_mask31 (x : Int) : and32 x 2147483647 = x % 2147483648 := by
  have hx : 0 ≤ x % 4294967296 := Int.emod_nonneg x (by decide)
  have hm : 0 ≤ x % 2147483648 ∧ x % 2147483648 < 2147483648 :=
    ⟨Int.emod_nonneg x (by decide), Int.emod_lt_of_pos x (by decide)⟩
  -- as bit vectors the mask is `2^31 - 1`, and `&&&` with that is `% 2^31`
  have e : (BitVec.ofInt 32 x &&& BitVec.ofInt 32 2147483647).toNat = (x % 2147483648).toNat := by
    rw [BitVec.toNat_and, BitVec.toNat_ofInt, BitVec.toNat_ofInt]
    show (x % 4294967296).toNat &&& 2 ^ 31 - 1 = _
    rw [Nat.and_two_pow_sub_one_eq_mod _ 31, ← Int.emod_emod_of_dvd x (by decide : (2147483648 : Int) ∣ 4294967296)]
    exact (Int.toNat_emod hx (show (0 : Int) ≤ 2147483648 by decide)).symm
  rw [and32, BitVec.toInt_eq_toNat_of_msb, e]
  · exact Int.toNat_of_nonneg hm.1
  · rw [BitVec.msb_eq_false_iff_two_mul_lt, e]; omega

/-- the int32 reading of a value differs from it by a multiple of 2^32 -/
theorem wrap32_emod31 (h : Int) : wrap32 h % 2147483648 = h % 2147483648 := by
  unfold wrap32
  rw [Int.sub_emod_right, Int.emod_emod_of_dvd _ (by decide : (2147483648 : Int) ∣ 4294967296), Int.add_emod_right]

/-- The statement carries `InU32 h`, which its proof does not use. -/
theorem and32_mask31_of_u32 (h : Int) (_ : InU32 h) : and32 (wrap32 h) 2147483647 = h % 2147483648 := by
  rw [and32_mask31, wrap32_emod31]

end Go
