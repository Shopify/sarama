import SaramaVerif.Gen.C09Skel
import SaramaVerif.Model.CodecSchemas
import SaramaVerif.Lemmas.C09names
/-
  GENERATED by tools/skel - do not edit.  Bridge obligations of the C09 skeletons, one pair per type:
    T_mirror : the decode skeleton reads, at every version, field by field what the encode skeleton writes
               (`NF.mirror`: a decoder may accept a null array the encoder never writes)
    T_schema : at every version the encode skeleton is the hand-written schema of Model/CodecSchemas.lean
  Where the source deviates, the deviation is stated in place of the plain obligation (`_upto` with `_beyond`,
  `_differs`), under the reason tools/skel/known.txt gives for it.
  All by kernel evaluation (`decide +kernel`), no native code: a `T_mirror` on its own, the tie of a `T_schema` as one
  arm of `schemaChecks_first`; `T_schema` itself is the entry of `schemaChecks_hold` at T's place in the table.

  `schemaChecks` is the table of the ties: under the name of each arm of `bodySchema`, and in the order of the arms,
  what is claimed of that arm's format and the skeleton of the type so named.  `schemaChecks_first` walks the match of
  `bodySchema` once at a variable name, `schemaChecks_distinct` compares the names with one another once (`FirstNamed`;
  the idea is told in Lemmas/C09names.lean).  In any other order than that of the arms the walk stops at the first arm
  that disagrees and proves nothing.

  In `schemaChecks_first`, `refine .arm ?_ ?_` leaves the arm's tie and the rest of the chain; `rotate_left` puts the
  tie last, so that `repeat` goes on down the chain to the wildcard arm (`FirstNamed [] ..`, which is `True`) and the
  ties are evaluated afterwards, each a goal of its own: a tie that fails is reported by `decide` with its name and
  format, where evaluating it inside the loop would only end the loop at that arm.
-/
namespace Bridge.C09Skel
open Model.Codec Gen.C09Skel

theorem AbortedTransaction_mirror : mirror AbortedTransaction.encSkel AbortedTransaction.decSkel = true := by decide +kernel

theorem Acl_mirror : mirror Acl.encSkel Acl.decSkel = true := by decide +kernel

theorem AclCreation_mirror : mirror AclCreation.encSkel AclCreation.decSkel = true := by decide +kernel

theorem AclCreationResponse_mirror : mirror AclCreationResponse.encSkel AclCreationResponse.decSkel = true := by decide +kernel

theorem AclFilter_mirror : mirror AclFilter.encSkel AclFilter.decSkel = true := by decide +kernel

theorem AddOffsetsToTxnRequest_mirror : mirror AddOffsetsToTxnRequest.encSkel AddOffsetsToTxnRequest.decSkel = true := by decide +kernel

theorem AddOffsetsToTxnResponse_mirror : mirror AddOffsetsToTxnResponse.encSkel AddOffsetsToTxnResponse.decSkel = true := by decide +kernel

theorem AddPartitionsToTxnRequest_mirror : mirror AddPartitionsToTxnRequest.encSkel AddPartitionsToTxnRequest.decSkel = true := by decide +kernel

theorem AddPartitionsToTxnResponse_mirror : mirror AddPartitionsToTxnResponse.encSkel AddPartitionsToTxnResponse.decSkel = true := by decide +kernel

theorem AlterConfigsRequest_mirror : mirror AlterConfigsRequest.encSkel AlterConfigsRequest.decSkel = true := by decide +kernel

theorem AlterConfigsResource_mirror : mirror AlterConfigsResource.encSkel AlterConfigsResource.decSkel = true := by decide +kernel

theorem AlterConfigsResourceResponse_mirror : mirror AlterConfigsResourceResponse.encSkel AlterConfigsResourceResponse.decSkel = true := by decide +kernel

theorem AlterConfigsResponse_mirror : mirror AlterConfigsResponse.encSkel AlterConfigsResponse.decSkel = true := by decide +kernel

theorem AlterPartitionReassignmentsRequest_mirror : mirror AlterPartitionReassignmentsRequest.encSkel AlterPartitionReassignmentsRequest.decSkel = true := by decide +kernel

theorem AlterPartitionReassignmentsResponse_mirror : mirror AlterPartitionReassignmentsResponse.encSkel AlterPartitionReassignmentsResponse.decSkel = true := by decide +kernel

theorem AlterUserScramCredentialsRequest_mirror : mirror AlterUserScramCredentialsRequest.encSkel AlterUserScramCredentialsRequest.decSkel = true := by decide +kernel

theorem AlterUserScramCredentialsResponse_mirror : mirror AlterUserScramCredentialsResponse.encSkel AlterUserScramCredentialsResponse.decSkel = true := by decide +kernel

theorem ApiVersionsRequest_mirror : mirror ApiVersionsRequest.encSkel ApiVersionsRequest.decSkel = true := by decide +kernel

theorem ApiVersionsResponse_mirror : mirror ApiVersionsResponse.encSkel ApiVersionsResponse.decSkel = true := by decide +kernel

theorem ApiVersionsResponseBlock_mirror : mirror ApiVersionsResponseBlock.encSkel ApiVersionsResponseBlock.decSkel = true := by decide +kernel

theorem Broker_mirror : mirror Broker.encSkel Broker.decSkel = true := by decide +kernel

theorem ConfigEntry_mirror : mirror ConfigEntry.encSkel ConfigEntry.decSkel = true := by decide +kernel

theorem ConfigSynonym_mirror : mirror ConfigSynonym.encSkel ConfigSynonym.decSkel = true := by decide +kernel

theorem ConsumerGroupMemberAssignment_mirror : mirror ConsumerGroupMemberAssignment.encSkel ConsumerGroupMemberAssignment.decSkel = true := by decide +kernel

theorem ConsumerGroupMemberMetadata_mirror : mirror ConsumerGroupMemberMetadata.encSkel ConsumerGroupMemberMetadata.decSkel = true := by decide +kernel

theorem ConsumerMetadataRequest_mirror_upto : mirrorUpTo 0 ConsumerMetadataRequest.encSkel ConsumerMetadataRequest.decSkel = true := by decide +kernel
/-- beyond version 0 the two sides part: encode always writes the v0 layout (tmp := new(FindCoordinatorRequest) has Version 0), decode passes its version argument on to FindCoordinatorRequest.decode; the type implements version 0 only -/
theorem ConsumerMetadataRequest_mirror_beyond : mirror ConsumerMetadataRequest.encSkel ConsumerMetadataRequest.decSkel = false := by decide +kernel

theorem ConsumerMetadataResponse_mirror_upto : mirrorUpTo 0 ConsumerMetadataResponse.encSkel ConsumerMetadataResponse.decSkel = true := by decide +kernel
/-- beyond version 0 the two sides part: encode always writes the v0 layout (&FindCoordinatorResponse{Version: 0, ...}), decode passes its version argument on; the type implements version 0 only -/
theorem ConsumerMetadataResponse_mirror_beyond : mirror ConsumerMetadataResponse.encSkel ConsumerMetadataResponse.decSkel = false := by decide +kernel

theorem CreateAclsRequest_mirror : mirror CreateAclsRequest.encSkel CreateAclsRequest.decSkel = true := by decide +kernel

theorem CreateAclsResponse_mirror : mirror CreateAclsResponse.encSkel CreateAclsResponse.decSkel = true := by decide +kernel

theorem CreatePartitionsRequest_mirror : mirror CreatePartitionsRequest.encSkel CreatePartitionsRequest.decSkel = true := by decide +kernel

theorem CreatePartitionsResponse_mirror : mirror CreatePartitionsResponse.encSkel CreatePartitionsResponse.decSkel = true := by decide +kernel

theorem CreateTopicsRequest_mirror : mirror CreateTopicsRequest.encSkel CreateTopicsRequest.decSkel = true := by decide +kernel

theorem CreateTopicsResponse_mirror : mirror CreateTopicsResponse.encSkel CreateTopicsResponse.decSkel = true := by decide +kernel

theorem DeleteAclsRequest_mirror : mirror DeleteAclsRequest.encSkel DeleteAclsRequest.decSkel = true := by decide +kernel

theorem DeleteAclsResponse_mirror : mirror DeleteAclsResponse.encSkel DeleteAclsResponse.decSkel = true := by decide +kernel

theorem DeleteGroupsRequest_mirror : mirror DeleteGroupsRequest.encSkel DeleteGroupsRequest.decSkel = true := by decide +kernel

theorem DeleteGroupsResponse_mirror : mirror DeleteGroupsResponse.encSkel DeleteGroupsResponse.decSkel = true := by decide +kernel

theorem DeleteRecordsRequest_mirror : mirror DeleteRecordsRequest.encSkel DeleteRecordsRequest.decSkel = true := by decide +kernel

theorem DeleteRecordsRequestTopic_mirror : mirror DeleteRecordsRequestTopic.encSkel DeleteRecordsRequestTopic.decSkel = true := by decide +kernel

theorem DeleteRecordsResponse_mirror : mirror DeleteRecordsResponse.encSkel DeleteRecordsResponse.decSkel = true := by decide +kernel

theorem DeleteRecordsResponsePartition_mirror : mirror DeleteRecordsResponsePartition.encSkel DeleteRecordsResponsePartition.decSkel = true := by decide +kernel

theorem DeleteRecordsResponseTopic_mirror : mirror DeleteRecordsResponseTopic.encSkel DeleteRecordsResponseTopic.decSkel = true := by decide +kernel

theorem DeleteTopicsRequest_mirror : mirror DeleteTopicsRequest.encSkel DeleteTopicsRequest.decSkel = true := by decide +kernel

theorem DeleteTopicsResponse_mirror : mirror DeleteTopicsResponse.encSkel DeleteTopicsResponse.decSkel = true := by decide +kernel

theorem DescribeAclsRequest_mirror : mirror DescribeAclsRequest.encSkel DescribeAclsRequest.decSkel = true := by decide +kernel

theorem DescribeAclsResponse_mirror : mirror DescribeAclsResponse.encSkel DescribeAclsResponse.decSkel = true := by decide +kernel

theorem DescribeConfigsRequest_mirror : mirror DescribeConfigsRequest.encSkel DescribeConfigsRequest.decSkel = true := by decide +kernel

theorem DescribeConfigsResponse_mirror : mirror DescribeConfigsResponse.encSkel DescribeConfigsResponse.decSkel = true := by decide +kernel

theorem DescribeGroupsRequest_mirror : mirror DescribeGroupsRequest.encSkel DescribeGroupsRequest.decSkel = true := by decide +kernel

theorem DescribeGroupsResponse_mirror : mirror DescribeGroupsResponse.encSkel DescribeGroupsResponse.decSkel = true := by decide +kernel

theorem DescribeLogDirsRequest_mirror : mirror DescribeLogDirsRequest.encSkel DescribeLogDirsRequest.decSkel = true := by decide +kernel

theorem DescribeLogDirsResponse_mirror : mirror DescribeLogDirsResponse.encSkel DescribeLogDirsResponse.decSkel = true := by decide +kernel

theorem DescribeLogDirsResponseDirMetadata_mirror : mirror DescribeLogDirsResponseDirMetadata.encSkel DescribeLogDirsResponseDirMetadata.decSkel = true := by decide +kernel

theorem DescribeLogDirsResponsePartition_mirror : mirror DescribeLogDirsResponsePartition.encSkel DescribeLogDirsResponsePartition.decSkel = true := by decide +kernel

theorem DescribeLogDirsResponseTopic_mirror : mirror DescribeLogDirsResponseTopic.encSkel DescribeLogDirsResponseTopic.decSkel = true := by decide +kernel

theorem DescribeUserScramCredentialsRequest_mirror : mirror DescribeUserScramCredentialsRequest.encSkel DescribeUserScramCredentialsRequest.decSkel = true := by decide +kernel

theorem DescribeUserScramCredentialsResponse_mirror : mirror DescribeUserScramCredentialsResponse.encSkel DescribeUserScramCredentialsResponse.decSkel = true := by decide +kernel

theorem EndTxnRequest_mirror : mirror EndTxnRequest.encSkel EndTxnRequest.decSkel = true := by decide +kernel

theorem EndTxnResponse_mirror : mirror EndTxnResponse.encSkel EndTxnResponse.decSkel = true := by decide +kernel

theorem FetchRequest_mirror : mirror FetchRequest.encSkel FetchRequest.decSkel = true := by decide +kernel

theorem FilterResponse_mirror : mirror FilterResponse.encSkel FilterResponse.decSkel = true := by decide +kernel

theorem FindCoordinatorRequest_mirror : mirror FindCoordinatorRequest.encSkel FindCoordinatorRequest.decSkel = true := by decide +kernel

theorem FindCoordinatorResponse_mirror : mirror FindCoordinatorResponse.encSkel FindCoordinatorResponse.decSkel = true := by decide +kernel

theorem GroupDescription_mirror : mirror GroupDescription.encSkel GroupDescription.decSkel = true := by decide +kernel

theorem GroupMemberDescription_mirror : mirror GroupMemberDescription.encSkel GroupMemberDescription.decSkel = true := by decide +kernel

theorem GroupProtocol_mirror : mirror GroupProtocol.encSkel GroupProtocol.decSkel = true := by decide +kernel

theorem HeartbeatRequest_mirror : mirror HeartbeatRequest.encSkel HeartbeatRequest.decSkel = true := by decide +kernel

theorem HeartbeatResponse_mirror : mirror HeartbeatResponse.encSkel HeartbeatResponse.decSkel = true := by decide +kernel

theorem IncrementalAlterConfigsEntry_mirror : mirror IncrementalAlterConfigsEntry.encSkel IncrementalAlterConfigsEntry.decSkel = true := by decide +kernel

theorem IncrementalAlterConfigsRequest_mirror : mirror IncrementalAlterConfigsRequest.encSkel IncrementalAlterConfigsRequest.decSkel = true := by decide +kernel

theorem IncrementalAlterConfigsResource_mirror : mirror IncrementalAlterConfigsResource.encSkel IncrementalAlterConfigsResource.decSkel = true := by decide +kernel

theorem IncrementalAlterConfigsResponse_mirror : mirror IncrementalAlterConfigsResponse.encSkel IncrementalAlterConfigsResponse.decSkel = true := by decide +kernel

theorem InitProducerIDRequest_mirror : mirror InitProducerIDRequest.encSkel InitProducerIDRequest.decSkel = true := by decide +kernel

theorem InitProducerIDResponse_mirror : mirror InitProducerIDResponse.encSkel InitProducerIDResponse.decSkel = true := by decide +kernel

theorem JoinGroupRequest_mirror : mirror JoinGroupRequest.encSkel JoinGroupRequest.decSkel = true := by decide +kernel

theorem JoinGroupResponse_mirror : mirror JoinGroupResponse.encSkel JoinGroupResponse.decSkel = true := by decide +kernel

theorem LeaveGroupRequest_mirror : mirror LeaveGroupRequest.encSkel LeaveGroupRequest.decSkel = true := by decide +kernel

theorem LeaveGroupResponse_mirror : mirror LeaveGroupResponse.encSkel LeaveGroupResponse.decSkel = true := by decide +kernel

theorem ListGroupsRequest_mirror : mirror ListGroupsRequest.encSkel ListGroupsRequest.decSkel = true := by decide +kernel

theorem ListGroupsResponse_mirror : mirror ListGroupsResponse.encSkel ListGroupsResponse.decSkel = true := by decide +kernel

theorem ListPartitionReassignmentsRequest_mirror : mirror ListPartitionReassignmentsRequest.encSkel ListPartitionReassignmentsRequest.decSkel = true := by decide +kernel

theorem ListPartitionReassignmentsResponse_mirror : mirror ListPartitionReassignmentsResponse.encSkel ListPartitionReassignmentsResponse.decSkel = true := by decide +kernel

theorem MatchingAcl_mirror : mirror MatchingAcl.encSkel MatchingAcl.decSkel = true := by decide +kernel

theorem MetadataRequest_mirror : mirror MetadataRequest.encSkel MetadataRequest.decSkel = true := by decide +kernel

theorem MetadataResponse_mirror : mirror MetadataResponse.encSkel MetadataResponse.decSkel = true := by decide +kernel

theorem OffsetCommitRequest_mirror : mirror OffsetCommitRequest.encSkel OffsetCommitRequest.decSkel = true := by decide +kernel

theorem OffsetCommitResponse_mirror : mirror OffsetCommitResponse.encSkel OffsetCommitResponse.decSkel = true := by decide +kernel

theorem OffsetFetchRequest_mirror : mirror OffsetFetchRequest.encSkel OffsetFetchRequest.decSkel = true := by decide +kernel

theorem OffsetFetchResponse_mirror : mirror OffsetFetchResponse.encSkel OffsetFetchResponse.decSkel = true := by decide +kernel

theorem OffsetFetchResponseBlock_mirror : mirror OffsetFetchResponseBlock.encSkel OffsetFetchResponseBlock.decSkel = true := by decide +kernel

theorem OffsetRequest_mirror : mirror OffsetRequest.encSkel OffsetRequest.decSkel = true := by decide +kernel

theorem OffsetResponse_mirror : mirror OffsetResponse.encSkel OffsetResponse.decSkel = true := by decide +kernel

theorem OffsetResponseBlock_mirror : mirror OffsetResponseBlock.encSkel OffsetResponseBlock.decSkel = true := by decide +kernel

theorem PartitionError_mirror : mirror PartitionError.encSkel PartitionError.decSkel = true := by decide +kernel

theorem PartitionMetadata_mirror : mirror PartitionMetadata.encSkel PartitionMetadata.decSkel = true := by decide +kernel

theorem PartitionOffsetMetadata_mirror : mirror PartitionOffsetMetadata.encSkel PartitionOffsetMetadata.decSkel = true := by decide +kernel

theorem PartitionReplicaReassignmentsStatus_mirror : mirror PartitionReplicaReassignmentsStatus.encSkel PartitionReplicaReassignmentsStatus.decSkel = true := by decide +kernel

theorem ProduceResponse_mirror : mirror ProduceResponse.encSkel ProduceResponse.decSkel = true := by decide +kernel

theorem ProduceResponseBlock_mirror : mirror ProduceResponseBlock.encSkel ProduceResponseBlock.decSkel = true := by decide +kernel

theorem Record_mirror : mirror Record.encSkel Record.decSkel = true := by decide +kernel

theorem RecordHeader_mirror : mirror RecordHeader.encSkel RecordHeader.decSkel = true := by decide +kernel

theorem Resource_mirror : mirror Resource.encSkel Resource.decSkel = true := by decide +kernel

theorem ResourceAcls_mirror : mirror ResourceAcls.encSkel ResourceAcls.decSkel = true := by decide +kernel

theorem ResourceResponse_mirror : mirror ResourceResponse.encSkel ResourceResponse.decSkel = true := by decide +kernel

theorem SaslAuthenticateRequest_mirror : mirror SaslAuthenticateRequest.encSkel SaslAuthenticateRequest.decSkel = true := by decide +kernel

theorem SaslAuthenticateResponse_mirror : mirror SaslAuthenticateResponse.encSkel SaslAuthenticateResponse.decSkel = true := by decide +kernel

theorem SaslHandshakeRequest_mirror : mirror SaslHandshakeRequest.encSkel SaslHandshakeRequest.decSkel = true := by decide +kernel

theorem SaslHandshakeResponse_mirror : mirror SaslHandshakeResponse.encSkel SaslHandshakeResponse.decSkel = true := by decide +kernel

theorem StickyAssignorUserDataV0_mirror : mirror StickyAssignorUserDataV0.encSkel StickyAssignorUserDataV0.decSkel = true := by decide +kernel

theorem StickyAssignorUserDataV1_mirror : mirror StickyAssignorUserDataV1.encSkel StickyAssignorUserDataV1.decSkel = true := by decide +kernel

theorem SyncGroupRequest_mirror : mirror SyncGroupRequest.encSkel SyncGroupRequest.decSkel = true := by decide +kernel

theorem SyncGroupResponse_mirror : mirror SyncGroupResponse.encSkel SyncGroupResponse.decSkel = true := by decide +kernel

theorem Timestamp_mirror : mirror Timestamp.encSkel Timestamp.decSkel = true := by decide +kernel

theorem TopicDetail_mirror : mirror TopicDetail.encSkel TopicDetail.decSkel = true := by decide +kernel

theorem TopicError_mirror : mirror TopicError.encSkel TopicError.decSkel = true := by decide +kernel

theorem TopicMetadata_mirror : mirror TopicMetadata.encSkel TopicMetadata.decSkel = true := by decide +kernel

theorem TopicPartition_mirror : mirror TopicPartition.encSkel TopicPartition.decSkel = true := by decide +kernel

theorem TopicPartitionError_mirror : mirror TopicPartitionError.encSkel TopicPartitionError.decSkel = true := by decide +kernel

theorem TxnOffsetCommitRequest_mirror : mirror TxnOffsetCommitRequest.encSkel TxnOffsetCommitRequest.decSkel = true := by decide +kernel

theorem TxnOffsetCommitResponse_mirror : mirror TxnOffsetCommitResponse.encSkel TxnOffsetCommitResponse.decSkel = true := by decide +kernel

/-- nested block only: its encode writes the trailing tagged-field section that, on the decode side, the caller (AlterPartitionReassignmentsRequest.decode) reads after block.decode; the body AlterPartitionReassignmentsRequest mirrors -/
theorem alterPartitionReassignmentsBlock_mirror_differs : mirror alterPartitionReassignmentsBlock.encSkel alterPartitionReassignmentsBlock.decSkel = false := by decide +kernel

theorem alterPartitionReassignmentsErrorBlock_mirror : mirror alterPartitionReassignmentsErrorBlock.encSkel alterPartitionReassignmentsErrorBlock.decSkel = true := by decide +kernel

theorem fetchRequestBlock_mirror : mirror fetchRequestBlock.encSkel fetchRequestBlock.decSkel = true := by decide +kernel

theorem offsetCommitRequestBlock_mirror : mirror offsetCommitRequestBlock.encSkel offsetCommitRequestBlock.decSkel = true := by decide +kernel

theorem offsetRequestBlock_mirror : mirror offsetRequestBlock.encSkel offsetRequestBlock.decSkel = true := by decide +kernel

/-- what is claimed of `bodySchema` under each name, in the order of its arms (an arm whose type has no supported
    skeleton pair claims nothing) -/
def schemaChecks : List (String × (Option Fmt → Bool)) := [
  ("HeartbeatRequest", schemaTie HeartbeatRequest.encSkel),
  ("HeartbeatResponse", schemaTie HeartbeatResponse.encSkel),
  ("MetadataRequest", schemaTie MetadataRequest.encSkel),
  ("FindCoordinatorRequest", schemaTie FindCoordinatorRequest.encSkel),
  ("FindCoordinatorResponse", schemaTie FindCoordinatorResponse.encSkel),
  ("InitProducerIDRequest", schemaTie InitProducerIDRequest.encSkel),
  ("InitProducerIDResponse", schemaTie InitProducerIDResponse.encSkel),
  ("OffsetCommitResponse", schemaTie OffsetCommitResponse.encSkel),
  ("ApiVersionsResponse", schemaTie ApiVersionsResponse.encSkel),
  ("ProduceResponse", schemaTie ProduceResponse.encSkel),
  ("DeleteTopicsRequest", schemaTie DeleteTopicsRequest.encSkel),
  ("DeleteTopicsResponse", schemaTie DeleteTopicsResponse.encSkel),
  ("EndTxnRequest", schemaTie EndTxnRequest.encSkel),
  ("EndTxnResponse", schemaTie EndTxnResponse.encSkel),
  ("TxnOffsetCommitResponse", schemaTie TxnOffsetCommitResponse.encSkel),
  ("CreatePartitionsResponse", schemaTie CreatePartitionsResponse.encSkel),
  ("ListGroupsResponse", schemaTie ListGroupsResponse.encSkel),
  ("LeaveGroupRequest", schemaTie LeaveGroupRequest.encSkel),
  ("LeaveGroupResponse", schemaTie LeaveGroupResponse.encSkel),
  ("SyncGroupResponse", schemaTie SyncGroupResponse.encSkel),
  ("OffsetRequest", schemaTie OffsetRequest.encSkel),
  ("AddPartitionsToTxnRequest", schemaTie AddPartitionsToTxnRequest.encSkel),
  ("AddOffsetsToTxnRequest", schemaTie AddOffsetsToTxnRequest.encSkel),
  ("AddOffsetsToTxnResponse", schemaTie AddOffsetsToTxnResponse.encSkel),
  ("DescribeGroupsRequest", schemaTie DescribeGroupsRequest.encSkel),
  ("SaslHandshakeRequest", schemaTie SaslHandshakeRequest.encSkel),
  ("SaslHandshakeResponse", schemaTie SaslHandshakeResponse.encSkel),
  ("SaslAuthenticateRequest", schemaTie SaslAuthenticateRequest.encSkel),
  ("SaslAuthenticateResponse", schemaTie SaslAuthenticateResponse.encSkel),
  ("DeleteGroupsRequest", schemaTie DeleteGroupsRequest.encSkel),
  ("DeleteGroupsResponse", schemaTie DeleteGroupsResponse.encSkel),
  ("CreateTopicsResponse", schemaTie CreateTopicsResponse.encSkel),
  ("JoinGroupResponse", schemaTie JoinGroupResponse.encSkel),
  ("OffsetFetchResponse", schemaTie OffsetFetchResponse.encSkel),
  ("AlterPartitionReassignmentsRequest", schemaTie AlterPartitionReassignmentsRequest.encSkel),
  ("ListPartitionReassignmentsRequest", schemaTie ListPartitionReassignmentsRequest.encSkel),
  ("MetadataResponse", schemaTie MetadataResponse.encSkel),
  ("OffsetCommitRequest", schemaTie OffsetCommitRequest.encSkel),
  ("FetchRequest", schemaTie FetchRequest.encSkel),
  ("OffsetResponse", schemaTie OffsetResponse.encSkel),
  ("OffsetFetchRequest", schemaTie OffsetFetchRequest.encSkel),
  ("ConsumerMetadataRequest", schemaTie ConsumerMetadataRequest.encSkel),
  ("ConsumerMetadataResponse", schemaTie ConsumerMetadataResponse.encSkel),
  ("JoinGroupRequest", schemaTie JoinGroupRequest.encSkel),
  ("SyncGroupRequest", schemaTie SyncGroupRequest.encSkel),
  ("DescribeGroupsResponse", schemaTie DescribeGroupsResponse.encSkel),
  ("ListGroupsRequest", schemaTie ListGroupsRequest.encSkel),
  ("ApiVersionsRequest", schemaTie ApiVersionsRequest.encSkel),
  ("CreateTopicsRequest", schemaTie CreateTopicsRequest.encSkel),
  ("DeleteRecordsRequest", schemaTie DeleteRecordsRequest.encSkel),
  ("DeleteRecordsResponse", schemaTie DeleteRecordsResponse.encSkel),
  ("AddPartitionsToTxnResponse", schemaTie AddPartitionsToTxnResponse.encSkel),
  ("TxnOffsetCommitRequest", schemaTie TxnOffsetCommitRequest.encSkel),
  ("DescribeAclsRequest", fun r => schemaTieUpTo 1 DescribeAclsRequest.encSkel r && !schemaTie DescribeAclsRequest.encSkel r),
  ("DescribeAclsResponse", fun r => schemaTieUpTo 1 DescribeAclsResponse.encSkel r && !schemaTie DescribeAclsResponse.encSkel r),
  ("CreateAclsRequest", fun r => schemaTieUpTo 1 CreateAclsRequest.encSkel r && !schemaTie CreateAclsRequest.encSkel r),
  ("CreateAclsResponse", schemaTie CreateAclsResponse.encSkel),
  ("DeleteAclsRequest", fun r => schemaTieUpTo 1 DeleteAclsRequest.encSkel r && !schemaTie DeleteAclsRequest.encSkel r),
  ("DeleteAclsResponse", fun r => schemaTieUpTo 1 DeleteAclsResponse.encSkel r && !schemaTie DeleteAclsResponse.encSkel r),
  ("AlterConfigsRequest", schemaTie AlterConfigsRequest.encSkel),
  ("AlterConfigsResponse", schemaTie AlterConfigsResponse.encSkel),
  ("IncrementalAlterConfigsRequest", schemaTie IncrementalAlterConfigsRequest.encSkel),
  ("IncrementalAlterConfigsResponse", schemaTie IncrementalAlterConfigsResponse.encSkel),
  ("DescribeConfigsRequest", schemaTie DescribeConfigsRequest.encSkel),
  ("DescribeConfigsResponse", schemaTie DescribeConfigsResponse.encSkel),
  ("DescribeLogDirsRequest", schemaTie DescribeLogDirsRequest.encSkel),
  ("DescribeLogDirsResponse", schemaTie DescribeLogDirsResponse.encSkel),
  ("AlterPartitionReassignmentsResponse", schemaTie AlterPartitionReassignmentsResponse.encSkel),
  ("ListPartitionReassignmentsResponse", schemaTie ListPartitionReassignmentsResponse.encSkel),
  ("DescribeUserScramCredentialsRequest", schemaTie DescribeUserScramCredentialsRequest.encSkel),
  ("DescribeUserScramCredentialsResponse", schemaTie DescribeUserScramCredentialsResponse.encSkel),
  ("AlterUserScramCredentialsRequest", schemaTie AlterUserScramCredentialsRequest.encSkel),
  ("AlterUserScramCredentialsResponse", schemaTie AlterUserScramCredentialsResponse.encSkel),
  ("ConsumerGroupMemberAssignment", schemaTie ConsumerGroupMemberAssignment.encSkel),
  ("CreatePartitionsRequest", schemaTie CreatePartitionsRequest.encSkel),
  ("ConsumerGroupMemberMetadata", schemaTie ConsumerGroupMemberMetadata.encSkel),
  ("Record", schemaTie Record.encSkel)]

theorem schemaChecks_first (s : String) : FirstNamed schemaChecks s (bodySchema s) := by
  unfold bodySchema bodySchema.match_1 schemaChecks
  repeat (refine .arm ?_ ?_; rotate_left)
  exact trivial
  all_goals decide +kernel

theorem schemaChecks_distinct : schemaChecks.Pairwise (·.1 ≠ ·.1) := by decide +kernel

theorem schemaChecks_hold (i : Nat) {name check} (h : schemaChecks[i]? = some (name, check)) :
    check (bodySchema name) = true :=
  FirstNamed.holds schemaChecks_first schemaChecks_distinct i h

theorem AddOffsetsToTxnRequest_schema : schemaTie AddOffsetsToTxnRequest.encSkel (bodySchema "AddOffsetsToTxnRequest") = true :=
  schemaChecks_hold 22 rfl
theorem AddOffsetsToTxnResponse_schema : schemaTie AddOffsetsToTxnResponse.encSkel (bodySchema "AddOffsetsToTxnResponse") = true :=
  schemaChecks_hold 23 rfl
theorem AddPartitionsToTxnRequest_schema : schemaTie AddPartitionsToTxnRequest.encSkel (bodySchema "AddPartitionsToTxnRequest") = true :=
  schemaChecks_hold 21 rfl
theorem AddPartitionsToTxnResponse_schema : schemaTie AddPartitionsToTxnResponse.encSkel (bodySchema "AddPartitionsToTxnResponse") = true :=
  schemaChecks_hold 51 rfl
theorem AlterConfigsRequest_schema : schemaTie AlterConfigsRequest.encSkel (bodySchema "AlterConfigsRequest") = true :=
  schemaChecks_hold 59 rfl
theorem AlterConfigsResponse_schema : schemaTie AlterConfigsResponse.encSkel (bodySchema "AlterConfigsResponse") = true :=
  schemaChecks_hold 60 rfl
theorem AlterPartitionReassignmentsRequest_schema : schemaTie AlterPartitionReassignmentsRequest.encSkel (bodySchema "AlterPartitionReassignmentsRequest") = true :=
  schemaChecks_hold 34 rfl
theorem AlterPartitionReassignmentsResponse_schema : schemaTie AlterPartitionReassignmentsResponse.encSkel (bodySchema "AlterPartitionReassignmentsResponse") = true :=
  schemaChecks_hold 67 rfl
theorem AlterUserScramCredentialsRequest_schema : schemaTie AlterUserScramCredentialsRequest.encSkel (bodySchema "AlterUserScramCredentialsRequest") = true :=
  schemaChecks_hold 71 rfl
theorem AlterUserScramCredentialsResponse_schema : schemaTie AlterUserScramCredentialsResponse.encSkel (bodySchema "AlterUserScramCredentialsResponse") = true :=
  schemaChecks_hold 72 rfl
theorem ApiVersionsRequest_schema : schemaTie ApiVersionsRequest.encSkel (bodySchema "ApiVersionsRequest") = true :=
  schemaChecks_hold 47 rfl
theorem ApiVersionsResponse_schema : schemaTie ApiVersionsResponse.encSkel (bodySchema "ApiVersionsResponse") = true :=
  schemaChecks_hold 8 rfl
theorem ConsumerGroupMemberAssignment_schema : schemaTie ConsumerGroupMemberAssignment.encSkel (bodySchema "ConsumerGroupMemberAssignment") = true :=
  schemaChecks_hold 73 rfl
theorem ConsumerGroupMemberMetadata_schema : schemaTie ConsumerGroupMemberMetadata.encSkel (bodySchema "ConsumerGroupMemberMetadata") = true :=
  schemaChecks_hold 75 rfl
theorem ConsumerMetadataRequest_schema : schemaTie ConsumerMetadataRequest.encSkel (bodySchema "ConsumerMetadataRequest") = true :=
  schemaChecks_hold 41 rfl
theorem ConsumerMetadataResponse_schema : schemaTie ConsumerMetadataResponse.encSkel (bodySchema "ConsumerMetadataResponse") = true :=
  schemaChecks_hold 42 rfl
theorem CreateAclsRequest_schema_upto : schemaTieUpTo 1 CreateAclsRequest.encSkel (bodySchema "CreateAclsRequest") = true :=
  (Bool.and_eq_true_iff.mp (schemaChecks_hold 55 rfl)).1
/-- beyond version 1 the skeleton and the schema part: Resource.encode tests `version == 1` for the pattern-type byte (the schema says: from version 1 on); versions above 1 are not implemented -/
theorem CreateAclsRequest_schema_beyond : schemaTie CreateAclsRequest.encSkel (bodySchema "CreateAclsRequest") = false :=
  (Bool.not_eq_true' _).mp (Bool.and_eq_true_iff.mp (schemaChecks_hold 55 rfl)).2
theorem CreateAclsResponse_schema : schemaTie CreateAclsResponse.encSkel (bodySchema "CreateAclsResponse") = true :=
  schemaChecks_hold 56 rfl
theorem CreatePartitionsRequest_schema : schemaTie CreatePartitionsRequest.encSkel (bodySchema "CreatePartitionsRequest") = true :=
  schemaChecks_hold 74 rfl
theorem CreatePartitionsResponse_schema : schemaTie CreatePartitionsResponse.encSkel (bodySchema "CreatePartitionsResponse") = true :=
  schemaChecks_hold 15 rfl
theorem CreateTopicsRequest_schema : schemaTie CreateTopicsRequest.encSkel (bodySchema "CreateTopicsRequest") = true :=
  schemaChecks_hold 48 rfl
theorem CreateTopicsResponse_schema : schemaTie CreateTopicsResponse.encSkel (bodySchema "CreateTopicsResponse") = true :=
  schemaChecks_hold 31 rfl
theorem DeleteAclsRequest_schema_upto : schemaTieUpTo 1 DeleteAclsRequest.encSkel (bodySchema "DeleteAclsRequest") = true :=
  (Bool.and_eq_true_iff.mp (schemaChecks_hold 57 rfl)).1
/-- beyond version 1 the skeleton and the schema part: AclFilter tests `Version == 1` for the pattern-type byte (the schema says: from version 1 on); versions above 1 are not implemented -/
theorem DeleteAclsRequest_schema_beyond : schemaTie DeleteAclsRequest.encSkel (bodySchema "DeleteAclsRequest") = false :=
  (Bool.not_eq_true' _).mp (Bool.and_eq_true_iff.mp (schemaChecks_hold 57 rfl)).2
theorem DeleteAclsResponse_schema_upto : schemaTieUpTo 1 DeleteAclsResponse.encSkel (bodySchema "DeleteAclsResponse") = true :=
  (Bool.and_eq_true_iff.mp (schemaChecks_hold 58 rfl)).1
/-- beyond version 1 the skeleton and the schema part: Resource.encode tests `version == 1` for the pattern-type byte (the schema says: from version 1 on); versions above 1 are not implemented -/
theorem DeleteAclsResponse_schema_beyond : schemaTie DeleteAclsResponse.encSkel (bodySchema "DeleteAclsResponse") = false :=
  (Bool.not_eq_true' _).mp (Bool.and_eq_true_iff.mp (schemaChecks_hold 58 rfl)).2
theorem DeleteGroupsRequest_schema : schemaTie DeleteGroupsRequest.encSkel (bodySchema "DeleteGroupsRequest") = true :=
  schemaChecks_hold 29 rfl
theorem DeleteGroupsResponse_schema : schemaTie DeleteGroupsResponse.encSkel (bodySchema "DeleteGroupsResponse") = true :=
  schemaChecks_hold 30 rfl
theorem DeleteRecordsRequest_schema : schemaTie DeleteRecordsRequest.encSkel (bodySchema "DeleteRecordsRequest") = true :=
  schemaChecks_hold 49 rfl
theorem DeleteRecordsResponse_schema : schemaTie DeleteRecordsResponse.encSkel (bodySchema "DeleteRecordsResponse") = true :=
  schemaChecks_hold 50 rfl
theorem DeleteTopicsRequest_schema : schemaTie DeleteTopicsRequest.encSkel (bodySchema "DeleteTopicsRequest") = true :=
  schemaChecks_hold 10 rfl
theorem DeleteTopicsResponse_schema : schemaTie DeleteTopicsResponse.encSkel (bodySchema "DeleteTopicsResponse") = true :=
  schemaChecks_hold 11 rfl
theorem DescribeAclsRequest_schema_upto : schemaTieUpTo 1 DescribeAclsRequest.encSkel (bodySchema "DescribeAclsRequest") = true :=
  (Bool.and_eq_true_iff.mp (schemaChecks_hold 53 rfl)).1
/-- beyond version 1 the skeleton and the schema part: AclFilter tests `Version == 1` for the pattern-type byte (the schema says: from version 1 on); versions above 1 are not implemented -/
theorem DescribeAclsRequest_schema_beyond : schemaTie DescribeAclsRequest.encSkel (bodySchema "DescribeAclsRequest") = false :=
  (Bool.not_eq_true' _).mp (Bool.and_eq_true_iff.mp (schemaChecks_hold 53 rfl)).2
theorem DescribeAclsResponse_schema_upto : schemaTieUpTo 1 DescribeAclsResponse.encSkel (bodySchema "DescribeAclsResponse") = true :=
  (Bool.and_eq_true_iff.mp (schemaChecks_hold 54 rfl)).1
/-- beyond version 1 the skeleton and the schema part: Resource.encode tests `version == 1` for the pattern-type byte (the schema says: from version 1 on); versions above 1 are not implemented -/
theorem DescribeAclsResponse_schema_beyond : schemaTie DescribeAclsResponse.encSkel (bodySchema "DescribeAclsResponse") = false :=
  (Bool.not_eq_true' _).mp (Bool.and_eq_true_iff.mp (schemaChecks_hold 54 rfl)).2
theorem DescribeConfigsRequest_schema : schemaTie DescribeConfigsRequest.encSkel (bodySchema "DescribeConfigsRequest") = true :=
  schemaChecks_hold 63 rfl
theorem DescribeConfigsResponse_schema : schemaTie DescribeConfigsResponse.encSkel (bodySchema "DescribeConfigsResponse") = true :=
  schemaChecks_hold 64 rfl
theorem DescribeGroupsRequest_schema : schemaTie DescribeGroupsRequest.encSkel (bodySchema "DescribeGroupsRequest") = true :=
  schemaChecks_hold 24 rfl
theorem DescribeGroupsResponse_schema : schemaTie DescribeGroupsResponse.encSkel (bodySchema "DescribeGroupsResponse") = true :=
  schemaChecks_hold 45 rfl
theorem DescribeLogDirsRequest_schema : schemaTie DescribeLogDirsRequest.encSkel (bodySchema "DescribeLogDirsRequest") = true :=
  schemaChecks_hold 65 rfl
theorem DescribeLogDirsResponse_schema : schemaTie DescribeLogDirsResponse.encSkel (bodySchema "DescribeLogDirsResponse") = true :=
  schemaChecks_hold 66 rfl
theorem DescribeUserScramCredentialsRequest_schema : schemaTie DescribeUserScramCredentialsRequest.encSkel (bodySchema "DescribeUserScramCredentialsRequest") = true :=
  schemaChecks_hold 69 rfl
theorem DescribeUserScramCredentialsResponse_schema : schemaTie DescribeUserScramCredentialsResponse.encSkel (bodySchema "DescribeUserScramCredentialsResponse") = true :=
  schemaChecks_hold 70 rfl
theorem EndTxnRequest_schema : schemaTie EndTxnRequest.encSkel (bodySchema "EndTxnRequest") = true :=
  schemaChecks_hold 12 rfl
theorem EndTxnResponse_schema : schemaTie EndTxnResponse.encSkel (bodySchema "EndTxnResponse") = true :=
  schemaChecks_hold 13 rfl
theorem FetchRequest_schema : schemaTie FetchRequest.encSkel (bodySchema "FetchRequest") = true :=
  schemaChecks_hold 38 rfl
theorem FindCoordinatorRequest_schema : schemaTie FindCoordinatorRequest.encSkel (bodySchema "FindCoordinatorRequest") = true :=
  schemaChecks_hold 3 rfl
theorem FindCoordinatorResponse_schema : schemaTie FindCoordinatorResponse.encSkel (bodySchema "FindCoordinatorResponse") = true :=
  schemaChecks_hold 4 rfl
theorem HeartbeatRequest_schema : schemaTie HeartbeatRequest.encSkel (bodySchema "HeartbeatRequest") = true :=
  schemaChecks_hold 0 rfl
theorem HeartbeatResponse_schema : schemaTie HeartbeatResponse.encSkel (bodySchema "HeartbeatResponse") = true :=
  schemaChecks_hold 1 rfl
theorem IncrementalAlterConfigsRequest_schema : schemaTie IncrementalAlterConfigsRequest.encSkel (bodySchema "IncrementalAlterConfigsRequest") = true :=
  schemaChecks_hold 61 rfl
theorem IncrementalAlterConfigsResponse_schema : schemaTie IncrementalAlterConfigsResponse.encSkel (bodySchema "IncrementalAlterConfigsResponse") = true :=
  schemaChecks_hold 62 rfl
theorem InitProducerIDRequest_schema : schemaTie InitProducerIDRequest.encSkel (bodySchema "InitProducerIDRequest") = true :=
  schemaChecks_hold 5 rfl
theorem InitProducerIDResponse_schema : schemaTie InitProducerIDResponse.encSkel (bodySchema "InitProducerIDResponse") = true :=
  schemaChecks_hold 6 rfl
theorem JoinGroupRequest_schema : schemaTie JoinGroupRequest.encSkel (bodySchema "JoinGroupRequest") = true :=
  schemaChecks_hold 43 rfl
theorem JoinGroupResponse_schema : schemaTie JoinGroupResponse.encSkel (bodySchema "JoinGroupResponse") = true :=
  schemaChecks_hold 32 rfl
theorem LeaveGroupRequest_schema : schemaTie LeaveGroupRequest.encSkel (bodySchema "LeaveGroupRequest") = true :=
  schemaChecks_hold 17 rfl
theorem LeaveGroupResponse_schema : schemaTie LeaveGroupResponse.encSkel (bodySchema "LeaveGroupResponse") = true :=
  schemaChecks_hold 18 rfl
theorem ListGroupsRequest_schema : schemaTie ListGroupsRequest.encSkel (bodySchema "ListGroupsRequest") = true :=
  schemaChecks_hold 46 rfl
theorem ListGroupsResponse_schema : schemaTie ListGroupsResponse.encSkel (bodySchema "ListGroupsResponse") = true :=
  schemaChecks_hold 16 rfl
theorem ListPartitionReassignmentsRequest_schema : schemaTie ListPartitionReassignmentsRequest.encSkel (bodySchema "ListPartitionReassignmentsRequest") = true :=
  schemaChecks_hold 35 rfl
theorem ListPartitionReassignmentsResponse_schema : schemaTie ListPartitionReassignmentsResponse.encSkel (bodySchema "ListPartitionReassignmentsResponse") = true :=
  schemaChecks_hold 68 rfl
theorem MetadataRequest_schema : schemaTie MetadataRequest.encSkel (bodySchema "MetadataRequest") = true :=
  schemaChecks_hold 2 rfl
theorem MetadataResponse_schema : schemaTie MetadataResponse.encSkel (bodySchema "MetadataResponse") = true :=
  schemaChecks_hold 36 rfl
theorem OffsetCommitRequest_schema : schemaTie OffsetCommitRequest.encSkel (bodySchema "OffsetCommitRequest") = true :=
  schemaChecks_hold 37 rfl
theorem OffsetCommitResponse_schema : schemaTie OffsetCommitResponse.encSkel (bodySchema "OffsetCommitResponse") = true :=
  schemaChecks_hold 7 rfl
theorem OffsetFetchRequest_schema : schemaTie OffsetFetchRequest.encSkel (bodySchema "OffsetFetchRequest") = true :=
  schemaChecks_hold 40 rfl
theorem OffsetFetchResponse_schema : schemaTie OffsetFetchResponse.encSkel (bodySchema "OffsetFetchResponse") = true :=
  schemaChecks_hold 33 rfl
theorem OffsetRequest_schema : schemaTie OffsetRequest.encSkel (bodySchema "OffsetRequest") = true :=
  schemaChecks_hold 20 rfl
theorem OffsetResponse_schema : schemaTie OffsetResponse.encSkel (bodySchema "OffsetResponse") = true :=
  schemaChecks_hold 39 rfl
theorem ProduceResponse_schema : schemaTie ProduceResponse.encSkel (bodySchema "ProduceResponse") = true :=
  schemaChecks_hold 9 rfl
theorem Record_schema : schemaTie Record.encSkel (bodySchema "Record") = true :=
  schemaChecks_hold 76 rfl
theorem SaslAuthenticateRequest_schema : schemaTie SaslAuthenticateRequest.encSkel (bodySchema "SaslAuthenticateRequest") = true :=
  schemaChecks_hold 27 rfl
theorem SaslAuthenticateResponse_schema : schemaTie SaslAuthenticateResponse.encSkel (bodySchema "SaslAuthenticateResponse") = true :=
  schemaChecks_hold 28 rfl
theorem SaslHandshakeRequest_schema : schemaTie SaslHandshakeRequest.encSkel (bodySchema "SaslHandshakeRequest") = true :=
  schemaChecks_hold 25 rfl
theorem SaslHandshakeResponse_schema : schemaTie SaslHandshakeResponse.encSkel (bodySchema "SaslHandshakeResponse") = true :=
  schemaChecks_hold 26 rfl
theorem SyncGroupRequest_schema : schemaTie SyncGroupRequest.encSkel (bodySchema "SyncGroupRequest") = true :=
  schemaChecks_hold 44 rfl
theorem SyncGroupResponse_schema : schemaTie SyncGroupResponse.encSkel (bodySchema "SyncGroupResponse") = true :=
  schemaChecks_hold 19 rfl
theorem TxnOffsetCommitRequest_schema : schemaTie TxnOffsetCommitRequest.encSkel (bodySchema "TxnOffsetCommitRequest") = true :=
  schemaChecks_hold 52 rfl
theorem TxnOffsetCommitResponse_schema : schemaTie TxnOffsetCommitResponse.encSkel (bodySchema "TxnOffsetCommitResponse") = true :=
  schemaChecks_hold 14 rfl

end Bridge.C09Skel
