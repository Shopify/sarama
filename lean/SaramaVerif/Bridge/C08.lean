import SaramaVerif.Gen.C08
import SaramaVerif.Model.BalanceStickyPieces
/-
  Bridge obligations for C08: what the translator can take from balance_strategy.go (loop-free, integer/boolean).
  The strategies themselves are loops over maps and slices, and the range bounds are float arithmetic — those are
  tied by differential execution (harness) instead; see lib/props_C08.py.
-/
namespace Bridge.C08
open Model.Balance

/-- the generation key for user data without generation -/
theorem defaultGeneration_eq : Gen.C08.defaultGeneration = Model.Balance.defaultGeneration := rfl

/-- the regenerated `canTopicPartitionParticipateInReassignment` is the model's test on the number of potential
    consumers -/
theorem canTopicPartitionParticipate_eq (pot : Asg) (p : TP) :
    Gen.C08.canTopicPartitionParticipate ((consumersOf pot p).length : Int) = canPartitionParticipate pot p := by
  unfold Gen.C08.canTopicPartitionParticipate canPartitionParticipate
  simp only [ge_iff_le, decide_eq_decide]
  omega

end Bridge.C08
