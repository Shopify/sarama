import SaramaVerif.Gen.C03
import SaramaVerif.Model.ConsumerParse
/-
  Bridge obligations for C03 (and the parse model shared with C11): the loop-free fragments of consumer.go
  (the regenerated `Gen.C03.*`) compute what the hand-written model computes, for all inputs in the
  ranges of the Go types (offsets are int64 values that do not overflow: the model uses unbounded integers).
  The loops themselves (`range batch.Records`, `range block.RecordsSet`, the aborted-index loop with `break`,
  the `continue` filters) are outside the translator and tied by differential execution.
-/
namespace Bridge.C03
open Go Model.ConsumerParse

theorem offsetNewest_eq : Gen.C03.offsetNewest = offsetNewest := rfl
theorem offsetOldest_eq : Gen.C03.offsetOldest = offsetOldest := rfl

/-- the `switch` of chooseStartingOffset is the model's decision table
    (`nilErr`/`eOOR` are the opaque values of `nil` and `ErrOffsetOutOfRange`; the offset is left alone on error) -/
theorem chooseStart_eq (offset newest oldest cur nilErr eOOR : Int) :
    Gen.C03.chooseStart offset newest oldest cur nilErr eOOR =
      match chooseStart offset newest oldest with
      | some o => (nilErr, o)
      | none => (eOOR, cur) := by
  unfold Gen.C03.chooseStart chooseStart offsetNewest offsetOldest
  by_cases h1 : offset = -1
  · simp only [h1, ↓reduceIte]
  · by_cases h2 : offset = -2
    · simp only [h2, ↓reduceIte]; rfl
    · by_cases h3 : offset ≥ oldest ∧ offset ≤ newest
      · simp only [h1, h2, h3, and_self, ↓reduceIte]
      · simp only [h1, h2, h3, ↓reduceIte]

/-- the partial-trailing-message block of parseResponse (fetch-size doubling with the int32 overflow check, the
    Fetch.Max cap, the ErrMessageTooLarge skip) is what `parseBlock` does on a data block without records -/
theorem partialTrailing_eq (cfg : Cfg) (st : PState) (es : List Entry) (ab : List (Int × Int)) (pt : Bool)
    (hn : nRecs es = 0) (ho : InI64 (st.offset + 1)) :
    Gen.C03.partialTrailing pt cfg.fetchMax st.fetchSize st.offset 2147483647 =
      ((parseBlock cfg st (.data es pt ab)).2.1.offset, (parseBlock cfg st (.data es pt ab)).2.1.fetchSize) := by
  rw [Gen.C03.partialTrailing, parseBlock, if_pos hn]
  cases pt
  · rfl
  · rw [if_pos rfl, if_pos rfl]
    by_cases h : cfg.fetchMax > 0 ∧ st.fetchSize = cfg.fetchMax
    · rw [if_pos h, if_pos h]
      exact congrArg (·, st.fetchSize) (add64_id ho)
    · rw [if_neg h, if_neg h, growFetch]
      by_cases h2 : mul32 st.fetchSize 2 < 0
      · simp only [h2, ↓reduceIte]
        split <;> rfl
      · simp only [h2, ↓reduceIte]
        split <;> rfl

/-- `offset := batch.FirstOffset + rec.OffsetDelta` is the absolute offset `batchRecs` assigns -/
theorem recordOffset_eq (base delta o0 : Int) (h : InI64 (base + delta)) :
    Gen.C03.recordOffset base delta o0 = base + delta :=
  add64_id h

/-- `child.offset = offset + 1` (parseRecords and parseMessages) is the `r.off + 1` of `scan` -/
theorem recordAdvance_eq (offset cur : Int) (h : InI64 (offset + 1)) :
    Gen.C03.recordAdvance offset cur = offset + 1 ∧ Gen.C03.messageAdvance offset cur = offset + 1 :=
  ⟨add64_id h, add64_id h⟩

/-- `if len(messages) == 0 { child.offset++ }` (parseRecords and parseMessages) is `bump` -/
theorem bump_eq (msgs : List SRec) (cur : Int) (h : InI64 (cur + 1)) :
    Gen.C03.recordsBump msgs.length cur = (bump (msgs, cur)).2 ∧
    Gen.C03.messagesBump msgs.length cur = (bump (msgs, cur)).2 := by
  unfold Gen.C03.recordsBump Gen.C03.messagesBump bump
  cases msgs with
  | nil => simp [add64_id h]
  | cons m ms =>
    have : ((ms.length : Int) + 1 = 0) ↔ False := ⟨fun h => by omega, fun h => h.elim⟩
    simp [this]

/-- the version-1 branch of parseMessages (rebasing of relative inner offsets on the wrapper, log-append
    timestamp) is `innerRec` of ONE of the two model variants: the pinned tree decides by the inner message's
    attribute (`tsFromWrapper = false`), a tree with the timestamp rule of KIP-32 by the wrapper's -/
theorem legacyRebase_eq :
    (∀ (blk : LBlock) (last : Int) (m : LMsg), InI64 (blk.off - last) → InI64 (m.off + (blk.off - last)) →
      Gen.C03.legacyRebase m.ver blk.off last m.off m.logAppend blk.logAppend m.ts blk.ts =
        ((innerRec false blk last m).off, (innerRec false blk last m).ts)) ∨
    (∀ (blk : LBlock) (last : Int) (m : LMsg), InI64 (blk.off - last) → InI64 (m.off + (blk.off - last)) →
      Gen.C03.legacyRebase m.ver blk.off last m.off m.logAppend blk.logAppend m.ts blk.ts =
        ((innerRec true blk last m).off, (innerRec true blk last m).ts)) := by
  -- the disjunct of the variant `Gen.C03.legacyRebase` was generated from: the wrapper's rule is tried first,
  -- then the inner message's
  first
  | refine Or.inr (fun blk last m h1 h2 => ?_)
    unfold Gen.C03.legacyRebase innerRec
    simp only [sub64_id h1, add64_id h2]
    by_cases hv : m.ver ≥ 1 <;> cases hl : blk.logAppend <;> simp [hv]
    done
  | refine Or.inl (fun blk last m h1 h2 => ?_)
    unfold Gen.C03.legacyRebase innerRec
    simp only [sub64_id h1, add64_id h2]
    by_cases hv : m.ver ≥ 1 <;> cases hl : m.logAppend <;> simp [hv]
    done

end Bridge.C03
