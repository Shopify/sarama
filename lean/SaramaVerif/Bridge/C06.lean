import SaramaVerif.Gen.C06
import SaramaVerif.Model.OffsetMgr
/-
  Bridge obligations for C06: the definitions regenerated from offset_manager.go (`Gen.C06.*`)
  compute what the hand-written model's field-level transition functions compute, on all inputs.
  offset is int64, metadata strings are opaque values (only copied and compared), so no range hypotheses
  are needed: the functions contain comparisons and copies only.
-/
namespace Bridge.C06
open Model.OffsetMgr

theorem markOffset_eq (pOffset pMeta : Int) (pDirty : Bool) (offset metadata : Int) :
    Gen.C06.markOffset pOffset pMeta pDirty offset metadata = markOffset pOffset pMeta pDirty offset metadata :=
  rfl

theorem resetOffset_eq (pOffset pMeta : Int) (pDirty : Bool) (offset metadata : Int) :
    Gen.C06.resetOffset pOffset pMeta pDirty offset metadata = resetOffset pOffset pMeta pDirty offset metadata :=
  rfl

theorem updateCommitted_eq (pOffset pMeta : Int) (pDirty : Bool) (offset metadata : Int) :
    Gen.C06.updateCommitted pOffset pMeta pDirty offset metadata =
      (pOffset, pMeta, updateCommitted pOffset pMeta pDirty offset metadata) := by
  unfold Gen.C06.updateCommitted updateCommitted
  split <;> rfl

/-- `NextOffset` (the empty string is the metadata code 0) -/
theorem nextOffset_eq (pOffset pMeta initial : Int) :
    Gen.C06.nextOffset pOffset pMeta initial 0 = nextOffset pOffset pMeta initial :=
  rfl

theorem asyncClose_eq (pDone : Bool) : Gen.C06.asyncClose pDone = true := rfl

/-- `rd` is the value the Go variable `releaseDue` has before the fragment assigns it -/
theorem releaseDue_eq (pDone force pDirty rd : Bool) :
    Gen.C06.releaseDue pDone force pDirty rd = releaseDue pDone force pDirty := by
  unfold Gen.C06.releaseDue releaseDue
  cases pDone <;> cases force <;> cases pDirty <;> rfl

/-- `constructRequest` adds a block for a partition exactly when it is dirty (the statement that adds the
    block — `r.AddBlock(pom.topic, pom.partition, pom.offset, perPartitionTimestamp, pom.metadata)` — is
    matched literally by the extractor, so a change of its arguments breaks the extraction).  The fragment has the
    flag `added` in place of that statement: `false` before, set to `addedNow = true` where the statement stands. -/
theorem snapshotIf_eq (pDirty : Bool) : Gen.C06.snapshotIf pDirty false true = pDirty := by
  unfold Gen.C06.snapshotIf
  cases pDirty <;> rfl

/-- the case labels of `switch err` in handleResponse are the model's table -/
theorem respCases_eq : Gen.C06.respCases = respCases := rfl

/-- `pstep` changes the fields of a partition by exactly these functions: here and in the four `pstep_*` theorems
    that follow; `nextAnswer_eq` says the same of what `NextOffset` reports -/
theorem pstep_mark_fields (p : PState) (o m : Int) (h : p.obj = true) :
    ((pstep p (.mark o m)).offset, (pstep p (.mark o m)).md, (pstep p (.mark o m)).dirty) =
      Gen.C06.markOffset p.offset p.md p.dirty o m := by
  rw [markOffset_eq]
  simp only [pstep, markOffset, h, true_and]
  split <;> rfl

theorem pstep_reset_fields (p : PState) (o m : Int) (h : p.obj = true) :
    ((pstep p (.reset o m)).offset, (pstep p (.reset o m)).md, (pstep p (.reset o m)).dirty) =
      Gen.C06.resetOffset p.offset p.md p.dirty o m := by
  rw [resetOffset_eq]
  simp only [pstep, resetOffset, h, true_and]
  split <;> rfl

/-- the successful end of a commit attempt applies updateCommitted with the block of the request -/
theorem pstep_verdict_ok_fields (p : PState) (c : Pair) (h : p.inflight = some c) :
    ((pstep p (.verdict .ok)).offset, (pstep p (.verdict .ok)).md, (pstep p (.verdict .ok)).dirty) =
      Gen.C06.updateCommitted p.offset p.md p.dirty c.1 c.2 := by
  rw [updateCommitted_eq]
  simp only [pstep, h]

theorem pstep_release_live (p : PState) (f rd : Bool) (h : p.live = true) (hi : p.inflight = none) :
    (pstep p (.release f)).live = !(Gen.C06.releaseDue p.done f p.dirty rd) := by
  rw [releaseDue_eq]
  simp only [pstep, h, hi, true_and, and_true]
  -- what remains of `pstep`'s guard is the test of `releaseDue`: `live` is cleared exactly if it holds
  split
  · rename_i hd; simp [hd]
  · rename_i hd; simp at hd; simp [hd, h]

/-- constructRequest visits a registered partition with nothing in flight -/
theorem pstep_snap_block (p : PState) (h : p.live = true) (hi : p.inflight = none) :
    (pstep p .snap).inflight.isSome = Gen.C06.snapshotIf p.dirty false true := by
  rw [snapshotIf_eq]
  simp only [pstep, h, true_and]
  -- what remains of `pstep`'s guard is the test of `dirty`: a block goes in flight exactly if it holds
  split
  · rename_i hd; simp [hd]
  · rename_i hd; simp at hd; simp [hd, hi]

theorem nextAnswer_eq (s : Sys) (i : Nat) (ini : Int) (q : PState) (h : s.parts[i]? = some q) (ho : q.obj = true) :
    nextAnswer s i ini = some (Gen.C06.nextOffset q.offset q.md ini 0) := by
  rw [nextOffset_eq]
  simp [nextAnswer, h, ho]

/-- reading of the ghost variable `told` (last error handed to the partition): `told0` = none yet,
    `eInc` = ErrIncompleteResponse, a KError = its code -/
def encTold (told0 eInc : Int) : Option Err → Int
  | some .incomplete => eInc
  | some (.code k) => k
  | _ => told0

/-- `classify`, a lookup in the label table `respCases`, as the chain of comparisons in which `Gen.C06.respBody` has
    the `switch err` of handleResponse (3, ErrUnknownTopicOrPartition, falls through into default) -/
private theorem classify_cases (k : Int) :
    classify k =
      if k = 0 then .commit
      else if ((k = 6 ∨ k = 5) ∨ k = 15) ∨ k = 16 then .redispatch
      else if k = 12 ∨ k = 28 then .tellUser
      else if k = 14 then .nothing
      else .tellRedispatch := by
  by_cases h0 : k = 0; · subst h0; decide
  by_cases h6 : k = 6; · subst h6; decide
  by_cases h5 : k = 5; · subst h5; decide
  by_cases h15 : k = 15; · subst h15; decide
  by_cases h16 : k = 16; · subst h16; decide
  by_cases h12 : k = 12; · subst h12; decide
  by_cases h28 : k = 28; · subst h28; decide
  by_cases h14 : k = 14; · subst h14; decide
  by_cases h3 : k = 3; · subst h3; decide
  simp [classify, clauseOf, respCases, h0, h6, h5, h15, h16, h12, h28, h14, h3]

/-- a partition that is not in the request is skipped: `continue`, no effect -/
theorem respBody_not_in_request (topicMissing present : Bool) (code told0 : Int) (released0 committed0 : Bool)
    (eInc errTold : Int) (relNow comNow : Bool) :
    Gen.C06.respBody true topicMissing present code told0 released0 committed0 eInc errTold relNow comNow =
      (1, told0, released0, committed0) := by
  simp [Gen.C06.respBody]

/-- For a partition that is in the request, the body of handleResponse's loop — missing topic, missing
    partition entry, and every clause of `switch err` incl. the fallthrough of ErrUnknownTopicOrPartition
    into default — does exactly what the model's `verdictEffects` says: whether updateCommitted is called
    (with the request's block: the call statement is matched literally), whether the coordinator is
    released, which error is handed to the partition; exit code 1 (`continue`) exactly for a missing entry.
    The fragment has flags and `told` in place of those three statements: `false`, `false`, `told0` before, set to
    `comNow = relNow = true` and to `errTold = code` where the statements stand. -/
theorem respBody_in_request (topicMissing present : Bool) (code told0 eInc : Int) :
    Gen.C06.respBody false topicMissing present code told0 false false eInc code true true =
      ((if topicMissing = true ∨ present = false then 1 else 0),
       encTold told0 eInc
         (verdictEffects (if topicMissing = true ∨ present = false then .missing else .code code)).2.2,
       (verdictEffects (if topicMissing = true ∨ present = false then .missing else .code code)).2.1,
       (verdictEffects (if topicMissing = true ∨ present = false then .missing else .code code)).1) := by
  -- a missing topic or entry leaves no `code` to look at: three of the four cases close by evaluation
  cases topicMissing <;> cases present <;>
    simp only [Gen.C06.respBody, Bool.false_eq_true, ↓reduceIte, not_true_eq_false, not_false_eq_true,
      or_true, false_or, true_or, verdictEffects, encTold]
  -- the entry is present: with `classify_cases` both sides are chains over the same comparisons, one case per clause
  simp only [Bool.true_eq_false, ↓reduceIte]
  rw [classify_cases]
  by_cases h0 : code = 0
  · simp [h0]
  by_cases hr : ((code = 6 ∨ code = 5) ∨ code = 15) ∨ code = 16
  · simp [h0, hr]
  by_cases ht : code = 12 ∨ code = 28
  · simp [h0, hr, ht]
  by_cases hn : code = 14
  · simp [hn]
  by_cases h3 : code = 3
  · simp [h3]
  · simp [h0, hr, ht, hn, h3]

/-- The model's reply step is made of the three components of `verdictEffects`, which `respBody_in_request` ties to
    the code (this theorem and the next two).  First component: the attempt succeeds for the partition. -/
theorem pverdictFor_respond (vs : List Verdict) (i : Nat) :
    pverdictFor (.respond vs) i = if (verdictEffects (verdictAt vs i)).1 = true then .ok else .fail := by
  simp only [pverdictFor, verdictEffects]
  cases verdictAt vs i with
  | missing => rfl
  | code k => cases h : classify k <;> simp [h]

/-- second component of `verdictEffects`: the cached coordinator is dropped if some partition in the request asks
    for it -/
theorem replyDrops_respond (parts : List PState) (vs : List Verdict) :
    replyDrops parts (.respond vs) =
      parts.zipIdx.any fun (p, i) => p.inflight.isSome && (verdictEffects (verdictAt vs i)).2.1 := by
  simp only [replyDrops]
  congr 1
  funext ⟨p, i⟩
  simp only [verdictEffects]
  cases verdictAt vs i with
  | missing => rfl
  | code k => dsimp only; cases classify k <;> rfl

/-- third component of `verdictEffects`: the error handed to each partition in the request -/
theorem stepErrs_respond (s : Sys) (vs : List Verdict) (h : s.active = true) :
    stepErrs s (.reply (.respond vs)) =
      s.parts.zipIdx.map fun (p, i) =>
        if p.inflight.isSome then (verdictEffects (verdictAt vs i)).2.2.toList else [] := by
  simp only [stepErrs, h, ↓reduceIte]
  congr 1
  funext ⟨p, i⟩
  simp only [verdictEffects]
  cases verdictAt vs i with
  | missing => rfl
  | code k => dsimp only; cases classify k <;> rfl

/-- the case labels of `switch block.Err` in fetchInitialOffset (NoError / coordinator moved / loading) are
    the model's table; what the retry loop around it does is tied by correspondence (fault scripts that
    outlast Metadata.Retry.Max) — it contains recursion and a select the translator does not take -/
theorem fetchCases_eq : Gen.C06.fetchCases = fetchCases := rfl

end Bridge.C06
