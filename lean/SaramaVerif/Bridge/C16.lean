import SaramaVerif.Gen.C16
import SaramaVerif.Model.ProduceSet
import SaramaVerif.Lemmas.C16Sets
/-
  Bridge obligations for C16: the definitions regenerated from produce_set.go / async_producer.go
  (Gen.C16.*) compute what the hand-written model computes, on all inputs in the Go types' ranges.
  Loops (the header loops of byteSize and add) are tied through their extracted bodies folded over the list;
  that the loops visit every header once and the control flow of `add` between the extracted fragments are
  tied by the differential run of the harness.  The constants maximumRecordOverhead (through
  binary.MaxVarintLen32/64) and the initial value of MaxRequestSize are extracted.
-/
namespace Bridge.C16
open Go Model.ProduceSet Lemmas.C16

theorem producerMessageOverhead_eq : Gen.C16.producerMessageOverhead = producerMessageOverhead := rfl
theorem recordBatchOverhead_eq : Gen.C16.recordBatchOverhead = recordBatchOverhead := rfl
theorem maximumRecordOverhead_eq : Gen.C16.maximumRecordOverhead = maximumRecordOverhead := rfl
theorem maxRequestSizeDefault_eq : Gen.C16.maxRequestSizeDefault = defaultMaxRequestSize := rfl

/-- the extracted function returns its `version` local beside the verdict, at every leaf of the guard chain -/
private theorem ite_pair {P : Prop} [Decidable P] (a b : Bool) (v : Int) :
    (if P then (a, v) else (b, v)) = (if P then a else b, v) :=
  (apply_ite (·, v) P a b).symm

/-- `produceSet.wouldOverflow` is the model's predicate; the `version` it passes to byteSize is `sizeVersion`.
    `tPresent`/`pPresent` are the two nil tests on the nested map, `pbb` the partition set's bufferBytes when it
    exists; `v0` is the value the `version` local has on entry, assigned before it is read, so any value does. -/
theorem wouldOverflow_eq (c : Conf) (s : State) (m : Msg) (tPresent pPresent : Bool) (pbb v0 : Int)
    (hpres : (tPresent = true ∧ pPresent = true) ↔ (lookup m.tp s.parts).isSome = true)
    (hpbb : ∀ p, lookup m.tp s.parts = some p → pbb = p.bufferBytes)
    (h1 : InI64 (s.bufferBytes + byteSize (sizeVersion c) m))
    (h2 : InI64 (pbb + byteSize (sizeVersion c) m))
    (h3 : InI32 (c.maxRequestSize - 10 * 1024)) :
    Gen.C16.wouldOverflow c.v2 s.bufferBytes (byteSize (sizeVersion c) m) c.maxRequestSize tPresent pPresent pbb
      c.maxMessageBytes c.maxMessages s.bufferCount v0 = (wouldOverflow c s m, sizeVersion c) := by
  -- the two nil tests and the partition's bytes are the model's lookup
  have hpart : ((tPresent = true ∧ pPresent = true) ∧ pbb + byteSize (sizeVersion c) m ≥ c.maxMessageBytes) ↔
      (match partBytes s m.tp with
       | some b => decide (b + byteSize (sizeVersion c) m ≥ c.maxMessageBytes)
       | none => false) = true := by
    unfold partBytes
    cases hl : lookup m.tp s.parts with
    | none => simp [hpres, hl]
    | some p => simp [hpres, hl, hpbb p hl]
  unfold Gen.C16.wouldOverflow wouldOverflow safetyMargin
  rw [add64_id h1, add64_id h2, sub32_id h3]
  simp only [hpart, Int.reduceMul]
  cases hc2 : c.v2 <;> simp only [sizeVersion, hc2, Bool.false_eq_true, ↓reduceIte, ite_pair] <;> rfl

theorem readyToFlush_eq (c : Conf) (s : State) :
    Gen.C16.readyToFlush (isEmpty s) c.flushFrequency c.flushBytes c.flushMessages s.bufferCount s.bufferBytes
      = readyToFlush c s := by
  unfold Gen.C16.readyToFlush readyToFlush
  simp only [and_assoc]

theorem empty_eq (s : State) : Gen.C16.empty s.bufferCount = isEmpty s := rfl

/-- the header loop body of byteSize / add, folded over the headers -/
def hdrFold (step : Int → Int → Int → Int) (size : Int) : List (Nat × Nat) → Int
  | [] => size
  | h :: t => hdrFold step (step size h.1 h.2) t

private theorem hdrFold_eq (step : Int → Int → Int → Int)
    (hstep : ∀ size hk hv, step size hk hv = add64 size (add64 (add64 hk hv) (2 * 5)))
    (hs : List (Nat × Nat)) (size : Int) (h0 : 0 ≤ size) (hr : size + headersSize hs ≤ 9223372036854775807) :
    hdrFold step size hs = size + headersSize hs := by
  induction hs generalizing size with
  | nil => simp [hdrFold, headersSize]
  | cons a t ih =>
    have hn := headersSize_nonneg t
    simp only [headersSize, maxVarintLen32] at hr ⊢
    simp (disch := omega) only [hdrFold, hstep, Int.reduceMul, add64_nn]
    rw [ih _ (by omega) (by omega)]
    omega

/-- `size += len` under a nil test, twice (key and value): a nil key or value has length 0 -/
private theorem add_present (kp vp : Bool) (s : Int) (k v : Nat) (hk : kp = false → k = 0) (hv : vp = false → v = 0)
    (h0 : 0 ≤ s) (hr : s + k + v ≤ 9223372036854775807) :
    (if kp = true then (if vp = true then add64 (add64 s k) v else add64 s k)
     else if vp = true then add64 s v else s) = s + k + v := by
  cases kp <;> cases vp <;> simp (disch := omega) only [Bool.false_eq_true, ↓reduceIte, add64_nn]
  · have := hk rfl; have := hv rfl; omega
  · have := hk rfl; omega
  · have := hv rfl; omega

/-- `ProducerMessage.byteSize`: with the header loop's result being its extracted body folded over the
    headers from `maximumRecordOverhead`, the source computes the model's byteSize.
    (maximumRecordOverhead and binary.MaxVarintLen32 are evaluated by the translator.) -/
theorem byteSize_eq (version : Int) (m : Msg) (keyPresent valPresent : Bool)
    (hk : keyPresent = false → m.keyLen = 0) (hvl : valPresent = false → m.valLen = 0)
    (hr : byteSize version m ≤ 9223372036854775807) :
    Gen.C16.byteSize version keyPresent valPresent m.keyLen m.valLen
      (hdrFold Gen.C16.byteSizeHeaderStep Gen.C16.maximumRecordOverhead m.headers) = byteSize version m := by
  have hn := headersSize_nonneg m.headers
  unfold Gen.C16.byteSize Gen.C16.maximumRecordOverhead
  unfold byteSize maximumRecordOverhead producerMessageOverhead at *
  by_cases hver : version ≥ 2 <;> simp only [hver, ↓reduceIte] at hr ⊢
  · rw [hdrFold_eq Gen.C16.byteSizeHeaderStep (fun _ _ _ => rfl) m.headers 36 (by omega) (by omega)]
    exact add_present keyPresent valPresent _ _ _ hk hvl (by omega) hr
  · exact add_present keyPresent valPresent 26 _ _ hk hvl (by omega) hr

/-- the dispatcher's two checks (each ends in `continue` when it rejects) are the model's `dispatch` -/
theorem dispatch_eq (c : Conf) (hnn : Bool) (m : Msg) :
    let r1 := Gen.C16.dispatchVersion c.v2 hnn 1 false true
    (r1.1 = sizeVersion c) ∧
    (dispatch c hnn m =
      if r1.2 = true then .errHeadersNeedV011
      else if Gen.C16.dispatchSize (byteSize r1.1 m) c.maxMessageBytes false true = true then .errMessageSizeTooLarge
      else .forward) := by
  have hv : Gen.C16.dispatchVersion c.v2 hnn 1 false true = (sizeVersion c, !c.v2 && hnn) := by
    unfold Gen.C16.dispatchVersion sizeVersion; cases c.v2 <;> cases hnn <;> rfl
  have hs : ∀ bs, (Gen.C16.dispatchSize bs c.maxMessageBytes false true = true) = (bs > c.maxMessageBytes) := by
    intro bs; unfold Gen.C16.dispatchSize; split <;> simp [*]
  simp only [hv, hs, true_and]
  rfl

/-- the `size` computation of `add`, assembled from its extracted assignments -/
theorem addSize_eq_gen (c : Conf) (isNew : Bool) (m : Msg) (hr : addSize c isNew m ≤ 9223372036854775807) :
    addSize c isNew m =
      if c.v2 = true then
        hdrFold Gen.C16.addHeaderStep
          (Gen.C16.addRecordPayload
            (Gen.C16.addRecordOverhead (if isNew = true then Gen.C16.addBatchOverhead 0 else 0))
            m.keyLen m.valLen) m.headers
      else Gen.C16.addLegacySize 0 m.keyLen m.valLen := by
  have hn := headersSize_nonneg m.headers
  unfold addSize maximumRecordOverhead recordBatchOverhead producerMessageOverhead at *
  unfold Gen.C16.addLegacySize Gen.C16.addRecordPayload Gen.C16.addRecordOverhead Gen.C16.addBatchOverhead
  cases hv : c.v2 <;> simp only [hv, Bool.false_eq_true, ↓reduceIte] at hr ⊢
  · simp (disch := omega) only [add64_nn]
  · -- the batch overhead of a new partition set, whichever it is, goes through the sums unchanged
    have hb : 0 ≤ (if isNew = true then (49 : Int) else 0) := by split <;> decide
    simp (disch := omega) only [add64_nn]
    rw [hdrFold_eq Gen.C16.addHeaderStep (fun _ _ _ => rfl) m.headers _ (by omega) (by omega)]

/-- the three `+=` at the end of `add` -/
theorem addAccumulate_eq (size pbb bb bc nilErr : Int) (h1 : InI64 (pbb + size)) (h2 : InI64 (bb + size)) (h3 : InI64 (bc + 1)) :
    Gen.C16.addAccumulate size pbb bb bc nilErr = (nilErr, pbb + size, bb + size, bc + 1) := by
  unfold Gen.C16.addAccumulate
  simp only [add64_id h1, add64_id h2, add64_id h3]

/-- the two `-=` of dropPartition -/
theorem dropAccumulate_eq (s : State) (p : PSet) (msgs : Int) (h1 : InI64 (s.bufferBytes - p.bufferBytes))
    (h2 : InI64 (s.bufferCount - (p.msgs.length : Int))) (tp : Nat × Nat) (hl : lookup tp s.parts = some p) :
    Gen.C16.dropAccumulate p.bufferBytes p.msgs.length s.bufferBytes s.bufferCount msgs =
      (msgs, (dropPartition s tp).bufferBytes, (dropPartition s tp).bufferCount) := by
  unfold Gen.C16.dropAccumulate dropPartition
  simp only [sub64_id h1, sub64_id h2, hl]

/-- the tail of the run loop: `output` is bp.output exactly when the model enables the output -/
theorem runOutputTail_eq (c : Conf) (b : BP) (out bpOutput nilChan : Int) (hne : bpOutput ≠ nilChan) :
    (Gen.C16.runOutputTail b.timerFired (readyToFlush c b.buffer) out bpOutput nilChan = bpOutput) ↔
      (BP.tail c b).outputEnabled = true := by
  unfold Gen.C16.runOutputTail BP.tail
  cases b.timerFired <;> cases readyToFlush c b.buffer <;> simp [Ne.symm hne]

theorem rollOver_eq (b : BP) (timer buffer nilTimer fresh : Int) :
    Gen.C16.rollOver timer b.timerFired buffer nilTimer fresh = (nilTimer, b.rollOver.timerFired, fresh) ∧
    b.rollOver.timerArmed = false ∧ b.rollOver.buffer = State.empty := by
  unfold Gen.C16.rollOver BP.rollOver
  simp

/-- the message branch of the run loop (from the overflow test to the arming of the timer; result: exit code
    0 = falls through to the loop tail, 1 = `continue`, and bp.timer), non-idempotent producer (no producer id),
    `timerVal`/`armedT` stand for bp.timer and the channel `time.After` returns, 0 for nil.
    The arguments of `Gen.C16.runMsgBranch`, in order: the verdict of wouldOverflow, the producer id (−1: none), the
    producer epochs of buffer and message (`e1`, `e2`; read only with a producer id), Flush.Frequency, bp.timer, nil,
    the errors of the two `waitForSpace` calls (`w1`, `w2`; read only on overflow), the error of `bp.buffer.add`,
    the armed timer.
    Here a message that does not overflow. -/
theorem runMsgBranch_fits (c : Conf) (b : BP) (now : Int) (m : Msg) (timerVal armedT e1 e2 w1 w2 : Int)
    (ht : timerVal ≠ 0 ↔ b.timerArmed = true) (ha : armedT ≠ 0) (hwo : wouldOverflow c b.buffer m = false) :
    (addOk c b.buffer m = true →
      (Gen.C16.runMsgBranch false (-1) e1 e2 c.flushFrequency timerVal 0 w1 w2 0 armedT).1 = 0 ∧
      ((Gen.C16.runMsgBranch false (-1) e1 e2 c.flushFrequency timerVal 0 w1 w2 0 armedT).2 ≠ 0 ↔
        (BP.step c b (.msg now m)).1.timerArmed = true) ∧
      (BP.step c b (.msg now m)).1.buffer = add c b.buffer now m) ∧
    (addOk c b.buffer m = false → ∀ addErr, addErr ≠ 0 →
      Gen.C16.runMsgBranch false (-1) e1 e2 c.flushFrequency timerVal 0 w1 w2 addErr armedT = (1, timerVal) ∧
      BP.step c b (.msg now m) = (b, [])) := by
  unfold Gen.C16.runMsgBranch
  refine ⟨?_, ?_⟩
  · intro hok
    simp only [BP.step, hwo, hok, Bool.false_eq_true, ↓reduceIte, BP.tail, ne_eq, not_true_eq_false, false_and]
    -- both sides arm the timer under one test: a frequency is set and no timer is running (`ht`: bp.timer is nil
    -- exactly when the model's timer is not armed)
    cases hb : b.timerArmed <;> simp only [hb, ne_eq, Bool.false_eq_true, iff_false, iff_true, Decidable.not_not] at ht
    · by_cases hf : c.flushFrequency > 0 <;> simp [hf, ht, ha]
    · simp [ht]
  · intro hok addErr hne
    simp [BP.step, hwo, hok, hne]

/-- … a message that would overflow: waitForSpace hands the buffer over and rolls over (bp.timer is nil
    afterwards), the add into the fresh buffer cannot fail, the timer is armed iff there is a frequency -/
theorem runMsgBranch_overflow (c : Conf) (b : BP) (now : Int) (m : Msg) (armedT e1 e2 w2 : Int)
    (ha : armedT ≠ 0) (hwo : wouldOverflow c b.buffer m = true) :
    (Gen.C16.runMsgBranch true (-1) e1 e2 c.flushFrequency 0 0 0 w2 0 armedT).1 = 0 ∧
    ((Gen.C16.runMsgBranch true (-1) e1 e2 c.flushFrequency 0 0 0 w2 0 armedT).2 ≠ 0 ↔
      (BP.step c b (.msg now m)).1.timerArmed = true) ∧
    (BP.step c b (.msg now m)).2 = [b.buffer] ∧
    (BP.step c b (.msg now m)).1.buffer = add c State.empty now m := by
  unfold Gen.C16.runMsgBranch
  simp only [BP.step, hwo, ↓reduceIte, BP.tail, ne_eq, not_true_eq_false, false_and]
  -- after the roll-over bp.timer is nil on both sides, so the test for arming it is the frequency alone
  by_cases hf : c.flushFrequency > 0 <;> simp [hf, ha]

end Bridge.C16
