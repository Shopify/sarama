import SaramaVerif.Gen.C04
import SaramaVerif.Model.ProduceSet
/-
  Bridge obligations for C04: the fragments of produceSet.buildRequest / add regenerated from /repo
  (request version selection, LastOffsetDelta, OffsetDelta and relative inner offsets, wrapper format and
  timestamp, message format of legacy sets) and the case labels of handleSuccess's `switch block.Err` are what
  the model uses; the body of the closure handleSuccess passes to eachPartition (the whole per-block verdict,
  including `msg.Offset = block.Offset + int64(i)` and the log-append-time override) is bridged too.
-/
namespace Bridge.C04
open Go Model.ProduceSet

theorem handleSuccessCases_eq :
    Gen.C04.handleSuccessCases = [[0], [errDuplicateSequenceNumber], retriable] := by decide

/-- the three successive assignments to req.Version -/
theorem reqVersion_eq (c : Conf) :
    Gen.C04.reqVersionZstd c.codec c.v21 (Gen.C04.reqVersionV011 c.v2 (Gen.C04.reqVersionV010 c.v1 0)) = reqVersion c := by
  unfold Gen.C04.reqVersionZstd Gen.C04.reqVersionV011 Gen.C04.reqVersionV010 reqVersion
  cases c.v1 <;> cases c.v2 <;> cases c.v21 <;> simp

/-- `rb.LastOffsetDelta = int32(len(rb.Records) - 1)` under `len > 0` (a fresh batch has LastOffsetDelta 0) -/
theorem lastOffsetDelta_eq (c : Conf) (p : PSet) (h3 : reqVersion c ≥ 3) (hn : (p.recs.length : Int) ≤ 2147483648) :
    ∃ recs, buildBatch c p = .recordBatch p.firstTs (Gen.C04.batchOffsets p.recs.length 0) c.codec recs := by
  refine ⟨renumber 0 p.recs, ?_⟩
  unfold buildBatch Gen.C04.batchOffsets
  simp only [h3, ↓reduceIte]
  by_cases hl : p.recs.length > 0
  · have hl' : (p.recs.length : Int) > 0 := by omega
    have b : InI32 ((p.recs.length : Int) - 1) := ⟨by omega, by omega⟩
    simp only [hl, hl', ↓reduceIte, sub64_id b.toI64, toI32_id b]
  · have hl' : ¬ (p.recs.length : Int) > 0 := by omega
    simp only [hl, hl', ↓reduceIte]

/-- a `for i, x := range xs` loop whose body is the extracted assignment `step i x.offset` -/
def rangeLoop (step : Int → Int → Int) : Int → List Rec → List Rec
  | _, [] => []
  | j, r :: t => { r with offset := step j r.offset } :: rangeLoop step (j + 1) t

/-- `record.OffsetDelta = int64(i)` (record batches) and `msg.Offset = int64(i)` (format-1 wrapper), run over
    the records, are the model's `renumber` -/
theorem renumber_eq_gen (rs : List Rec) (i : Int) :
    renumber i rs = rangeLoop Gen.C04.recordOffsetDelta i rs ∧
    renumber i rs = rangeLoop Gen.C04.innerOffset i rs := by
  induction rs generalizing i with
  | nil => simp [renumber, rangeLoop]
  | cons a t ih =>
    simp only [renumber, rangeLoop, Gen.C04.recordOffsetDelta, Gen.C04.innerOffset]
    exact ⟨by rw [(ih (i + 1)).1], by rw [(ih (i + 1)).2]⟩

/-- the compressed wrapper of a legacy set: format 1 with the first inner message's timestamp and
    renumbered inner offsets from 0.10 on, format 0 with untouched offsets before
    (marker values: 0 = zero time, 1 = `Messages[0].Msg.Timestamp`; false/true = inner loop not run / run) -/
theorem wrapper_eq (c : Conf) (p : PSet) (h3 : ¬ reqVersion c ≥ 3) (hc : c.codec ≠ 0) :
    buildBatch c p =
      .wrapper c.codec (Gen.C04.wrapperV1 c.v1 0 0 1).1
        (if (Gen.C04.wrapperV1 c.v1 0 0 1).2 = 1 then headTs p.recs else none)
        (if Gen.C04.innerOffsetsGate c.v1 false true = true then renumber 0 p.recs else p.recs) := by
  unfold buildBatch Gen.C04.wrapperV1 Gen.C04.innerOffsetsGate
  cases c.v1 <;> simp [h3, hc]

/-- message format of a legacy set built by `add`: format 1 with the timestamp from 0.10 on, else format 0
    (marker values: 0 = zero time, 1 = the `timestamp` local of add) -/
theorem legacy_message_eq (c : Conf) (now fts : Int) (m : Msg) (hv : c.v2 = false) (p : PSet) (h3 : ¬ reqVersion c ≥ 3)
    (hc : c.codec = 0) :
    (mkRec c now fts m).ts = (if (Gen.C04.addMsgV1 c.v1 0 0 1).2 = 1 then some (effTs now m) else none) ∧
    buildBatch c p = .msgSet (Gen.C04.addMsgV1 c.v1 0 0 1).1 p.recs := by
  unfold mkRec buildBatch Gen.C04.addMsgV1
  cases c.v1 <;> simp [hv, h3, hc]

/-- `msg.Offset = block.Offset + int64(i)` run over the messages of a partition set -/
def offsetLoop (base : Int) : Int → List Msg → List (Nat × Int)
  | _, [] => []
  | i, m :: t => (m.id, Gen.C04.successOffset base i 0) :: offsetLoop base (i + 1) t

/-- handleSuccess's offset loop is the model's `assignOffsets`
    (no int64 wrap as long as the last assigned offset is representable) -/
theorem assignOffsets_eq_gen (base : Int) (msgs : List Msg) (i : Int) (hi : 0 ≤ i)
    (h0 : InI64 (base + i)) (h1 : InI64 (base + i + (msgs.length : Int))) :
    assignOffsets base i msgs = offsetLoop base i msgs := by
  induction msgs generalizing i with
  | nil => rfl
  | cons m t ih =>
    -- `base + i` and the last offset are representable, and every offset of the tail lies between them
    simp only [List.length_cons] at h1
    have h0' : InI64 (base + (i + 1)) := h0.between h1 (by omega) (by omega)
    have h1' : InI64 (base + (i + 1) + (t.length : Int)) := h0.between h1 (by omega) (by omega)
    simp only [assignOffsets, offsetLoop, Gen.C04.successOffset, add64_id h0, ih (i + 1) (by omega) h0' h1']

/-- reading of the model's verdict in the marker values given to the regenerated closure body:
    (1 returnSuccesses | 2 returnErrors(ErrIncompleteResponse) | 3 returnErrors(block.Err) | 4 retry,
     offsets assigned, timestamps replaced by the block's log-append time) -/
def verdictCode : Verdict → Int × Bool × Bool
  | .successes _ lat => (1, true, lat.isSome)
  | .successesUnassigned _ => (1, false, false)
  | .errors e _ => (if e = errIncompleteResponse then 2 else 3, false, false)
  | .retry _ _ => (4, false, false)

/-- the retriable codes as the `case` clause lists them -/
private theorem mem_retriable (err : Int) :
    ((((((err = 2 ∨ err = 3) ∨ err = 5) ∨ err = 6) ∨ err = 7) ∨ err = 19) ∨ err = 20) ↔ err ∈ retriable := by
  simp [retriable, or_assoc]

/-- the body of the closure in handleSuccess (one partition set) is the model's `handleBlock` in its pinned
    variant: response present, block present.  The trailing arguments of `Gen.C04.handleBlock` are the initial
    (verdict, assigned, overridden) = (0, false, false), the four verdict markers 1 2 3 4 that `verdictCode` reads, and
    the `true`s written where the offsets are assigned and the timestamps overridden. -/
theorem handleBlock_eq_block (c : Conf) (retryMax err base : Int) (lat : Option Int) (msgs : List Msg)
    (he : err ≠ errIncompleteResponse) :
    Gen.C04.handleBlock false false err c.v1 lat.isNone retryMax 0 false false 1 2 3 4 true true =
      verdictCode (handleBlock c false retryMax true (some (err, base, lat)) msgs) := by
  have herr : ∀ ids, verdictCode (.errors err ids) = (3, false, false) := fun _ => by rw [verdictCode, if_neg he]
  unfold Gen.C04.handleBlock handleBlock
  simp only [mem_retriable, errDuplicateSequenceNumber, Bool.false_eq_true, ↓reduceIte, Bool.not_true]
  by_cases h0 : err = 0 <;> simp only [h0, ↓reduceIte]
  · cases c.v1 <;> cases lat <;> rfl
  by_cases h46 : err = 46 <;> simp only [h46, ↓reduceIte]
  · rfl
  by_cases hr : err ∈ retriable <;> simp only [hr, ↓reduceIte, herr, ite_self]
  by_cases hm : retryMax ≤ 0 <;> simp only [hm, ↓reduceIte, herr]
  rfl

/-- … no response at all (RequiredAcks NoResponse), or a response without a block for this partition -/
theorem handleBlock_eq_missing (c : Conf) (retryMax err : Int) (isV1 latZero noBlock : Bool) (msgs : List Msg)
    (blk : Option (Int × Int × Option Int)) :
    Gen.C04.handleBlock true noBlock err isV1 latZero retryMax 0 false false 1 2 3 4 true true =
      verdictCode (handleBlock c false retryMax false blk msgs) ∧
    Gen.C04.handleBlock false true err isV1 latZero retryMax 0 false false 1 2 3 4 true true =
      verdictCode (handleBlock c false retryMax true none msgs) := by
  -- both sides are decided by their first two tests (no response, no block); nothing else is read
  unfold Gen.C04.handleBlock handleBlock
  simp [verdictCode]

end Bridge.C04
