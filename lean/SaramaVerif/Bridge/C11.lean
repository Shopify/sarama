import SaramaVerif.Gen.C11
import SaramaVerif.Model.Txn
/-
  Bridge obligations for C11: the request-building ladder of brokerConsumer.fetchNewMessages in
  consumer.go (the regenerated `Gen.C11.fetchLadder`; the seven `Config.Version.IsAtLeast(…)` tests are Boolean
  parameters), equals the expected table `Model.Txn.fetchRequestSpec` for every configuration: which request
  version is used and which of MaxBytes / Isolation / SessionID / SessionEpoch / RackID are set.
  In particular the configured isolation level is sent with every request version that has the field (v4+),
  which is what entitles the consumer to a read-committed answer (`FaithfulTxnData`) from a broker.
-/
namespace Bridge.C11
open Model.Txn

/-- the ladder for a configuration reaching `level` of the seven thresholds
    (zero-valued request fields on entry) -/
theorem fetchLadder_eq (level : Nat) (hl : level ≤ 7) (mrs cfgIso cfgRack : Int) :
    Gen.C11.fetchLadder (decide (1 ≤ level)) (decide (2 ≤ level)) (decide (3 ≤ level)) (decide (4 ≤ level))
      (decide (5 ≤ level)) (decide (6 ≤ level)) (decide (7 ≤ level)) 0 0 mrs 0 cfgIso 0 0 0 cfgRack =
    fetchRequestSpec level mrs cfgIso cfgRack := by
  have h : level = 0 ∨ level = 1 ∨ level = 2 ∨ level = 3 ∨ level = 4 ∨ level = 5 ∨ level = 6 ∨ level = 7 := by omega
  rcases h with h | h | h | h | h | h | h | h <;> subst h <;> rfl

/-- every request version that can carry an isolation level (Kafka ≥ 0.11: fetch v4, v7, v10, v11) carries the
    configured one -/
theorem isolation_level_is_sent (level : Nat) (hl : level ≤ 7) (h4 : 4 ≤ level) (mrs cfgIso cfgRack : Int) :
    (Gen.C11.fetchLadder (decide (1 ≤ level)) (decide (2 ≤ level)) (decide (3 ≤ level)) (decide (4 ≤ level))
      (decide (5 ≤ level)) (decide (6 ≤ level)) (decide (7 ≤ level)) 0 0 mrs 0 cfgIso 0 0 0 cfgRack).2.2.1 = cfgIso := by
  rw [fetchLadder_eq level hl]
  simp [fetchRequestSpec, h4]

end Bridge.C11
