import SaramaVerif.Gen.C14
import SaramaVerif.Model.BrokerConn
/-
  Bridge obligations for C14: the loop-free pieces of the receive path, translated from broker.go /
  response_header.go (Gen.C14.*), compute what the hand-written model uses.
  (`MaxResponseSize` is a package variable, not a constant: it is a parameter here and the harness passes the
  run-time value to the model on every `case` line.  The tagged-field check of header version 1 and the body
  buffer size `length - headerLength + 4` sit in code the translator does not take (`if` with init statement,
  `make`); they are tied by trace correspondence: header-v1 requests with good and bad tag bytes, bodies of
  all sizes.)
-/
namespace Bridge.C14
open Go Model.BrokerConn

theorem getHeaderLength_eq (hv : Int) : Gen.C14.getHeaderLength hv = (headerLength hv : Int) := by
  unfold Gen.C14.getHeaderLength headerLength
  split <;> simp

/-- the 8 header bytes of version 0 are the length field plus the correlation id; version 1 adds the one byte
    of the empty tagged-field array -/
theorem header_sizes :
    (headerLength 0 : Int) = Gen.C14.responseLengthSize + Gen.C14.correlationIDSize ∧
    (headerLength 1 : Int) = Gen.C14.responseLengthSize + Gen.C14.correlationIDSize + 1 := by
  decide

/-- the length check and the reading of the correlation id in `responseHeader.decode` -/
theorem headerDecodeTail_eq (len maxResp cid err eLen version cidRead eCid : Int) :
    Gen.C14.headerDecodeTail len maxResp cid err eLen version cidRead eCid =
      if lengthBad maxResp len = true then (eLen, cid) else (eCid, cidRead) := by
  unfold Gen.C14.headerDecodeTail lengthBad
  by_cases h : len ≤ 4 ∨ len > maxResp
  · simp only [h, ↓reduceIte, decide_true]
  · simp only [h, ↓reduceIte, decide_false, Bool.false_eq_true]

/-- … and therefore the model's `decodeHeader` for header version 0 is what the source computes on the 8
    header bytes (`nilErr` = Go's nil, `eLen` any other value) -/
theorem decodeHeader_v0_eq (maxResp : Int) (hdr : Bytes) (cid err eLen nilErr version : Int) (hne : eLen ≠ nilErr) :
    decodeHeader maxResp 0 hdr =
      (if (Gen.C14.headerDecodeTail (be32 hdr 0) maxResp cid err eLen version (be32 hdr 4) nilErr).1 = nilErr
       then .ok (be32 hdr 0) (Gen.C14.headerDecodeTail (be32 hdr 0) maxResp cid err eLen version (be32 hdr 4) nilErr).2
       else .bad .badLength) := by
  rw [headerDecodeTail_eq]
  unfold decodeHeader
  by_cases h : lengthBad maxResp (be32 hdr 0) = true
  · simp only [h, ↓reduceIte, hne]
  · simp only [h, Bool.false_eq_true, ↓reduceIte]
    simp

end Bridge.C14
