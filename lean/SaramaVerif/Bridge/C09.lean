import SaramaVerif.Gen.C09
import SaramaVerif.Model.CodecMachine
import SaramaVerif.Model.CodecRecords
/-
  Bridge obligations for C09: what tools/extract regenerated from /repo (constants of record.go /
  record_batch.go / records.go / message.go / crc32_field.go; the loop-free arithmetic of length_field.go,
  prep_encoder.go and real_decoder.go) is what the hand model computes.
-/
namespace Bridge.C09
open Go Model.Codec

/-- `recordBatchOverhead` (record_batch.go) is the model's 49 = bytes between the length prefix and the records -/
theorem recordBatchOverhead_eq : Gen.C09.recordBatchOverhead = (Model.Codec.recordBatchOverhead : Int) := by decide

/-- `maximumRecordOverhead` (record.go): 5·MaxVarintLen32 + MaxVarintLen64 + 1 -/
theorem maximumRecordOverhead_eq : Gen.C09.maximumRecordOverhead = (Model.Codec.maximumRecordOverhead : Int) := by decide

/-- `magicOffset` (records.go): the byte `recordsKind` / `decSet` look at -/
theorem magicOffset_eq : Gen.C09.magicOffset = 16 ∧
    (∀ bs : Bytes, recordsKind bs =
      if bs.length < Gen.C09.magicOffset.toNat + 1 then none
      else if toS 1 (fromBE ((bs.drop Gen.C09.magicOffset.toNat).take 1)) < 2 then some .legacy else some .default) :=
  ⟨by decide, fun _ => rfl⟩

/-- attribute masks (message.go, record.go) as `Batch.attributes` / `Msg.attributes` / the decoders use them -/
theorem attribute_masks_eq :
    Gen.C09.compressionCodecMask = 7 ∧ Gen.C09.timestampTypeMask = 8 ∧ Gen.C09.controlMask = 32 ∧
    Gen.C09.isTransactionalMask = 16 ∧
    (∀ b : Batch, b.attributes = b.codec % (Gen.C09.compressionCodecMask + 1) +
        (if b.control then Gen.C09.controlMask else 0) + (if b.logAppendTime then Gen.C09.timestampTypeMask else 0) +
        (if b.isTransactional then Gen.C09.isTransactionalMask else 0)) ∧
    (∀ m : Msg, m.attributes = m.codec % (Gen.C09.compressionCodecMask + 1) +
        (if m.logAppendTime then Gen.C09.timestampTypeMask else 0)) :=
  ⟨by decide, by decide, by decide, by decide, fun _ => rfl, fun _ => rfl⟩

theorem tags_distinct : Gen.C09.crcIEEE ≠ Gen.C09.crcCastagnoli ∧ Gen.C09.legacyRecords ≠ Gen.C09.defaultRecords := by
  decide

/-- prep encoder: the fixed-width putters add the width the real encoder writes -/
theorem prepPutInt_eq (length : Int) (h : InI64 length) (h' : InI64 (length + 8)) :
    Gen.C09.prepPutInt8 length = length + (sizeP .i8 (.int 0) : Nat) ∧
    Gen.C09.prepPutInt16 length = length + (sizeP .i16 (.int 0) : Nat) ∧
    Gen.C09.prepPutInt32 length = length + (sizeP .i32 (.int 0) : Nat) ∧
    Gen.C09.prepPutInt64 length = length + (sizeP .i64 (.int 0) : Nat) ∧
    Gen.C09.prepPutBool length = length + (sizeP .bool (.int 0) : Nat) := by
  have hk (k : Int) (h0 : 0 ≤ k) (h8 : k ≤ 8) : add64 length k = length + k :=
    add64_id (h.between h' (by omega) (by omega))
  exact ⟨hk 1 (by decide) (by decide), hk 2 (by decide) (by decide), hk 4 (by decide) (by decide),
    hk 8 (by decide) (by decide), hk 1 (by decide) (by decide)⟩

/-- `lengthField.check` computes the test that `decStep` (Model/CodecMachine.lean) makes when it pops a `len32` frame;
    the test is written out here, the statement does not mention `decStep`
    (offsets fit an int32: buffers are ≤ MaxResponseSize) -/
theorem lengthFieldCheck_eq (cur start len eInvalid nilErr : Int) (h1 : InI64 (cur - start)) (h2 : InI32 (cur - start - 4)) :
    Gen.C09.lengthFieldCheck cur start len eInvalid nilErr = (if cur - start - 4 = len then nilErr else eInvalid) := by
  unfold Gen.C09.lengthFieldCheck
  rw [sub64_id h1, sub64_id h2.toI64, toI32_id h2]
  exact ite_not ..

/-- `varintLengthField.adjustLength`: stores `cur − start − oldFieldSize` and returns the difference of the two
    field sizes – the pop case of the model's prep machine -/
theorem varintAdjust_eq (cur start len oldSize newSize : Int) (h1 : InI64 (cur - start)) (h2 : InI64 (cur - start - oldSize))
    (h3 : InI64 (newSize - oldSize)) :
    Gen.C09.varintAdjust cur start len oldSize newSize = (newSize - oldSize, cur - start - oldSize) := by
  unfold Gen.C09.varintAdjust
  simp only [sub64_id h1, sub64_id h2, sub64_id h3]

/-- … as used by `prepStep`: popping a varint length frame adds what `adjustLength` returns and the field
    keeps the body size -/
theorem prep_pop_varlen (s : PrepSt) (f : PrepFrame) (st : List PrepFrame) (hk : f.kind = .varlen) (hs : s.stack = f :: st)
    (h1 : InI64 (s.length - f.start)) (h2 : InI64 (s.length - f.start - reserveLength .varlen f.fieldLen))
    (h3 : InI64 (reserveLength .varlen (s.length - f.start - reserveLength .varlen f.fieldLen) - reserveLength .varlen f.fieldLen)) :
    (prepStep s .pop).length = s.length +
      (Gen.C09.varintAdjust s.length f.start f.fieldLen (reserveLength .varlen f.fieldLen)
        (reserveLength .varlen (s.length - f.start - reserveLength .varlen f.fieldLen))).1 ∧
    (adjustLength s.length f.start f.fieldLen).1 =
      (Gen.C09.varintAdjust s.length f.start f.fieldLen (reserveLength .varlen f.fieldLen)
        (reserveLength .varlen (s.length - f.start - reserveLength .varlen f.fieldLen))).2 := by
  rw [varintAdjust_eq _ _ _ _ _ h1 h2 h3]
  simp only [prepStep, hs, hk, adjustLength, and_self]

/-- `varintLengthField.check` (measures the varint as it was read, `fieldSize` > 0 bytes) computes the test of
    `decStep` at the pop of a `varlen` frame, written out in the same way: the bytes after the field up to the current
    offset are `len` many -/
theorem varintCheck_eq (cur start len fieldSize eInvalid nilErr : Int) (hf : 0 < fieldSize) (h1 : InI64 (cur - start))
    (h2 : InI64 (cur - start - fieldSize)) :
    Gen.C09.varintCheck cur start len fieldSize eInvalid nilErr =
      (if cur - (start + fieldSize) = len then nilErr else eInvalid) := by
  unfold Gen.C09.varintCheck
  simp only [sub64_id h1, sub64_id h2, show ¬ fieldSize ≤ 0 by omega, false_or]
  rw [show cur - (start + fieldSize) = cur - start - fieldSize by omega]
  exact ite_not ..

/-- `getCompactArrayLength` after the uvarint: 0 (null) gives 0; otherwise n − 1, which must not exceed the
    remaining bytes – the model's `getCompactArrayLength` -/
theorem compactArrayLength_eq (bs : Bytes) (n : Nat) (rest : Bytes) (nilErr off rawLen eIns : Int) (h : InI64 n)
    (hg : getUVarint bs = some (n, rest)) :
    Gen.C09.compactArrayLength n nilErr nilErr rest.length off rawLen eIns =
      (match getCompactArrayLength bs with
       | some (m, _) => ((m : Int), nilErr, off)
       | none => (0, eIns, rawLen)) := by
  unfold Gen.C09.compactArrayLength getCompactArrayLength
  rw [hg, if_neg (not_not_intro rfl)]
  cases n with
  | zero => rfl
  | succ k =>
    have e : sub64 ((k + 1 : Nat) : Int) 1 = (k : Int) :=
      (sub64_id (InI64.between (a := 0) (by decide) h (by omega) (by omega))).trans (by omega)
    dsimp only
    rw [if_neg (by omega), e, Nat.add_sub_cancel]
    by_cases h1 : k > rest.length
    · rw [if_pos h1, if_pos (Or.inr (Int.ofNat_lt.mpr h1))]
    · rw [if_neg h1, if_neg (by omega)]

theorem compactArrayLength_err (n err nilErr rem off rawLen eIns : Int) (h : err ≠ nilErr) :
    Gen.C09.compactArrayLength n err nilErr rem off rawLen eIns = (0, err, off) := by
  unfold Gen.C09.compactArrayLength
  simp only [ne_eq, h, not_false_eq_true, ↓reduceIte]

/-- the plausibility guards of `getArrayLength` after the int32 was read: the count must not exceed the
    remaining bytes nor 2·MaxUint16, and must not be below −1 – exactly the conditions of the model's
    `getArrayLength` (math.MaxUint16 is evaluated by the translator; error values are opaque) -/
theorem arrayLengthGuard_eq (bs : Bytes) (n : Int) (rest : Bytes) (off rawLen eIns eInv nilErr : Int)
    (hg : getInt 4 bs = some (n, rest)) :
    Gen.C09.arrayLengthGuard n rest.length off rawLen eIns eInv nilErr =
      (match getArrayLength bs with
       | some (m, _) => (m, nilErr, off)
       | none => if n > rest.length then (-1, eIns, rawLen) else (-1, eInv, off)) := by
  unfold getArrayLength Gen.C09.arrayLengthGuard
  simp only [hg, show (2 : Int) * 65535 = 131070 by decide]
  by_cases h1 : n > (rest.length : Int)
  · simp only [h1, ↓reduceIte]
  · by_cases h2 : n > 131070 ∨ n < -1
    · simp only [h1, h2, ↓reduceIte]
    · simp only [h1, h2, ↓reduceIte]

end Bridge.C09
