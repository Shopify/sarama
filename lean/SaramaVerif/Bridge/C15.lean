import SaramaVerif.Gen.C15
import SaramaVerif.Model.Metadata
/-
  Bridge obligations for C15: the definitions regenerated from client.go / errors.go
  (`Gen.C15.*`) agree with the hand-written model (Model.Metadata).

  Pointers / slices / maps of the Go code are opaque integers in the generated definitions (`nilv` = Go's nil);
  each obligation fixes how a model value is represented and shows the generated code takes the same branch
  and returns the representation of the model's result.

  The translator takes loop-free fragments and does not look into type switches. From the loops of updateMetadata /
  updateBroker / tryRefreshMetadata it takes fragments of the bodies (the clauses of `switch topic.Err` with
  `continue` as an exit code: `topicSwitch_eq`; one broker entry: `reconcileBroker_eq`; the KError clause of the
  error type switch: `kerrorVerdict_eq`; an answer: `answeredVerdict_eq`). NOT covered here: the loops themselves,
  setPartitionCache, the error type switch of tryRefreshMetadata and its other clauses — those are tied by
  differential execution (harness/cmd/c15).
-/
namespace Bridge.C15
open Model.Metadata

theorem consts_eq :
    Gen.C15.cErrNoError = errNone ∧ Gen.C15.cErrUnknownTopicOrPartition = errUnknownTopicOrPartition ∧
    Gen.C15.cErrLeaderNotAvailable = errLeaderNotAvailable ∧ Gen.C15.cErrReplicaNotAvailable = errReplicaNotAvailable ∧
    Gen.C15.cErrInvalidTopic = errInvalidTopic ∧ Gen.C15.cErrTopicAuthorizationFailed = errTopicAuthorizationFailed ∧
    Gen.C15.cErrClusterAuthorizationFailed = errClusterAuthorizationFailed ∧
    Gen.C15.cErrSASLAuthenticationFailed = errSASLAuthenticationFailed := by
  decide

/-- the partition cache has exactly the two lists of the model: index 0 = all, 1 = writable -/
theorem partition_sets_eq :
    Gen.C15.cAllPartitions = 0 ∧ Gen.C15.cWritablePartitions = 1 ∧ Gen.C15.cMaxPartitionIndex = 2 := by
  decide

/-- the label table of `switch topic.Err` in updateMetadata -/
theorem topicErrCases_eq :
    Gen.C15.topicErrCases =
      [[errNone], [errInvalidTopic, errTopicAuthorizationFailed], [errUnknownTopicOrPartition], [errLeaderNotAvailable]] := by
  decide

/-- errors in no clause fall to `default` (= forget, no retry) -/
theorem topicClass_by_cases (e : Int) :
    topicClass e =
      if e ∈ Gen.C15.topicErrCases[0]! then .store
      else if e ∈ Gen.C15.topicErrCases[1]! then .forget
      else if e ∈ Gen.C15.topicErrCases[2]! then .forgetRetry
      else if e ∈ Gen.C15.topicErrCases[3]! then .storeRetry
      else .forget := by
  rw [topicErrCases_eq]
  unfold topicClass
  simp only [List.getElem!_cons_zero, List.getElem!_cons_succ, List.mem_cons, List.not_mem_nil, or_false]

/-- representation of the model's verdict: (broker pointer, error) -/
def encLeader (nilv brk : Int) : LeaderRes → Int × Int
  | .broker _ _ => (brk, nilv)
  | .leaderNotAvailable => (nilv, errLeaderNotAvailable)
  | .unknownTopicOrPartition => (nilv, errUnknownTopicOrPartition)

/-- topic not in `client.metadata` -/
theorem cachedLeader_topic_absent (nilv md perr brk : Int) (found : Bool) (brokers : List (Int × Addr)) :
    Gen.C15.cachedLeader nilv nilv found md perr brk = encLeader nilv brk (leaderVerdict none brokers) := by
  simp [Gen.C15.cachedLeader, leaderVerdict, encLeader, errUnknownTopicOrPartition]

/-- partition not in the topic's map -/
theorem cachedLeader_partition_absent (nilv te md perr brk : Int) (hte : te ≠ nilv) (brokers : List (Int × Addr)) :
    Gen.C15.cachedLeader nilv te false md perr brk = encLeader nilv brk (leaderVerdict none brokers) := by
  simp [Gen.C15.cachedLeader, leaderVerdict, encLeader, errUnknownTopicOrPartition, hte]

/-- partition metadata `pm` found; `brk` is what `client.brokers[pm.Leader]` yields: nil iff the model's lookup
    fails -/
theorem cachedLeader_found (nilv te md brk : Int) (hte : te ≠ nilv) (pm : PartMeta) (brokers : List (Int × Addr))
    (hbrk : brk = nilv ↔ kget Prod.fst pm.leader brokers = none) :
    Gen.C15.cachedLeader nilv te true md pm.err brk = encLeader nilv brk (leaderVerdict (some pm) brokers) := by
  unfold Gen.C15.cachedLeader leaderVerdict
  simp only [ne_eq, hte, not_false_eq_true, ↓reduceIte, errLeaderNotAvailable]
  by_cases h5 : pm.err = 5
  · simp [h5, encLeader, errLeaderNotAvailable]
  · simp only [h5, ↓reduceIte]
    cases hk : kget Prod.fst pm.leader brokers with
    | none =>
      have : brk = nilv := hbrk.mpr hk
      simp [this, encLeader, errLeaderNotAvailable]
    | some b =>
      have : ¬ brk = nilv := fun e => by
        have := hbrk.mp e
        rw [hk] at this
        cases this
      simp [this, encLeader]

/-- representation of the model's verdict: (list, error) -/
def encList (nilv lst : Int) : ListRes → Int × Int
  | .ok _ => (lst, nilv)
  | .okReplicaNotAvailable _ => (lst, errReplicaNotAvailable)
  | .err e => (nilv, e)

theorem replicasTail_eq (nilv lst : Int) (pm : PartMeta) (sel : PartMeta → List Int) :
    Gen.C15.replicasTail nilv pm.err lst = encList nilv lst (replicasVerdict sel (some pm)) ∧
    Gen.C15.isrTail nilv pm.err lst = encList nilv lst (replicasVerdict sel (some pm)) ∧
    Gen.C15.offlineTail nilv pm.err lst = encList nilv lst (replicasVerdict sel (some pm)) := by
  unfold Gen.C15.replicasTail Gen.C15.isrTail Gen.C15.offlineTail replicasVerdict
  by_cases h : pm.err = 9
  · simp [h, encList, errReplicaNotAvailable]
  · simp [h, encList, errReplicaNotAvailable]

/-- the end of `Partitions`, after the optional refresh -/
theorem partitionsTail_eq (nilv parts : Int) (c : Option (List Int)) :
    Gen.C15.partitionsTail nilv ((c.getD []).length) parts = encList nilv parts (partitionsVerdict c) := by
  unfold Gen.C15.partitionsTail partitionsVerdict
  by_cases h : (c.getD []).length = 0
  · simp [h, encList, errUnknownTopicOrPartition]
  · simp [h, encList]

/-- `parts` is nil exactly when the cache has no entry for the topic -/
theorem writableTail_eq (nilv parts : Int) (c : Option (List Int)) (hp : parts = nilv ↔ c = none) :
    Gen.C15.writableTail nilv parts = encList nilv parts (writableVerdict c) := by
  unfold Gen.C15.writableTail writableVerdict
  cases c with
  | none => simp [hp.mpr rfl, encList, errUnknownTopicOrPartition]
  | some l =>
    have : ¬ parts = nilv := fun e => by have := hp.mp e; cases this
    simp [this, encList]

/-- One entry of updateBroker / registerBroker. `pOld` = the registered *Broker (non-nil), `pNew` = the one from the response. -/
theorem reconcileBroker_eq (nilv pOld pNew : Int) (_hOld : pOld ≠ nilv) (m : List (Int × Addr)) (b : Int × Addr) :
    (kget Prod.fst b.1 m = none →
        Gen.C15.reconcileBroker nilv nilv 0 pNew b.2 = pNew ∧ Gen.C15.registerBroker nilv nilv 0 pNew b.2 = pNew ∧
        regBroker m b = kset Prod.fst b m) ∧
    (∀ old, kget Prod.fst b.1 m = some old → b.2 ≠ old.2 →
        Gen.C15.reconcileBroker nilv pOld old.2 pNew b.2 = pNew ∧ Gen.C15.registerBroker nilv pOld old.2 pNew b.2 = pNew ∧
        regBroker m b = kset Prod.fst b m) ∧
    (∀ old, kget Prod.fst b.1 m = some old → b.2 = old.2 →
        Gen.C15.reconcileBroker nilv pOld old.2 pNew b.2 = pOld ∧ Gen.C15.registerBroker nilv pOld old.2 pNew b.2 = pOld ∧
        regBroker m b = m) := by
  refine ⟨?_, ?_, ?_⟩
  · intro h
    simp [Gen.C15.reconcileBroker, Gen.C15.registerBroker, regBroker, h]
  · intro old h hne
    simp [Gen.C15.reconcileBroker, Gen.C15.registerBroker, regBroker, h, hne, _hOld]
  · intro old h he
    simp [Gen.C15.reconcileBroker, Gen.C15.registerBroker, regBroker, h, he, _hOld]

/-- the partition loop of the store part: leaderless partitions ask for a retry -/
theorem partitionRetry_eq (ps : List PartMeta) (acc : Bool) :
    ps.foldl (fun r p => Gen.C15.partitionRetry p.err r) acc = (acc || partsRetry ps) := by
  unfold partsRetry
  induction ps generalizing acc with
  | nil => simp
  | cons p ps ih =>
    simp only [List.foldl_cons, List.any_cons]
    rw [ih]
    unfold Gen.C15.partitionRetry errLeaderNotAvailable
    by_cases h : p.err = 5
    · simp [h]
    · simp [h]

/-- `E`/`EB` represent seed lists / the broker map. Head seed → the model's `deregisterSeed`; anything else → the
    model's `deregisterKnown`. -/
theorem deregisterBroker_eq (E : List Addr → Int) (EB : List (Int × Addr) → Int) (s : State) (bptr seed0 : Int)
    (id : Int) :
    (∀ a rest, s.seeds = a :: rest → bptr = seed0 →
      Gen.C15.deregisterBroker s.seeds.length bptr seed0 (E s.seeds) (E rest) (E s.dead) (E (s.dead ++ [a]))
          (EB s.brokers) (EB (kerase Prod.fst id s.brokers)) =
        (E (deregisterSeed s).seeds, E (deregisterSeed s).dead, EB (deregisterSeed s).brokers)) ∧
    (∀ rest deadPlus, (s.seeds = [] ∨ bptr ≠ seed0) →
      Gen.C15.deregisterBroker s.seeds.length bptr seed0 (E s.seeds) rest (E s.dead) deadPlus
          (EB s.brokers) (EB (kerase Prod.fst id s.brokers)) =
        (E (deregisterKnown s id).seeds, E (deregisterKnown s id).dead, EB (deregisterKnown s id).brokers)) := by
  constructor
  · intro a rest hs hb
    simp [Gen.C15.deregisterBroker, deregisterSeed, hs, hb]
  · intro rest deadPlus h
    rcases h with h | h
    · simp [Gen.C15.deregisterBroker, deregisterKnown, h]
    · simp [Gen.C15.deregisterBroker, deregisterKnown, h]

/-- the clause bodies of `switch topic.Err`, a fragment of the loop body; leading Int: 0 = falls through to the
    store part, 1 = `continue` -/
theorem topicSwitch_eq (terr err : Int) (retry : Bool) :
    Gen.C15.topicSwitch terr err retry =
      match topicClass terr with
      | .store => (0, err, retry)
      | .storeRetry => (0, err, true)
      | .forget => (1, terr, retry)
      | .forgetRetry => (1, terr, true) := by
  unfold Gen.C15.topicSwitch topicClass errNone errInvalidTopic errTopicAuthorizationFailed
    errUnknownTopicOrPartition errLeaderNotAvailable
  by_cases h0 : terr = 0
  · simp [h0]
  · by_cases h1 : terr = 17 ∨ terr = 29
    · simp [h0, h1]
    · by_cases h3 : terr = 3
      · simp [h3]
      · by_cases h5 : terr = 5
        · simp [h5]
        · simp [h0, h1, h3, h5]

/-- The model's per-topic step is that switch followed (when it does not `continue`) by the store part. -/
theorem applyTopic_by_switch (a : Acc) (tm : TopicMeta) :
    ((Gen.C15.topicSwitch tm.err a.err a.retry).1 = 0 ↔ (topicClass tm.err).stores = true) ∧
    (applyTopic a tm).err = (Gen.C15.topicSwitch tm.err a.err a.retry).2.1 ∧
    (applyTopic a tm).retry =
      ((Gen.C15.topicSwitch tm.err a.err a.retry).2.2 || ((topicClass tm.err).stores && partsRetry tm.parts)) ∧
    (applyTopic a tm).s =
      if (Gen.C15.topicSwitch tm.err a.err a.retry).1 = 0 then storeTopic (forgetTopic a.s tm.name) tm
      else forgetTopic a.s tm.name := by
  rw [topicSwitch_eq]
  unfold applyTopic
  cases topicClass tm.err <;> simp [TopicClass.stores]

/-- tryRefreshMetadata, a KError from GetMetadata; leading Int: 3 = `return err`, 0 = falls off the clause after
    `deregisterBroker` -/
theorem kerrorVerdict_eq (e : Int) :
    Gen.C15.kerrorVerdict e false true =
      if kerrorDeregisters e then (0, 0, true) else (3, e, false) := by
  unfold Gen.C15.kerrorVerdict kerrorDeregisters errSASLAuthenticationFailed errTopicAuthorizationFailed
  by_cases h1 : e = 58
  · simp [h1]
  · by_cases h2 : e = 29
    · simp [h2]
    · simp [h1, h2]

/-- exactly ErrSASLAuthenticationFailed and ErrTopicAuthorizationFailed are returned at once (the model's
    `Reach.fatal`); every other KError sets the candidate aside (`Reach.fail`) -/
theorem kerror_fatal_iff (e : Int) :
    (Gen.C15.kerrorVerdict e false true).1 = 3 ↔ (e = errSASLAuthenticationFailed ∨ e = errTopicAuthorizationFailed) := by
  rw [kerrorVerdict_eq, kerrorDeregisters]
  by_cases h1 : e = errSASLAuthenticationFailed
  · simp [h1]
  · by_cases h2 : e = errTopicAuthorizationFailed <;> simp [h1, h2]

/-- tryRefreshMetadata, a candidate answered: the response is applied as a full refresh exactly when no topics were asked for; the call returns
    `retry(err)` when updateMetadata wants a retry and its `err` otherwise — the model's `attempt` on an answer:
    (state, retry wanted, `fromUpdate err`). -/
theorem answeredVerdict_eq (nTopics retried : Int) (akm0 : Bool) (s : State) (r : Resp) :
    Gen.C15.answeredVerdict nTopics akm0 retried
        (updateMetadata s r (decide (nTopics = 0))).retry (updateMetadata s r (decide (nTopics = 0))).err =
      (if (updateMetadata s r (decide (nTopics = 0))).retry then retried
       else (updateMetadata s r (decide (nTopics = 0))).err, decide (nTopics = 0)) := by
  unfold Gen.C15.answeredVerdict
  cases (updateMetadata s r (decide (nTopics = 0))).retry <;> simp

/-- Each of these definitions is generated from the lock / deferred-unlock statement of the named function and
    exists only if that statement is in the source: `updateMetadata`, `deregisterBroker` and `resurrectDeadBrokers`
    take `client.lock.Lock()` with a deferred `Unlock()`, the cached getters, `Brokers` and `any` take `RLock()` with a
    deferred `RUnlock()`. (Presence only; that the critical sections exclude each other is what the race-detector
    run of the harness observes.) -/
theorem lock_statements_present :
    (Gen.C15.lockUpdateMetadata,
     Gen.C15.lockCachedPartitions,
     Gen.C15.lockCachedMetadata,
     Gen.C15.lockCachedLeader,
     Gen.C15.lockBrokers,
     Gen.C15.lockAny,
     Gen.C15.lockDeregisterBroker,
     Gen.C15.lockResurrectDeadBrokers,
     Gen.C15.unlockUpdateMetadata,
     Gen.C15.unlockCachedPartitions,
     Gen.C15.unlockCachedMetadata,
     Gen.C15.unlockCachedLeader,
     Gen.C15.unlockBrokers,
     Gen.C15.unlockAny,
     Gen.C15.unlockDeregisterBroker,
     Gen.C15.unlockResurrectDeadBrokers) = ((), (), (), (), (), (), (), (), (), (), (), (), (), (), (), ()) := rfl

end Bridge.C15
