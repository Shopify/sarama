import SaramaVerif.Gen.C10
import SaramaVerif.Model.DecoderFmt
/-
  Bridge obligations for C10: the loop-free bounds logic of the getters of real_decoder.go, of the length-field
  push-decoders, of decode/versionedDecode and of responseHeader.decode, regenerated from /repo
  (Gen.C10.*), computes what the hand-written model (Model/Decoder.lean) computes.  Go values that the translator
  cannot see (the bytes read, the error values, slices) are parameters; errors are opaque values.
  The obligations are stated for the `checked` variant of the model: the getters in /repo carry the guards that
  `Variant.checked` adds.  With a guard removed the regenerated definition differs and the obligation does not
  prove; the harness then observes the `pinned` behaviour and reports the crash with a concrete input.
  Where a statement spells out the model's body after the uvarint read, the model's test `v = .checked` appears
  as the literal `Variant.checked = .checked`, so that the spelled-out body is the model's word for word; for
  `compactArrayLengthModel` this is a theorem (`compactArrayLengthModel_is_model`, by `rfl`), for the bodies in
  `compactStringTail_eq` and `compactNullableStringTail_eq` it is left to a comparison with the text of
  `getCompactString` / `getCompactNullableString`.  The same holds of the right-hand sides of `getBoolTail_eq`,
  `peek_guard_eq`, `peekInt8_guard_eq`, `lengthFieldDecodeTail_eq` and `headerLengthCheck_eq`: they are the tests of
  `getBool`, `peek`, `peekInt8`, `pushLength` and `decodeHeader` written out, these parts of the model having no
  name of their own.
-/
namespace Bridge.C10
open Go Model.Decoder

/-- rendering of a model outcome as the (value, error, rd.off) triple of the Go getter.  Panic and hang have no
    rendering, the `(0, 0, 0)` is a filler; no obligation rests on it, since on the inputs the obligations cover the
    checked getters return a value or an error (`Props.C10.prim_safe_*`). -/
def triple (dflt : Int) (nilErr : Int) (errv : Err → Int) : Res Int → Int × Int × Int
  | .ok v off _ => (v, nilErr, off)
  | .err e off _ => (dflt, errv e, off)
  | .panic _ => (0, 0, 0)
  | .hang => (0, 0, 0)

/-- `rd.off += length` for a length that passed the tests `length < 0` and `length > rd.remaining()` -/
private theorem add64_off {raw : Bytes} {off : Nat} {L : Int} (_ : raw.length ≤ 4294967296) (_ : off ≤ raw.length)
    (_ : ¬ L < 0) (_ : ¬ L > (raw.length : Int) - off) : add64 (off : Int) L = ((off + L.toNat : Nat) : Int) := by
  rw [add64_nn (a := off) (b := L) (by omega) (by omega) (by omega), Int.natCast_add, Int.toNat_of_nonneg (by omega)]

/-- an int64 subtraction from an int64 value is the subtraction wrapped once (two's complement is a ring) -/
private theorem wrap64_sub_wrap64 (a b : Int) : wrap64 (wrap64 a - b) = wrap64 (a - b) := by
  unfold wrap64; omega

/-- getInt8 … getInt64: `if rd.remaining() < k { rd.off = len(rd.raw); error } else { value; rd.off += k }` -/
private theorem fixedWidth_eq {raw : Bytes} {off : Nat} (k : Nat) (hk : k ≤ 8) (hlen : raw.length ≤ 4294967296)
    (h : off ≤ raw.length) (val eI nilE : Int) :
    (if rem raw off < (k : Int) then ((-1 : Int), eI, (raw.length : Int)) else (val, nilE, add64 off k))
      = triple (-1) nilE (fun _ => eI)
          (if rem raw off < (k : Int) then .err .insufficient raw.length 0 else .ok val (off + k) 0) := by
  split
  · rfl
  · rw [add64_nn (a := off) (b := k) (by omega) (by omega) (by omega)]; rfl

theorem getInt8_eq (raw : Bytes) (off : Nat) (hlen : raw.length ≤ 4294967296) (h : off ≤ raw.length) (eI nilE : Int) :
    Gen.C10.getInt8 (rem raw off) off raw.length (sgn8 (beU raw off 1)) eI nilE
      = triple (-1) nilE (fun _ => eI) (getInt8 raw off) :=
  fixedWidth_eq 1 (by decide) hlen h _ eI nilE

theorem getInt16_eq (raw : Bytes) (off : Nat) (hlen : raw.length ≤ 4294967296) (h : off ≤ raw.length) (eI nilE : Int) :
    Gen.C10.getInt16 (rem raw off) off raw.length (sgn16 (beU raw off 2)) eI nilE
      = triple (-1) nilE (fun _ => eI) (getInt16 raw off) :=
  fixedWidth_eq 2 (by decide) hlen h _ eI nilE

theorem getInt32_eq (raw : Bytes) (off : Nat) (hlen : raw.length ≤ 4294967296) (h : off ≤ raw.length) (eI nilE : Int) :
    Gen.C10.getInt32 (rem raw off) off raw.length (sgn32 (beU raw off 4)) eI nilE
      = triple (-1) nilE (fun _ => eI) (getInt32 raw off) :=
  fixedWidth_eq 4 (by decide) hlen h _ eI nilE

theorem getInt64_eq (raw : Bytes) (off : Nat) (hlen : raw.length ≤ 4294967296) (h : off ≤ raw.length) (eI nilE : Int) :
    Gen.C10.getInt64 (rem raw off) off raw.length (sgn64 (beU raw off 8)) eI nilE
      = triple (-1) nilE (fun _ => eI) (getInt64 raw off) :=
  fixedWidth_eq 8 (by decide) hlen h _ eI nilE

/-- getArrayLength after the read = the checked model: lengths below -1 are rejected.  The bound 131070 is passed
    for the parameter `maxArr` of the regenerated definition; that `2*math.MaxUint16` is this number is part of
    `Bridge.C09.arrayLengthGuard_eq`, where the translator evaluates the constant. -/
theorem arrayLengthTail_eq (tmp : Int) (len off : Nat) (eI eA nilE : Int) :
    Gen.C10.arrayLengthTail tmp ((len : Int) - off) off len 131070 eI eA nilE
      = triple (-1) nilE (fun e => if e = .insufficient then eI else eA) (arrayLengthTail .checked tmp len off) := by
  unfold Gen.C10.arrayLengthTail arrayLengthTail triple
  split
  · simp only [↓reduceIte]
  · by_cases h1 : tmp > 131070
    · simp only [h1, true_or, ↓reduceIte, reduceCtorEq]
    · by_cases h2 : tmp < -1
      · simp only [h1, h2, or_true, and_self, ↓reduceIte, reduceCtorEq]
      · simp only [h1, h2, or_self, and_false, ↓reduceIte]

/-- the function getCompactArrayLength applies to the uvarint it read (checked model) -/
def compactArrayLengthModel (raw : Bytes) (n : Nat) (off1 : Nat) : Res Int :=
  if n = 0 then .ok 0 off1 0
  else if Variant.checked = .checked ∧ (compactLen n < 0 ∨ compactLen n > rem raw off1) then .err .insufficient raw.length 0
  else .ok (compactLen n) off1 0

theorem compactArrayLengthModel_is_model (raw : Bytes) (off : Nat) :
    getCompactArrayLength .checked raw off = (getUVarint raw off).bind (compactArrayLengthModel raw) := rfl

/-- getCompactArrayLength after the uvarint: `int(n) - 1` must be within [0, remaining()] -/
theorem compactArrayLengthTail_eq (raw : Bytes) (n : Nat) (hn : n < 18446744073709551616) (off1 : Nat) (eI nilE : Int) :
    Gen.C10.compactArrayLengthTail (wrap64 n) (rem raw off1) off1 raw.length eI nilE
      = triple 0 nilE (fun _ => eI) (compactArrayLengthModel raw n off1) := by
  unfold Gen.C10.compactArrayLengthTail compactArrayLengthModel triple
  have hs : sub64 (wrap64 (n : Int)) 1 = compactLen n := by unfold sub64 compactLen; rfl
  rw [hs]
  generalize compactLen n = L
  by_cases h : n = 0
  · have h0 : wrap64 (n : Int) = 0 := by rw [h]; unfold wrap64; omega
    rw [if_pos h0, if_pos h]
  · have h2 : ¬ wrap64 (n : Int) = 0 := by unfold wrap64; omega
    rw [if_neg h2, if_neg h]
    rcases Classical.em (L < 0 ∨ L > rem raw off1) with h3 | h3
    · rw [if_pos h3, if_pos ⟨rfl, h3⟩]
    · rw [if_neg h3, if_neg (fun hh => h3 hh.2)]

theorem getBoolTail_eq (b : Int) (nilE eB : Int) :
    Gen.C10.getBoolTail b nilE nilE eB = (if b = 0 then (false, nilE) else if b ≠ 1 then (false, eB) else (true, nilE)) := by
  unfold Gen.C10.getBoolTail
  by_cases h0 : b = 0
  · simp [h0]
  · by_cases h1 : b = 1
    · simp [h1]
    · simp [h0, h1]

theorem stringLengthTail_eq (n : Int) (len off : Nat) (eI eS nilE : Int) :
    Gen.C10.stringLengthTail n ((len : Int) - off) off len eI eS nilE
      = triple 0 nilE (fun e => if e = .insufficient then eI else eS) (stringLengthTail n len off) := by
  unfold Gen.C10.stringLengthTail stringLengthTail triple
  simp only []
  split
  · simp only [reduceCtorEq, ↓reduceIte]
  · split
    · simp only [↓reduceIte]
    · rfl

/-- the slice a successful getRawBytes returns is the opaque value `sl`: only nil or not, the error and `rd.off` are compared -/
theorem getRawBytes_eq (raw : Bytes) (off : Nat) (length : Int) (hlen : raw.length ≤ 4294967296) (h : off ≤ raw.length)
    (sl eI eB nilV : Int) :
    Gen.C10.getRawBytes length (rem raw off) off raw.length sl eI eB nilV
      = match getRawBytes raw off length with
        | .ok _ off' _ => (sl, nilV, (off' : Int))
        | .err e off' _ => (nilV, (if e = .insufficient then eI else eB), (off' : Int))
        | _ => (0, 0, 0) := by
  unfold Gen.C10.getRawBytes getRawBytes
  split
  · simp only [reduceCtorEq, ↓reduceIte]
  · split
    · simp only [↓reduceIte]
    · rename_i h1 h2
      unfold rem at h2
      simp only []
      rw [add64_off hlen h h1 h2]

/-- peek: the guard is `remaining < offset+length` and nothing else (negative arguments are not rejected) -/
theorem peek_guard_eq (raw : Bytes) (off : Nat) (o l : Int) (ho : 0 ≤ o) (hl : 0 ≤ l) (ho2 : o ≤ 4294967296) (hl2 : l ≤ 4294967296)
    (sub eI nilV : Int) :
    Gen.C10.peek o l (rem raw off) off sub eI nilV
      = (if rem raw off < o + l then (nilV, eI) else (sub, nilV)) := by
  unfold Gen.C10.peek
  rw [add64_nn ho hl (by omega)]

theorem peekInt8_guard_eq (raw : Bytes) (off : Nat) (o : Int) (ho : 0 ≤ o) (ho2 : o ≤ 4294967296) (val eI nilV : Int) :
    Gen.C10.peekInt8 o 1 (rem raw off) val eI nilV
      = (if rem raw off < o + 1 then (-1, eI) else (val, nilV)) := by
  unfold Gen.C10.peekInt8
  rw [add64_nn ho (by decide) (by omega)]

theorem lengthFieldDecodeTail_eq (raw : Bytes) (off1 : Nat) (l eI nilE : Int) :
    Gen.C10.lengthFieldDecodeTail l (rem raw off1) eI nilE = (if l > wrap32 (rem raw off1) then eI else nilE) := by
  unfold Gen.C10.lengthFieldDecodeTail toI32
  rfl

/-- lengthField.check = `pop` of a length frame -/
theorem lengthFieldCheck_eq (v : Variant) (crcf : Bool → Bytes → Nat) (raw : Bytes) (start cur : Nat) (stored eLF nilE : Int)
    (h : start ≤ 4294967296) (hc : cur ≤ 4294967296) :
    Gen.C10.lengthFieldCheck cur start stored eLF nilE
      = match pop v crcf raw (.length start stored) cur with
        | .ok _ _ _ => nilE
        | _ => eLF := by
  unfold Gen.C10.lengthFieldCheck pop toI32
  have : sub64 (sub64 (cur : Int) start) 4 = (cur : Int) - start - 4 := by
    unfold sub64
    rw [wrap64_id (x := (cur : Int) - start) ⟨by omega, by omega⟩, wrap64_id ⟨by omega, by omega⟩]
  rw [this]
  simp only []
  split <;> rfl

/-- varintLengthField.check = `pop` of a varint length frame in the CHECKED variant: the size subtracted is the
    number of bytes the varint occupies in the buffer (`binary.Varint(buf[l.startOffset:])`), not reserveLength() -/
theorem varintLengthFieldCheck_eq (crcf : Bool → Bytes → Nat) (raw : Bytes) (start cur fl : Nat) (stored eLF nilE : Int)
    (hfl : 0 < fl) :
    Gen.C10.varintLengthFieldCheck cur start stored eLF nilE fl
      = match pop .checked crcf raw (.varintLength start stored fl) cur with
        | .ok _ _ _ => nilE
        | _ => eLF := by
  unfold Gen.C10.varintLengthFieldCheck pop
  simp only []
  rw [show sub64 (sub64 (cur : Int) start) (fl : Int) = wrap64 ((cur : Int) - start - (fl : Int)) from wrap64_sub_wrap64 _ _]
  have hpos : ¬ ((fl : Int) ≤ 0) := by omega
  simp only [hpos, false_or, ↓reduceIte]
  split <;> rfl

/-- getCompactString after the uvarint -/
theorem compactStringTail_eq (raw : Bytes) (n : Nat) (off1 : Nat) (h : off1 ≤ raw.length) (hlen : raw.length ≤ 4294967296)
    (eS strV eInv eI nilE : Int) :
    Gen.C10.compactStringTail (wrap64 n) (rem raw off1) off1 raw.length eS strV eInv eI nilE
      = match (if Variant.checked = .checked ∧ compactLen' n < 0 then (Res.err .invalidStringLength off1 0 : Res Bytes)
               else if Variant.checked = .checked ∧ compactLen' n > rem raw off1 then .err .insufficient raw.length 0
               else takeString raw off1 (compactLen' n)) with
        | .ok _ off' _ => (strV, nilE, (off' : Int))
        | .err e off' _ => (eS, (if e = .insufficient then eI else eInv), (off' : Int))
        | _ => (0, 0, 0) := by
  unfold Gen.C10.compactStringTail
  rw [show sub64 (wrap64 (n : Int)) 1 = compactLen' n from wrap64_sub_wrap64 _ _]
  generalize compactLen' n = L
  simp only [true_and]
  by_cases h1 : L < 0
  · simp only [h1, ↓reduceIte, reduceCtorEq]
  · by_cases h2 : L > rem raw off1
    · simp only [h1, h2, ↓reduceIte]
    · unfold rem at h2
      have hc : sliceOK raw off1 (off1 + L) := ⟨by omega, by omega, by omega⟩
      have ha := add64_off hlen h h1 h2
      simp only [h1, rem, h2, ↓reduceIte, takeString, hc, ha]

theorem compactNullableStringTail_eq (raw : Bytes) (n : Nat) (off1 : Nat) (h : off1 ≤ raw.length) (hlen : raw.length ≤ 4294967296)
    (strV ptr eI nilV : Int) :
    Gen.C10.compactNullableStringTail (wrap64 n) (rem raw off1) off1 raw.length nilV strV ptr eI nilV
      = match (if compactLen' n < 0 then (Res.ok none off1 0 : Res (Option Bytes))
               else if Variant.checked = .checked ∧ compactLen' n > rem raw off1 then .err .insufficient raw.length 0
               else (takeString raw off1 (compactLen' n)).map some) with
        | .ok none off' _ => (nilV, nilV, (off' : Int))
        | .ok (some _) off' _ => (ptr, nilV, (off' : Int))
        | .err _ off' _ => (nilV, eI, (off' : Int))
        | _ => (0, 0, 0) := by
  unfold Gen.C10.compactNullableStringTail
  rw [show sub64 (wrap64 (n : Int)) 1 = compactLen' n from wrap64_sub_wrap64 _ _]
  generalize compactLen' n = L
  simp only [true_and]
  by_cases h1 : L < 0
  · simp only [h1, ↓reduceIte]
  · by_cases h2 : L > rem raw off1
    · simp only [h1, h2, ↓reduceIte]
    · unfold rem at h2
      have hc : sliceOK raw off1 (off1 + L) := ⟨by omega, by omega, by omega⟩
      have ha := add64_off hlen h h1 h2
      simp only [h1, rem, h2, ↓reduceIte, takeString, hc, ha, Res.map]

/-- the whole-buffer check of decode() and versionedDecode() = `topLevel` -/
theorem decodeTrailing_eq {α : Type} (v : α) (off len a : Nat) (eLen nilE : Int) :
    Gen.C10.decodeTrailing off len eLen nilE
      = match topLevel (.ok v off a) len with
        | .ok _ _ _ => nilE
        | _ => eLen := by
  unfold Gen.C10.decodeTrailing topLevel
  by_cases h : off = len
  · subst h; simp
  · have : ¬ ((off : Int) = (len : Int)) := by omega
    simp [h, this]

theorem versionedDecodeTrailing_eq {α : Type} (v : α) (off len a : Nat) (eLen nilE : Int) :
    Gen.C10.versionedDecodeTrailing off len eLen nilE
      = match topLevel (.ok v off a) len with
        | .ok _ _ _ => nilE
        | _ => eLen :=
  decodeTrailing_eq v off len a eLen nilE

/-- the size check of responseHeader.decode = the first test of `decodeHeader` -/
theorem headerLengthCheck_eq (length maxResp eHdr cid0 cid cidErr : Int) :
    Gen.C10.headerLengthCheck length maxResp eHdr cid0 cid cidErr
      = (if length ≤ 4 ∨ length > maxResp then eHdr else cidErr) := by
  unfold Gen.C10.headerLengthCheck
  split <;> rfl

theorem getHeaderLength_eq (version : Int) : Gen.C10.getHeaderLength version = headerLength version := by
  unfold Gen.C10.getHeaderLength headerLength
  rfl

end Bridge.C10
