import SaramaVerif.Gen.C20
import SaramaVerif.Model.Mocks
/-
  Bridge obligations for C20: the loop-free parts of package mocks, translated from /repo (Gen.C20.*), compute what
  the hand-written model computes.

    * (*SyncProducer).SendMessage       = Model.Mocks.syncSend / syncHandle  (whole method; the variant flag
                                           `retChosen` is whichever the source has: the obligation is
                                           `∃ rc, ∀ inputs, …`, proved for the pinned or the documented text)
    * (*SyncProducer).Close             = closeReports (leftover check)
    * (*Consumer).ConsumePartition      = cStep … (.pc k (.consume off)) (decision table incl. both Errorf calls)
    * (*PartitionConsumer).HighWaterMarkOffset = PC.hwmAnswer

  Go values the translator treats as opaque (`val`: errors, slices, pointers) are arbitrary integers here; `Errorf`
  call sites are made visible by a ghost variable `reported` that each call statement overwrites with its own
  marker (spec: tools/extract/specs/C20.json).  Everything with a loop, a goroutine or a channel (the async mock's
  goroutine, SendMessages, PartitionConsumer.Close/Yield*) is tied by differential execution only.
-/
namespace Bridge.C20
open Go Model.Mocks

/-- which `Errorf` call site of `SendMessage` fired: 0 none, 1 partitioner, 2 checker, 3 no expectation -/
def repCode : List Report → Int
  | [] => 0
  | [.partitionerError _] => 1
  | [.checkerFailed _] => 2
  | [.noExpectation] => 3
  | _ => 99

/-- the Go error value `SendMessage` returns, given the values of the partitioner error, the checker result and
    `expectation.Result` -/
def goErr (c : Except Int Int) (v : Option Int) (r : Option Int) (perr chkRes result nilv : Int) : Int :=
  match c with
  | .error _ => perr
  | .ok _ =>
    match v with
    | some _ => chkRes
    | none => match r with | none => nilv | some _ => result

def verdictOf (e : Exp) (m : Msg) (c : Except Int Int) : Option Int :=
  match c with
  | .error _ => none
  | .ok p => checkVerdict e m p

/-- the regenerated `SendMessage` with at least one expectation left is `syncHandle` for one of the two
    variants (the message enters with `Partition = m.part0`, `Offset = 0`; `tail` is `sp.expectations[1:]`). -/
theorem sendMessage_eq :
    ∃ rc : Bool, ∀ (e : Exp) (m : Msg) (c : Except Int Int) (lo : Int) (n exps tail topic chkRes result eSucc eOOE nilv
        pchoice perr : Int),
      0 < n → InI64 (lo + 1) →
      (perr ≠ nilv ↔ ∃ pc, c = .error pc) → (∀ p, c = .ok p → pchoice = p) →
      (chkRes ≠ nilv ↔ ∃ cc, verdictOf e m c = some cc) → (e.check = none → verdictOf e m c = none) →
      (result = eSucc ↔ e.result = none) →
      Gen.C20.sendMessage n exps tail topic e.check.isSome chkRes result eSucc eOOE nilv lo m.part0 0 0
          pchoice perr 1 2 3 =
        ((syncHandle rc e m c lo).2.1.retPartition, (syncHandle rc e m c lo).2.1.retOffset,
         goErr c (verdictOf e m c) e.result perr chkRes result nilv, tail, (syncHandle rc e m c lo).1,
         (syncHandle rc e m c lo).2.1.msgPartition, (syncHandle rc e m c lo).2.1.msgOffset,
         repCode (syncHandle rc e m c lo).2.2) := by
  -- the partition the generated text returns for a successful call with `pchoice = 1` tells which variant it is
  obtain ⟨rc, hrc⟩ : ∃ rc, rc = decide ((Gen.C20.sendMessage 1 0 0 0 false 0 0 0 1 0 0 0 0 0 1 0 1 2 3).1 = 1) := ⟨_, rfl⟩
  refine ⟨rc, ?_⟩
  -- evaluating the probe turns `hrc` into `rc = false` on the pinned text (it returns partition 0) and into
  -- `rc = true` on the documented one
  simp [Gen.C20.sendMessage] at hrc
  intro e m c lo n exps tail topic chkRes result eSucc eOOE nilv pchoice perr hn hlo hperr hch hchk hnochk hres
  -- the model's answer gets a name: unnamed, every branch below computes it once per component of the tuple
  obtain ⟨⟨lo', out, rep⟩, hsh⟩ : ∃ x, syncHandle rc e m c lo = x := ⟨_, rfl⟩
  rw [hsh, Gen.C20.sendMessage, if_pos hn]
  cases c with
  | error pc =>
    cases hsh
    exact if_pos (hperr.mpr ⟨pc, rfl⟩)
  | ok p =>
    cases hch p rfl
    rw [if_neg fun h => nomatch hperr.mp h]
    rw [syncHandle] at hsh
    dsimp only [verdictOf]
    cases hv : checkVerdict e m pchoice with
    | some cc =>
      rw [hv] at hsh
      cases hsh
      have hk : e.check.isSome = true := by
        cases hck : e.check with
        | none => exact nomatch (hnochk hck).symm.trans hv
        | some _ => rfl
      rw [if_pos hk, if_pos (hchk.mpr ⟨cc, hv⟩)]
      rfl
    | none =>
      rw [hv] at hsh
      -- no checker objected: the source continues with the same text whether or not there is a checker
      rw [if_neg fun h => nomatch (hchk.mp h).choose_spec.symm.trans hv]
      rw [ite_self]
      cases hr : e.result with
      | none =>
        rw [hr, hrc] at hsh
        cases hsh
        rw [if_pos (hres.mpr hr), add64_id hlo]
        rfl
      | some r =>
        rw [hr] at hsh
        cases hsh
        rw [if_neg fun h => nomatch (hres.mp h).symm.trans hr]
        rfl

/-- `SendMessage` without expectations: nothing changes, `errOutOfExpectations`, the third call site fires -/
theorem sendMessage_no_expectation {σ : Type} (P : Part σ) (rc : Bool) (s : PState σ) (hs : s.exps = []) (m : Msg)
    (exps tail topic chkRes result eSucc eOOE nilv pchoice perr : Int) (hasChk : Bool) :
    Gen.C20.sendMessage 0 exps tail topic hasChk chkRes result eSucc eOOE nilv s.lastOffset m.part0 0 0 pchoice perr 1 2 3 =
      ((syncSend P rc s m).2.1.retPartition, (syncSend P rc s m).2.1.retOffset, eOOE, exps, (syncSend P rc s m).1.lastOffset,
       (syncSend P rc s m).2.1.msgPartition, (syncSend P rc s m).2.1.msgOffset, repCode (syncSend P rc s m).2.2) := by
  unfold syncSend
  rw [hs]
  rfl

/-- `SyncProducer.Close` calls `Errorf` (marker 1) iff expectations are left – `closeReports` -/
theorem syncClose_eq {σ : Type} (s : PState σ) (nilErr : Int) :
    Gen.C20.syncClose s.exps.length nilErr 0 1 = (nilErr, if closeReports s = [] then 0 else 1) := by
  unfold Gen.C20.syncClose closeReports
  by_cases h : s.exps.length > 0
  · simp [h]
  · simp [h]

/-- `Consumer.ConsumePartition` on a registered partition = `pcStep … (.consume off)`: result (the registered
    handle / nil), error (nil / "already being consumed"), the `consumed` flag, and the offset-mismatch `Errorf`
    (marker 2) exactly when the model reports `unexpectedOffset` -/
theorem consumePartition_registered (buf : Nat) (k : Key) (pc : PC) (off handle nilv eOOE eDup : Int) :
    Gen.C20.consumePartition false handle pc.consumed pc.offset anyOffset off nilv eOOE eDup 0 1 2 =
      (match (pcStep buf k pc (.consume off)).2.1 with | .consumeOk => handle | _ => nilv,
       match (pcStep buf k pc (.consume off)).2.1 with | .alreadyConsumed => eDup | _ => nilv,
       (pcStep buf k pc (.consume off)).1.consumed,
       if (pcStep buf k pc (.consume off)).2.2 = [] then 0 else 2) := by
  unfold Gen.C20.consumePartition pcStep
  by_cases hc : pc.consumed = true
  · simp [hc]
  · by_cases ho : pc.offset ≠ anyOffset ∧ pc.offset ≠ off
    · simp [hc, ho]
    · simp [hc, ho]

/-- … and on a partition that was never registered = the `.consume` row of `cStep`: nil, errOutOfExpectations,
    nothing changes, the first `Errorf` call site (marker 1) fires -/
theorem consumePartition_unregistered (buf : Nat) (s : CState) (k : Key) (hk : k ∉ s.keys) (off handle poff nilv eOOE eDup : Int)
    (consumed : Bool) :
    Gen.C20.consumePartition true handle consumed poff anyOffset off nilv eOOE eDup 0 1 2 = (nilv, eOOE, consumed, 1) ∧
    cStep buf s (.pc k (.consume off)) = (s, .consumeNoExpectation, [.noPartitionExpectation k]) := by
  unfold Gen.C20.consumePartition cStep
  simp [hk]

/-- `HighWaterMarkOffset()` = `highWaterMarkOffset + 1` = `PC.hwmAnswer`, where the int64 addition does not wrap (`h`) -/
theorem hwmOffset_eq (pc : PC) (h : InI64 ((pc.hwm : Int) + 1)) :
    Gen.C20.hwmOffset pc.hwm = pc.hwmAnswer := by
  unfold Gen.C20.hwmOffset PC.hwmAnswer
  rw [add64_id h]
  omega

end Bridge.C20
