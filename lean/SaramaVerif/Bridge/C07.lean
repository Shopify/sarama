import SaramaVerif.Gen.C07
import SaramaVerif.Model.Group
/-
  Bridge obligations for C07: the verdict classes of the model are the case labels of the three switches in
  consumer_group.go (regenerated Gen.C07.*).
-/
namespace Bridge.C07
open Model.Group

/-- newSession, `switch join.Err`: clause 0 = success, 1 = reset member id and rejoin, 2 = retry with coordinator
    refresh, 3 = retry after back-off; everything else is returned to the caller -/
theorem joinErrCases_eq : Gen.C07.joinErrCases = [[0], [25, 22], [16], [27]] := by decide

theorem syncErrCases_eq : Gen.C07.syncErrCases = [[0], [25, 22], [16], [27]] := by decide

/-- heartbeatLoop, `switch resp.Err`: clause 0 = keep going, clause 1 = end the session silently -/
theorem heartbeatErrCases_eq : Gen.C07.heartbeatErrCases = [[0], [27, 25, 22]] := by decide

theorem classOfCode_matches_join :
    (Gen.C07.joinErrCases.map (fun cl => cl.map classOfCode)) =
      [[.ok], [.fence, .fence], [.notCoord], [.rebalance]] := by decide

theorem classOfCode_matches_sync :
    (Gen.C07.syncErrCases.map (fun cl => cl.map classOfCode)) =
      [[.ok], [.fence, .fence], [.notCoord], [.rebalance]] := by decide

theorem heartbeat_end_classes :
    ((Gen.C07.heartbeatErrCases.getD 1 []).map classOfCode) = [.rebalance, .fence, .fence] := by decide

end Bridge.C07
