import SaramaVerif.Gen.C17
import SaramaVerif.Model.Partitioner
/-
  Bridge obligations for C17: the definitions regenerated from partitioner.go / async_producer.go (Gen.C17.*)
  compute what the hand-written model computes, on all inputs in the Go types' ranges.
-/
namespace Bridge.C17
open Go Model.Partitioner

/-- `%` by a positive int32 does not wrap, nor does negating its result: |a rem n| < n ≤ 2^31-1 -/
private theorem rem32_pos (a n : Int) (hn : 0 < n) (hn2 : InI32 n) :
    rem32 a n = a.tmod n ∧ neg32 (a.tmod n) = -a.tmod n := by
  have h1 := Int.lt_tmod_of_pos a hn
  have h2 := Int.tmod_lt_of_pos a hn
  have b : InI32 (a.tmod n) ∧ InI32 (-a.tmod n) := by unfold InI32 at *; omega
  exact ⟨wrap32_id b.1, wrap32_id b.2⟩

/-- the regenerated arithmetic tail of `hashPartitioner.Partition` is `hashChoice` -/
theorem hashTail_eq (refAbs : Bool) (h n part : Int) (hh : InU32 h) (hn : 0 < n) (hn2 : InI32 n) :
    Gen.C17.hashTail refAbs (wrap32 h) n part = hashChoice refAbs h n := by
  unfold Gen.C17.hashTail hashChoice
  cases refAbs
  · rw [if_neg Bool.false_ne_true, if_neg Bool.false_ne_true, (rem32_pos _ n hn hn2).1]
    dsimp only
    rw [(rem32_pos _ n hn hn2).2]
  · rw [if_pos rfl, if_pos rfl, and32_mask31_of_u32 h hh, (rem32_pos _ n hn hn2).1]

set_option linter.unusedVariables false in
/-- the regenerated `roundRobinPartitioner.Partition` is `rrStep` (no int32 wrap can occur because the increment
    happens only below `n`; the statement also carries `0 ≤ p` and `0 < n`, which its proof does not use) -/
theorem rrPartition_eq (p n e : Int) (hp : 0 ≤ p) (hp2 : InI32 p) (hn : 0 < n) (hn2 : InI32 n) :
    Gen.C17.rrPartition p n e = ((rrStep p n).1, e, (rrStep p n).2) := by
  unfold Gen.C17.rrPartition rrStep
  split
  · rfl
  · -- `p + 1` lies between `p` and `n`, both representable
    rw [add32_id (hp2.between hn2 (Int.le_add_one (Int.le_refl p)) (by omega))]

/-- the regenerated checks of `partitionMessage` after the partition list was fetched are the model's decision
    table (errors as opaque values; `nilErr` is Go's nil): partitioner answered with a choice `c` -/
theorem routeCheck_ok (parts : List Int) (c nilErr eLNA eInv mp : Int) :
    Gen.C17.routeCheck parts.length 0 nilErr eLNA eInv mp (parts.getD c.toNat 0) c nilErr =
    match partitionMessage true (.ok parts) (.ok []) (fun _ => .ok c) with
    | .sent p => (nilErr, p)
    | .errLeaderNotAvailable => (eLNA, mp)
    | .errInvalidPartition => (eInv, mp)
    | _ => (0, 0) := by
  unfold partitionMessage Gen.C17.routeCheck
  simp only [↓reduceIte, ne_eq, not_true_eq_false]
  by_cases h0 : (parts.length : Int) = 0
  · simp only [h0, ↓reduceIte]
  · simp only [h0, ↓reduceIte]
    by_cases hr : c < 0 ∨ c ≥ (parts.length : Int)
    · simp only [hr, ↓reduceIte]
    · simp only [hr, ↓reduceIte]

/-- … partitioner answered with an error `pe` (any value other than nil) -/
theorem routeCheck_err (parts : List Int) (pc pe nilErr eLNA eInv mp looked : Int) (hpe : pe ≠ nilErr) :
    Gen.C17.routeCheck parts.length 0 nilErr eLNA eInv mp looked pc pe =
    match partitionMessage true (.ok parts) (.ok []) (fun _ => .error pe) with
    | .errLeaderNotAvailable => (eLNA, mp)
    | .errPartitioner e => (e, mp)
    | _ => (0, 0) := by
  unfold partitionMessage Gen.C17.routeCheck
  simp only [↓reduceIte, ne_eq, hpe, not_false_eq_true]
  by_cases h0 : (parts.length : Int) = 0
  · simp only [h0, ↓reduceIte]
  · simp only [h0, ↓reduceIte]

end Bridge.C17
