import SaramaVerif.Gen.C19
import SaramaVerif.Model.Admin
/-
  Bridge obligations for C19: what tools/extract regenerates from admin.go / errors.go / *_request.go (Gen.C19.*)
  is what the hand-written model uses.

  Translated: the request-version selection chains, the `requiredVersion` tables, the error-code constants,
  the tail of `DeleteConsumerGroup`, the body of `retryOnError`'s loop (with its exit: return / continue), the
  clauses of `isErrNoController`'s type switch, the complete closures CreateTopic / DeleteTopic /
  CreatePartitions pass to `retryOnError`, and the loop-free pieces of the AlterPartitionReassignments closure
  (NOT_CONTROLLER test, top-level test, per-partition test, final result).
  Tied by correspondence (harness) only: the loop condition of `retryOnError` (a `for` header is not a
  statement), which clause of the type switch a Go error value selects, the `range` loops of the reassignment
  closure and the grouping loops of DeleteRecords / DescribeConsumerGroups.
-/
namespace Bridge.C19
open Model.Admin

theorem errNotController_eq : Gen.C19.errNotController = NOT_CONTROLLER := rfl
theorem errNoError_eq : Gen.C19.errNoError = 0 := rfl
theorem errUnsupportedVersion_eq : Gen.C19.errUnsupportedVersion = 35 := rfl

/-- `CreateTopic`: the two version `if`s, run in source order on the zero value, select the model's version -/
theorem createTopicsVersion_eq (ge011 ge100 : Bool) :
    Gen.C19.createTopicVer2 ge100 (Gen.C19.createTopicVer1 ge011 0) =
      (createTopicsVersionOf ge011 ge100 : Int) := by
  cases ge011 <;> cases ge100 <;> rfl

theorem deleteTopicsVersion_eq (ge011 : Bool) :
    Gen.C19.deleteTopicVer ge011 0 = (deleteTopicsVersionOf ge011 : Int) := by
  cases ge011 <;> rfl

theorem offsetFetchVersion_eq (ge0102 ge0822 : Bool) :
    Gen.C19.offsetFetchVer ge0102 ge0822 0 = (offsetFetchVersionOf ge0102 ge0822 : Int) := by
  cases ge0102 <;> cases ge0822 <;> rfl

/-- `requiredVersion` of the two versioned requests: the switch tables (labels and results; the Kafka
    versions are opaque values `enc V…`) -/
theorem createTopicsRequiredCases_eq : Gen.C19.createTopicsRequiredCases = [[2], [1]] := rfl
theorem deleteTopicsRequiredCases_eq : Gen.C19.deleteTopicsRequiredCases = [[1]] := rfl

theorem createTopicsRequired_eq (enc : List Nat → Int) (ver : Nat) :
    Gen.C19.createTopicsRequired ver (enc V1_0_0_0) (enc V0_11_0_0) (enc V0_10_1_0) =
      enc (createTopicsRequired ver) := by
  -- the same `if` chain on both sides; the translated one tests `(ver : Int) = n`, the model `ver = n`
  rw [createTopicsRequired, apply_ite enc, apply_ite enc]
  exact ite_congr (propext (Int.ofNat_inj (n := 2))) (fun _ => rfl) fun _ =>
    ite_congr (propext (Int.ofNat_inj (n := 1))) (fun _ => rfl) fun _ => rfl

theorem deleteTopicsRequired_eq (enc : List Nat → Int) (ver : Nat) :
    Gen.C19.deleteTopicsRequired ver (enc V0_11_0_0) (enc V0_10_1_0) = enc (deleteTopicsRequired ver) := by
  rw [deleteTopicsRequired, apply_ite enc]
  exact ite_congr (propext (Int.ofNat_inj (n := 1))) (fun _ => rfl) fun _ => rfl

/-- the unversioned requests demand the Kafka version the model's gate uses (the named version variable is
    returned as it is) -/
theorem createPartitionsRequired_eq (enc : List Nat → Int) (kv : List Nat) :
    Gen.C19.createPartitionsRequired (enc V1_0_0_0) = enc (required .createPartitions kv) := rfl
theorem reassignRequired_eq (enc : List Nat → Int) (n : Nat) (kv : List Nat) :
    Gen.C19.reassignRequired (enc V2_4_0_0) = enc (required (.reassign n) kv) := rfl
theorem deleteRecordsRequired_eq (v : Int) : Gen.C19.deleteRecordsRequired v = v := rfl
theorem deleteGroupsRequired_eq (v : Int) : Gen.C19.deleteGroupsRequired v = v := rfl

/-- errors as the opaque values the translated fragment handles: `nil`, `ErrIncompleteResponse`, a KError -/
def encOutcome (eInc nilErr : Int) : Outcome → Int
  | none => nilErr
  | some .incomplete => eInc
  | some (.kerr c) => c
  | some _ => 0

/-- tail of `DeleteConsumerGroup` (after the coordinator answered): the model's `deleteGroup` … -/
theorem deleteGroupInspect_eq (eInc nilErr code : Int) (present : Bool) (kv : List Nat) (b : Nat)
    (hkv : isAtLeast kv V1_1_0_0 = true) :
    Gen.C19.deleteGroupInspect eInc nilErr code present =
      encOutcome eInc nilErr (deleteGroup kv (.ok b) (if present then .code code else .missing)).1 := by
  rw [show deleteGroup kv (.ok b) _ = _ from if_pos hkv]
  cases present
  · rfl
  · by_cases hc : code = 0
    · subst hc; rfl
    · simp [Gen.C19.deleteGroupInspect, encOutcome, hc]

/-- … which is also the decision table `inspectItem` (closures of CreateTopic / DeleteTopic / CreatePartitions)
    applies to its topic -/
theorem deleteGroupInspect_eq_inspectItem (eInc nilErr code : Int) (present : Bool) :
    Gen.C19.deleteGroupInspect eInc nilErr code present =
      encOutcome eInc nilErr (inspectItem (.resp 0 (if present then [(0, code)] else []))).1 := by
  cases present
  · rfl
  · by_cases hc : code = 0
    · subst hc; rfl
    · simp [Gen.C19.deleteGroupInspect, inspectItem, encOutcome, hc]

/-- The regenerated body of `retryOnError`'s loop (`err = fn()`, test, log, sleep, `continue`): exit code 3 =
    `return err`, 1 = `continue`. It is one iteration of the model's `retryLoop`, for any encoding of errors as opaque
    values in which only `nil` encodes "no error". -/
theorem retryLoopBody_eq {σ : Type} (retryable : Err → Bool) (fn : σ → σ × Outcome) (fuel : Nat) (s : σ)
    (last : Outcome) (enc : Outcome → Int) (nilErr err0 : Int) (henc : ∀ o, enc o = nilErr ↔ o = none) :
    (Gen.C19.retryLoopBody err0 nilErr
        (match (fn s).2 with | some e => retryable e | none => false) (enc (fn s).2) = (3, enc (fn s).2) ∧
      retryLoop retryable fn (fuel + 1) s last = fn s) ∨
    (Gen.C19.retryLoopBody err0 nilErr
        (match (fn s).2 with | some e => retryable e | none => false) (enc (fn s).2) = (1, 0) ∧
      retryLoop retryable fn (fuel + 1) s last = retryLoop retryable fn fuel (fn s).1 (fn s).2) := by
  unfold Gen.C19.retryLoopBody
  rcases hfs : fn s with ⟨s', o⟩
  cases o with
  | none =>
    left
    have : enc none = nilErr := (henc none).mpr rfl
    simp [retryLoop, hfs, this]
  | some e =>
    have hne : enc (some e) ≠ nilErr := fun h => by have := (henc (some e)).mp h; cases this
    by_cases hr : retryable e = true
    · right; simp [retryLoop, hfs, hr, hne]
    · left; simp [retryLoop, hfs, hr, hne]

/-- `isErrNoController`, `*TopicError` / `*TopicPartitionError` clause (`e.Err == ErrNotController`; both clauses
    have this text) -/
theorem isNoCtrlTopicError_eq (c : Int) : Gen.C19.isNoCtrlTopicError c = isErrNoController (.kerr c) := rfl

/-- `KError` clause (`e == ErrNotController`) -/
theorem isNoCtrlKError_eq (c : Int) : Gen.C19.isNoCtrlKError c = isErrNoController (.kerr c) := rfl

/-- every other error type: `return false` -/
theorem isNoCtrlDefault_eq (e : Err) (h : ∀ c, e ≠ .kerr c) : Gen.C19.isNoCtrlDefault = isErrNoController e := by
  cases e <;> first | rfl | exact absurd rfl (h _)

/-- errors as opaque values, with `eT` the error of a failed broker call -/
def encOutcomeT (eInc nilErr eT : Int) : Outcome → Int
  | none => nilErr
  | some .incomplete => eInc
  | some .transport => eT
  | some (.kerr c) => c
  | some _ => 0

/-- what the model calls the answer, given what the Go closure saw: the broker call failed (`sendErr ≠ nil`), or a
    response in which the topic is present with `code`, or absent -/
def replyOf (nilErr sendErr : Int) (present : Bool) (code : Int) : Reply :=
  if sendErr ≠ nilErr then .transport else .resp 0 (if present then [(0, code)] else [])

private theorem closure_table (nilErr eInc sendErr code : Int) (present : Bool) :
    (if sendErr ≠ nilErr then (sendErr, false)
     else if ¬ (present = true) then (eInc, false)
     else if code ≠ 0 then (if code = 41 then (code, true) else (code, false))
     else (nilErr, false)) =
    (encOutcomeT eInc nilErr sendErr (inspectItem (replyOf nilErr sendErr present code)).1,
     (inspectItem (replyOf nilErr sendErr present code)).2) := by
  by_cases hs : sendErr = nilErr
  · rw [replyOf, if_neg (not_not_intro hs), if_neg (not_not_intro hs)]
    cases present
    · rfl
    · by_cases hc : code = 0
      · subst hc; rfl
      · by_cases h41 : code = 41
        · subst h41; rfl
        · rw [if_neg (not_not_intro rfl), if_pos hc, if_neg h41, if_pos rfl,
            show inspectItem (.resp 0 [(0, code)]) = _ from if_neg hc]
          exact congrArg (Prod.mk code) (beq_false_of_ne h41).symm
  · rw [replyOf, if_pos hs, if_pos hs]; rfl

/-- the regenerated CreateTopic closure, from `ca.Controller()` (succeeding) to its last return:
    returned error and "did it call refreshController" are the model's `inspectItem` on the answer.
    (The `*TopicError` it returns is represented by its code.) -/
theorem createTopicClosure_eq (nilErr eInc sendErr code : Int) (present : Bool) :
    Gen.C19.createTopicClosure nilErr eInc false true nilErr sendErr present code code =
      (encOutcomeT eInc nilErr sendErr (inspectItem (replyOf nilErr sendErr present code)).1,
       (inspectItem (replyOf nilErr sendErr present code)).2) := by
  rw [← closure_table]; unfold Gen.C19.createTopicClosure
  simp only [ne_eq, not_true_eq_false, ↓reduceIte]

theorem deleteTopicClosure_eq (nilErr eInc sendErr code : Int) (present : Bool) :
    Gen.C19.deleteTopicClosure nilErr eInc false true nilErr sendErr present code =
      (encOutcomeT eInc nilErr sendErr (inspectItem (replyOf nilErr sendErr present code)).1,
       (inspectItem (replyOf nilErr sendErr present code)).2) := by
  rw [← closure_table]; unfold Gen.C19.deleteTopicClosure
  simp only [ne_eq, not_true_eq_false, ↓reduceIte]

theorem createPartitionsClosure_eq (nilErr eInc sendErr code : Int) (present : Bool) :
    Gen.C19.createPartitionsClosure nilErr eInc false true nilErr sendErr present code code =
      (encOutcomeT eInc nilErr sendErr (inspectItem (replyOf nilErr sendErr present code)).1,
       (inspectItem (replyOf nilErr sendErr present code)).2) := by
  rw [← closure_table]; unfold Gen.C19.createPartitionsClosure
  simp only [ne_eq, not_true_eq_false, ↓reduceIte]

/-- a failing `ca.Controller()` ends the closure with that error, nothing refreshed (all three closures) -/
theorem closures_controller_error (nilErr eInc ctlErr sendErr code terr : Int) (present one : Bool)
    (h : ctlErr ≠ nilErr) :
    Gen.C19.createTopicClosure nilErr eInc false one ctlErr sendErr present code terr = (ctlErr, false) ∧
    Gen.C19.deleteTopicClosure nilErr eInc false one ctlErr sendErr present code = (ctlErr, false) ∧
    Gen.C19.createPartitionsClosure nilErr eInc false one ctlErr sendErr present code terr = (ctlErr, false) := by
  simp [Gen.C19.createTopicClosure, Gen.C19.deleteTopicClosure, Gen.C19.createPartitionsClosure, h]

/-- AlterPartitionReassignments closure, top-level NOT_CONTROLLER: refresh the controller and return the code itself
    (exit code 3); anything else falls through (0) — the first branch of `inspectReassign` for a variant with
    `reassignRetries` -/
theorem reassignNotController_eq (v : Variant) (hv : v.reassignRetries = true) (n : Nat) (top : Int)
    (items : List (Nat × Int)) :
    Gen.C19.reassignNotController top false true =
      (if top = NOT_CONTROLLER then ((3 : Int), top, true) else (0, 0, false)) ∧
    (top = NOT_CONTROLLER → inspectReassign v n (.resp top items) = (some (.kerr top), true)) := by
  refine ⟨by by_cases h : top = 41 <;> simp [Gen.C19.reassignNotController, NOT_CONTROLLER, h], ?_⟩
  intro h; simp [inspectReassign, hv, h]

/-- top-level error test: an entry is appended exactly when the model's `topCauses` (variant with
    `reassignTopNonzero`) has one -/
theorem reassignTopError_eq (v : Variant) (hv : v.reassignTopNonzero = true) (top errs0 appended : Int) :
    Gen.C19.reassignTopError top errs0 appended = (if topCauses v top = [] then errs0 else appended) := by
  by_cases h : top = 0
  · subst h; simp [Gen.C19.reassignTopError, topCauses, hv]
  · simp [Gen.C19.reassignTopError, topCauses, hv, h]

/-- per-partition test: an entry is appended exactly when `itemCauses` has one for that partition -/
theorem reassignPartitionError_eq (p : Nat) (code errs0 txt appended : Int) :
    Gen.C19.reassignPartitionError code errs0 txt appended =
      (if itemCauses [(p, code)] = [] then errs0 else appended) := by
  by_cases h : code = 0
  · subst h; simp [Gen.C19.reassignPartitionError, itemCauses]
  · simp [Gen.C19.reassignPartitionError, itemCauses, h]

/-- end of the closure -/
theorem reassignResult_eq (cs : List Cause) (wrapped nilErr : Int) :
    Gen.C19.reassignResult cs.length wrapped nilErr = (if cs = [] then nilErr else wrapped) := by
  cases cs with
  | nil => simp [Gen.C19.reassignResult]
  | cons c cs =>
    have : ((c :: cs).length : Int) > 0 := by simp only [List.length_cons]; omega
    simp only [Gen.C19.reassignResult, this, ↓reduceIte, reduceCtorEq]

end Bridge.C19
