/-
  C02 composition: the facts behind the PER-STAY split of the projection replay (harness/pipe/sys.go: every stay of
  the partition at a real worker - from the lookup that selects it to the chaser that releases it - is a fresh
  model worker).
    * `released_worker_holds_nothing` - in every handover-chain run a worker that the partition producer is not
      bound to holds NOTHING of the partition (nothing in the buffer, at the bridge or held), so no message of a
      stay can be in a set after the stay has ended; its input channel is empty or holds messages that will all be
      bounced followed by the stay's chaser as its LAST token; and while messages are left it refuses the partition.
      `cinv_released` is the same in any state of the chain invariant: the form the simulation (Lemmas/C02splitW) uses.
    * `chaser_resets_worker` - a worker that is not closing and holds nothing, on taking a chaser, is in the state
      of a fresh worker (up to the `stale` flag and the retry marks of other partitions): the next stay at the same
      real worker starts as at a fresh one.  `chaser_keeps_closing`: a closing worker stays closing (why the
      replay does not split a worker that is closed while two stays are alive).
-/
import SaramaVerif.Props.C02chain

namespace Props.C02sys
open Model Model.Pipeline Lemmas.C02sys

theorem cinv_released {M : Nat} {seen : List Nat} {s : Sys} (h : CInv M seen s) (w : Nat) (hw : s.cur ≠ some w) :
    insideB (s.wk w).bp = [] ∧
    ((s.wk w).inq = [] ∨
      (BrokerProd.needsRetry (s.wk w).bp 0 = true ∧
        ∃ D k, (s.wk w).inq = D ++ [finTok k] ∧ (∀ t ∈ D, t.kind = .data) ∧ k < M)) := by
  -- of `CInv`: `Strict`, and `GoodC` with its old workers `olds`, the worker bound last `l`, and that every other
  -- worker is in its initial state
  obtain ⟨_base, _fins, strict, olds, _v, ⟨l, hg, named⟩, _, _, _⟩ := h
  -- a channel that ends with the chaser `k`, at a worker that refuses: the tokens before it are messages (`Strict`)
  have shape : ∀ {q k}, (s.wk w).inq = q ++ [finTok k] → k < M →
      ((s.wk w).bp.closing = true ∨ ((s.wk w).bp.cr 0 = true ∧ AllData q)) →
      BrokerProd.needsRetry (s.wk w).bp 0 = true ∧
        ∃ D k, (s.wk w).inq = D ++ [finTok k] ∧ (∀ t ∈ D, t.kind = .data) ∧ k < M := fun e hk hm =>
    ⟨by rw [needsRetry_iff]; rcases hm with e' | ⟨e', _⟩ <;> simp [e'], _, _, e, strict.released hw e, hk⟩
  by_cases ho : w ∈ olds
  · -- an old worker: `oldok` is the claim, up to `shape`
    obtain ⟨hi, hq⟩ := hg.conc.oldok w ho
    exact ⟨hi, hq.imp_right fun ⟨q, k, e, hk, hm⟩ => shape e hk hm⟩
  · by_cases hl : w = l
    · -- the worker bound last, released (`s.cur = none`): its lane is empty (`tl_lane`), its channel is empty or
      -- ends with its chaser (`lend`), and it refuses since the chaser left (`left_mode`)
      subst hl
      have hc : s.cur = none := hg.conc.cur.resolve_right hw
      obtain ⟨gw, tl, g, hwr, _, _⟩ := hg.rep
      have hfq := hg.conc.finq w (.inl rfl)
      exact ⟨(hwr.tl_lane hc hfq).2.2, (hg.conc.lend trivial hc).imp_right fun ⟨q, k, e⟩ =>
        shape e (hfq (finTok k) (by rw [e]; simp) rfl) (hwr.left_mode hc e)⟩
    · -- any other worker is in its initial state
      have init : s.wk w = {} := Classical.byContradiction fun e => (named w e).elim hl ho
      rw [init]
      exact ⟨rfl, .inl rfl⟩

theorem released_worker_holds_nothing {M : Nat} (hM : 1 ≤ M) (cs : List Choice) (hc : HandoverChain cs) {s : Sys}
    (hr : run M {} cs = some s) (w : Nat) (hw : s.cur ≠ some w) :
    insideB (s.wk w).bp = [] ∧
    ((s.wk w).inq = [] ∨
      (BrokerProd.needsRetry (s.wk w).bp 0 = true ∧
        ∃ D k, (s.wk w).inq = D ++ [finTok k] ∧ (∀ t ∈ D, t.kind = .data) ∧ k < M)) := by
  obtain ⟨seen, h⟩ := chain_run hM cs hc (fun _ _ hm => by cases hm) (chain_init M) hr
  exact cinv_released h w hw

theorem chaser_resets_worker (M : Nat) (b : BrokerProd.St) (t : Pipeline.Tok) (ov : Bool) (hk : t.kind = .fin)
    (hp : t.part = 0) (hw : b.wait = none) (hcl : b.closing = false) (hb : b.buffer = []) (hs : b.sets = []) :
    (BrokerProd.step M b (.recv t ov)).1.closing = false ∧ (BrokerProd.step M b (.recv t ov)).1.cr 0 = false ∧
    (BrokerProd.step M b (.recv t ov)).1.buffer = [] ∧ (BrokerProd.step M b (.recv t ov)).1.sets = [] ∧
    (BrokerProd.step M b (.recv t ov)).1.wait = none := by
  obtain ⟨_, h2, h3, h4, h5, h6⟩ := recv_fin_spec M b t ov hw hk hp
  exact ⟨by rw [h2, hcl], by rw [h6, hcl]; rfl, by rw [h3, hb], by rw [h4, hs], by rw [h5, hw]⟩

theorem chaser_keeps_closing (M : Nat) (b : BrokerProd.St) (t : Pipeline.Tok) (ov : Bool) (hk : t.kind = .fin)
    (hp : t.part = 0) (hw : b.wait = none) (hcl : b.closing = true) :
    (BrokerProd.step M b (.recv t ov)).1.closing = true := by
  rw [(recv_fin_spec M b t ov hw hk hp).2.1, hcl]

/-! The per-stay split stated for the model (`splitRun`).  With this translation the simulation (`SplitSim`) is not
    proved; Props/C02split.lean proves that SOME handover chain with the same log and outcomes exists (`split_sim`),
    which is what `LogOrder` needs.  `splitRun` is evaluated on the instance below; what the replay checks on every
    projected real run is its own translation (harness/pipe/sys.go): the translated choices are a run of the model
    with the observed log and outcomes, and a handover chain (`chainScope`). -/

/-- translator state: fresh ids per broker, and for every real worker its stays, oldest first:
    (model worker of the stay, tokens of the stay still in the real worker's input channel) -/
structure SplitSt where
  cnt   : Nat → Nat := fun _ => 0
  stays : Nat → List (Nat × Nat) := fun _ => []
  serving : Nat → Option Nat := fun _ => none   -- the stay whose token the real worker took last

def setF {α : Type} (f : Nat → α) (w : Nat) (v : α) : Nat → α := fun k => if k = w then v else f k

/-- the tokens appended to the input channel of real worker `w` in one step, attributed to stays: a chaser ends the
    open stay, a syn opens a stay at a fresh model worker, a message belongs to the open stay -/
def attrib (t : SplitSt) (w : Nat) : List Pipeline.Tok → SplitSt × List Nat
  | [] => (t, [])
  | x :: r =>
    if x.kind = .syn then
      let id := (w / 64) * 64 + t.cnt (w / 64)
      let t1 : SplitSt := { t with cnt := setF t.cnt (w / 64) (t.cnt (w / 64) + 1),
                                   stays := setF t.stays w (t.stays w ++ [(id, 1)]) }
      ((attrib t1 w r).1, id :: (attrib t1 w r).2)
    else
      let st := t.stays w
      let st' := match st.reverse with
        | (id, n) :: rest => (rest.reverse ++ [(id, n + 1)])
        | [] => st
      attrib { t with stays := setF t.stays w st' } w r

/-- the model worker that takes the next token of real worker `w` -/
def headStay (t : SplitSt) (w : Nat) : Option Nat :=
  match (t.stays w).filter (fun p => decide (0 < p.2)) with
  | (id, _) :: _ => some id
  | [] => none

-- a token of the oldest stay that has tokens left is taken
def popStay : List (Nat × Nat) → List (Nat × Nat)
  | [] => []
  | (id, n) :: r => if n = 0 then (id, n) :: popStay r else (id, n - 1) :: r

/-- the model worker that stands for real worker `w` in a bridge step -/
def serves (t : SplitSt) (w : Nat) : Nat :=
  match t.serving w with
  | some id => id
  | none => match t.stays w with
    | (id, _) :: _ => id
    | [] => w

/-- the workers a partition-producer step pushes to -/
def touched (s : Sys) (lks : List (Option Nat)) : List Nat :=
  (s.cur.toList ++ lks.filterMap id).eraseDups

/-- `ppActs`, returning the lookups that were not used -/
def ppActsL (s : Sys) (lks : List (Option Nat)) : List PartProd.Action → List (Option Nat)
  | [] => lks
  | a :: as => ppActsL (ppAct s lks a).1 (ppAct s lks a).2 as

/-- the lookups that were used: failures stay failures, successes name the fresh workers -/
def fill : List (Option Nat) → List Nat → List (Option Nat)
  | [], _ => []
  | none :: l, ids => none :: fill l ids
  | some _ :: l, id :: ids => some id :: fill l ids
  | some x :: l, [] => some x :: fill l []

/-- translate one choice of a run with re-selection (state `s`, successor `s'`) -/
def splitStep (t : SplitSt) (s s' : Sys) : Choice → SplitSt × Choice
  | .ppRecv lks =>
    let r := (touched s lks).foldl (fun (acc : SplitSt × List Nat) w =>
      let a := attrib acc.1 w ((s'.wk w).inq.drop (s.wk w).inq.length)
      (a.1, acc.2 ++ a.2)) (t, [])
    let used := lks.take (lks.length - (ppActsL { s with pq := s.pq.tail, pp := (PartProd.recv s.pp (toPP (s.pq.headD synTok))).1 } lks
      (PartProd.recv s.pp (toPP (s.pq.headD synTok))).2).length)
    (r.1, .ppRecv (fill used r.2))
  | .bpRecv w ov =>
    match headStay t w with
    | some id => ({ t with stays := setF t.stays w (popStay (t.stays w)), serving := setF t.serving w (some id) }, .bpRecv id ov)
    | none => (t, .bpRecv w ov)
  | .handover w => (t, .handover (serves t w))
  | .broker w v => (t, .broker (serves t w) v)
  | .deliver w st => (t, .deliver (serves t w) st)
  | .closeW w => (t, .closeW (serves t w))
  | c => (t, c)

/-- the translated choice sequence of a run (none: the run is not a run of the model) -/
def splitRun (M : Nat) : Sys → SplitSt → List Choice → Option (List Choice)
  | _, _, [] => some []
  | s, t, c :: cs =>
    match sysStep M s c with
    | none => none
    | some s' => (splitRun M s' (splitStep t s s' c).1 cs).map (fun l => (splitStep t s s' c).2 :: l)

def freshAfter (k : Worker) : Bool :=
  !k.bp.closing && !k.bp.stale && !k.bp.cr 0 && k.bp.buffer.isEmpty && k.bp.sets.isEmpty && k.bp.wait.isNone &&
  k.pend.isNone

/-- the side condition of the split, decidable along the run: whenever a worker takes a chaser it is afterwards as a
    fresh worker (what the replay skips otherwise: a worker closed while two stays are alive, a set of two stays) -/
def splitOK (M : Nat) : Sys → List Choice → Bool
  | _, [] => true
  | s, c :: cs =>
    match sysStep M s c with
    | none => false
    | some s' =>
      (match c with
        | .bpRecv w _ => (match (s.wk w).inq with
          | x :: _ => if x.kind = .fin then freshAfter (s'.wk w) else true
          | [] => true)
        | _ => true) && splitOK M s' cs

/-- The simulation by the translation `splitRun`: a run in which workers are selected again, each time as fresh as
    after their chaser, has the same log and outcomes as its translation, which is a handover chain.  Not proved in
    this form (`split_sim` in Props/C02split.lean has the handover chain under an existential, for runs whose choices
    list at most 64 successful lookups); the instance `exReselect` below is evaluated. -/
def SplitSim (M : Nat) : Prop :=
  ∀ (cs : List Choice) (s : Sys), splitOK M {} cs = true → run M {} cs = some s →
    ∃ cs' s', splitRun M {} {} cs = some cs' ∧ HandoverChain cs' ∧ run M {} cs' = some s' ∧
      s'.log = s.log ∧ s'.succ = s.succ ∧ s'.errs = s.errs

theorem logOrder_congr {s s' : Sys} (hl : s'.log = s.log) (hs : s'.succ = s.succ) (h : LogOrder s') : LogOrder s := by
  rw [LogOrder, ← hl, ← hs]; exact h

theorem log_order_reselect_of_splitSim {M : Nat} (hM : 1 ≤ M) (hsim : SplitSim M) (cs : List Choice) (s : Sys)
    (hok : splitOK M {} cs = true) (hr : run M {} cs = some s) : LogOrder s := by
  obtain ⟨cs', s', _, hc, hr', hl, hs, _⟩ := hsim cs s hok hr
  exact logOrder_congr hl hs (log_order_handover_chain hM cs' hc hr')

/-- the partition selects worker 0 again after a retriable failure -/
def exReselect : List Choice :=
  [.submit, .submit, .submit, .dispatch, .dispatch, .ppRecv [some 0], .ppRecv [],
   .bpRecv 0 false, .bpRecv 0 false, .bpRecv 0 false, .handover 0, .broker 0 (.retriable true), .deliver 0 false,
   .retryOut, .retryOut, .dispatch, .dispatch, .dispatch,
   .ppRecv [], .ppRecv [some 0], .ppRecv [],
   .submit, .dispatch, .ppRecv [],
   .bpRecv 0 false, .bpRecv 0 false,
   .bpRecv 0 false, .bpRecv 0 false, .bpRecv 0 false, .handover 0, .broker 0 .ok, .deliver 0 false,
   .retryOut, .retryOut, .dispatch, .dispatch, .ppRecv [], .ppRecv [],
   .bpRecv 0 false, .bpRecv 0 false, .handover 0, .broker 0 .ok, .deliver 0 false]

example : ¬ HandoverChain exReselect := by decide +kernel
theorem splitOK_exReselect : splitOK 2 {} exReselect = true := by decide +kernel

example : splitOK 2 {} exReselect = true := splitOK_exReselect

/-- the translation of `exReselect` by `splitRun` is a handover chain, and running it gives the log, successes and
    errors of the run of `exReselect` -/
example : (splitRun 2 {} {} exReselect).map (fun cs => decide (HandoverChain cs)) = some true := by decide +kernel
example : ((splitRun 2 {} {} exReselect).bind (fun cs => run 2 {} cs)).map (fun s => (s.log, s.succ, s.errs)) =
    (run 2 {} exReselect).map (fun s => (s.log, s.succ, s.errs)) := by decide +kernel

end Props.C02sys
