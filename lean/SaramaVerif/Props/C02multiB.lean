/-
  `BRp p`: the relation between the inner states of a shared worker and of the one-partition worker that every
  worker step keeps.  It serves one direction only - a step of the shared worker is followed by the one-partition
  worker - and so leaves the `stale` flag of the one-partition worker free: no step lemma needs to know whether that
  worker could hand over an empty set of its own.
-/
import SaramaVerif.Props.C02multiS
import SaramaVerif.Props.C02multiV

namespace Props.C02sys
open Model Model.Pipeline Model.PipelineN Lemmas.C02sys

section
open Model.BrokerProd

def projPend (p : Int) : Option (RespN × (Int → Nat)) → Option (Pipeline.Verdict × Nat)
  | none => none
  | some (r, base) => some (projV p r, base p)

/-- `j` is what the shared worker `k` is for `p` (`SeenAs`, here as an equation; `stale` is not related); the sets at
    the bridge are the projected sets, or (`hid`) they are HIDDEN: `k` has sets at the bridge, none of them holds
    anything of `p`, and `j` has no set and no pending answer. -/
def BRp (p : Int) (k : WorkerN) (j : Worker) : Prop :=
  ∃ hid : Bool,
    j.bp = ({ projB p k.bp with sets := j.bp.sets, stale := j.bp.stale } : St) ∧
    j.bp.sets = (if hid then [] else k.bp.sets.map (projL p)) ∧
    (hid = true → k.bp.sets ≠ [] ∧ ∀ x ∈ k.bp.sets, projL p x = []) ∧
    (k.bp.sets = [] → k.pend = none) ∧
    j.pend = (if hid then none else projPend p k.pend)

theorem innerOnly_BRp (p : Int) : InnerOnly (BRp p) := by
  intro k k' j j' h1 h2 h3 h4 ⟨hid, a⟩
  exact ⟨hid, by rw [h3, h1, h2, h4]; exact a⟩

variable {p : Int} {k : WorkerN} {j : Worker}

theorem BRp.visible (c : SeenAs p k.bp j.bp) (hs : j.bp.sets = k.bp.sets.map (projL p))
    (hk : k.bp.sets = [] → k.pend = none) (hp : j.pend = projPend p k.pend) : BRp p k j :=
  ⟨false, seenAs_iff.1 c, hs, nofun, hk, hp⟩

theorem BRp.hidden (c : SeenAs p k.bp j.bp) (hs : j.bp.sets = []) (hne : k.bp.sets ≠ [])
    (hall : ∀ x ∈ k.bp.sets, projL p x = []) (hp : j.pend = none) : BRp p k j :=
  ⟨true, seenAs_iff.1 c, hs, fun _ => ⟨hne, hall⟩, fun e => absurd e hne, hp⟩

theorem BRp.seenAs (h : BRp p k j) : SeenAs p k.bp j.bp := by
  obtain ⟨_, hb, _⟩ := h
  exact seenAs_iff.2 hb

theorem BRp.of_seenAs {k' : WorkerN} {j' : Worker} (h : BRp p k j) (c : SeenAs p k'.bp j'.bp)
    (hk : k'.bp.sets = k.bp.sets) (hkp : k'.pend = k.pend) (hj : j'.bp.sets = j.bp.sets) (hjp : j'.pend = j.pend) :
    BRp p k' j' := by
  obtain ⟨hid, _, a⟩ := h
  exact ⟨hid, seenAs_iff.1 c, by rw [hj, hk, hkp, hjp]; exact a⟩

theorem brp_free (h : BRp p k j) (hk : k.bp.sets = []) : j.bp.sets = [] ∧ k.pend = none ∧ j.pend = none := by
  obtain ⟨hid, _, hs1, _, hk0, hpend⟩ := h
  rw [hs1, hpend, hk0 hk, hk]
  cases hid <;> exact ⟨rfl, rfl, rfl⟩

theorem brp_visible (h : BRp p k j) (hj : j.bp.sets ≠ []) :
    j.bp.sets = k.bp.sets.map (projL p) ∧ j.pend = projPend p k.pend := by
  obtain ⟨hid, _, hs1, _, _, hpend⟩ := h
  cases hid with
  | true => exact absurd hs1 hj
  | false => exact ⟨hs1, hpend⟩

theorem brp_hidden (h : BRp p k j) (hj : j.bp.sets = []) (hk : k.bp.sets ≠ []) :
    (∀ x ∈ k.bp.sets, projL p x = []) ∧ j.pend = none := by
  obtain ⟨hid, _, hs1, hhid, _, hpend⟩ := h
  cases hid with
  | true => exact ⟨(hhid rfl).2, hpend⟩
  | false =>
    rw [hj] at hs1
    exact absurd (List.map_eq_nil_iff.mp hs1.symm) hk

theorem projB_init (p : Int) : projB p {} = {} := by
  simp only [projB, projWait, projL, onPart]
  congr 1
  funext q; simp

theorem wrel_init (p : Int) : WRel (BRp p) p {} {} :=
  ⟨qrel_init p, rfl, fun _ => rfl,
   fun _ => .visible (seenAs_iff.2 (by rw [projB_init])) rfl (fun _ => rfl) rfl⟩

end

end Props.C02sys
