import SaramaVerif.Model.BrokerProdIdem
import SaramaVerif.Props.C02bp
/-
  The broker worker of the IDEMPOTENT producer (`Model.BrokerProdIdem.stepIE`): what carries over from Props/C02bp.lean
  and what does not.  Everything is for EVERY input sequence (tokens, hand-overs, responses, sets injected by
  retryBatch goroutines, failing buffer.add) from the worker's initial state.

    bpI_at_most_one_set_in_flight   unchanged: the bridge holds at most one set, own or injected
    bpI_conservation                per (id, partition): received from partition producers + injected by retryBatch
                                    = in set + in buffer + held + left (success / failure / bounce) + GIVEN TO retryBatch
                                    (the third sink; nothing is lost or duplicated by the worker itself)
    bpI_only_data_buffered          the buffer and the held message are data tokens (a fin is never buffered)
    bpI_quiet_while_refused         while a partition is refused and neither its fin nor a syn arrives, nothing of it is
                                    added to the buffer and nothing of it is in the buffer
    bpI_empty_set_needs_stale       as in C02bp, for hand-overs outside waitForSpace
    (example)                       the per-partition FIFO of C02bp (bp_partition_fifo, bp_bounces_in_order for the set
                                    part) does NOT carry over: a batch in the hands of retryBatch and a younger message
                                    in the buffer reach the bridge in either order - the known retryBatch reordering
-/
namespace Props.C05bp
open Model.BrokerProd Model.BrokerProdIdem Props.C02bp

/-- every token of partition `p` leaving the worker through an action (fin chasers included) -/
def outA (p : Int) : Action → Option Int
  | .requeue i q _ _ => if q = p then some i else none
  | .expire i q _ => if q = p then some i else none
  | .succ i q => if q = p then some i else none
  | .fail i q => if q = p then some i else none
  | _ => none

def outAll (p : Int) (as : List Action) : List Int := as.filterMap (outA p)

theorem outAll_eq (p : Int) : outAll p = view true (fun _ => true) false p := by
  funext as; unfold outAll view; congr 1; funext a
  cases a <;> rfl

theorem outAll_nil (p : Int) : outAll p [] = [] := rfl

theorem onPart_nil (p : Int) : onPart p [] = [] := rfl

/-! handleResponse of the idempotent worker differs from the plain one's in one point: the messages of the answered
  set that the plain worker hands to retryMessage are given to retryBatch instead.  The state afterwards is the same. -/

theorem loop2I_loop2 (max : Nat) (v : Int → Verdict) (ps : List Int) (rem : List Tok) (s : St) :
    (loop2I max v ps rem s).1 = (loop2 max v ps rem s).1 ∧
    List.Perm (loop2 max v ps rem s).2 (retryMsgs max (loop2I max v ps rem s).2.2.flatten ++ (loop2I max v ps rem s).2.1) := by
  induction ps generalizing rem s with
  | nil => exact ⟨rfl, .refl _⟩
  | cons q ps ih =>
    unfold loop2I loop2
    split
    · exact ih _ _
    · obtain ⟨a, b⟩ := ih (offPart q rem) { s with cr := setCr s.cr q true, buffer := offPart q s.buffer }
      refine ⟨a, ?_⟩
      simp only [List.flatten_cons, retryMsgs, List.map_append, List.append_assoc] at b ⊢
      -- `b` behind the buffer part of `q`; the retries of the later batches then move to the front, past that buffer
      -- part and past `drop q`; the retries of `q`'s part of the set stay in front of everything
      exact ((((b.append_left _).trans (List.perm_append_comm_assoc ..)).cons _).trans List.perm_middle.symm).append_left _

theorem handleI_handle (max : Nat) (s : St) (sent : List Tok) (r : Resp) :
    (handleI max s sent r).1 = (handle max s sent r).1 ∧
    List.Perm (handle max s sent r).2 (retryMsgs max (handleI max s sent r).2.2.flatten ++ (handleI max s sent r).2.1) := by
  cases r with
  | verdicts v o1 o2 =>
    simp only [handleI, handle]
    split
    · obtain ⟨a, b⟩ := loop2I_loop2 max v (o2 ++ partsOf sent) sent s
      exact ⟨a, (b.append_left _).trans (List.perm_append_comm_assoc ..)⟩
    · exact ⟨rfl, .refl _⟩
  | encErr o => exact ⟨rfl, .refl _⟩
  | connErr o1 o2 => exact ⟨rfl, .refl _⟩

theorem adds_handleI (max : Nat) (s : St) (sent : List Tok) (r : Resp) (p : Int) : adds p (handleI max s sent r).2.1 = [] := by
  have h := ((handleI_handle max s sent r).2.filterMap (addD p)).symm
  have e : adds p (handle max s sent r).2 = [] := by
    rw [adds_eq, handle_view, seen_none, seen_none]; split <;> rfl
  rw [show List.filterMap (addD p) (handle max s sent r).2 = adds p (handle max s sent r).2 from rfl, e,
    List.perm_nil, List.filterMap_append] at h
  exact (List.append_eq_nil_iff.1 h).2

theorem handleI_count (max : Nat) (s : St) (sent : List Tok) (r : Resp) (p i : Int) :
    (ids (onPart p (handleI max s sent r).2.2.flatten)).count i + (outAll p (handleI max s sent r).2.1).count i +
      (ids (onPart p (handleI max s sent r).1.buffer)).count i =
    (ids (onPart p sent)).count i + (ids (onPart p s.buffer)).count i := by
  have h := ((handleI_handle max s sent r).2.filterMap (outA p)).count_eq i
  have e := congrArg (List.count i) (handle_out (r := fun _ => true) (a := false) max s sent r p (seen_all _) (seen_all _))
  have b : outAll p (retryMsgs max (handleI max s sent r).2.2.flatten) = ids (onPart p (handleI max s sent r).2.2.flatten) := by
    rw [outAll_eq, view_retryMsgs, seen_all]
  rw [← outAll_eq] at e
  simp only [outAll, List.filterMap_append, List.count_append, (handleI_handle max s sent r).1] at h e b ⊢
  rw [b] at h
  omega

def arrivedI (s : St) : InI → List Tok
  | .recv t _ => if s.wait.isSome then [] else if t.kind = .syn then [] else [t]
  | .inject set => if s.sets.isEmpty then set else []
  | _ => []

/-- the sinks of conservation, counted for the token `i` of partition `p` in a result `r` (state, actions, batches
    given to retryBatch): left through an action + inside + given to retryBatch -/
def bal (p : Int) (i : Int) (r : St × List Action × List (List Tok)) : Nat :=
  (outAll p r.2.1).count i + (ids (onPart p (inside r.1))).count i + (ids (onPart p r.2.2.flatten)).count i

theorem count_nil_add {a : List Int} (i : Int) (n : Nat) (h : a = []) : a.count i + n = n := by
  subst h; exact Nat.zero_add n

theorem count_pad {a b c d : List Int} (i : Int) (h1 : a = []) (h2 : b = c) (h3 : d = []) :
    a.count i + b.count i = c.count i + d.count i := by
  subst h2 h3; exact count_nil_add i _ h1

theorem bal_nil (p i : Int) (s : St) (acts : List Action) :
    bal p i (s, acts, []) = (outAll p acts).count i + (ids (onPart p (inside s))).count i := Nat.add_zero _

theorem recv_bal {max : Nat} {s : St} {t : Tok} {ov : Bool} {r : St × List Action} {a : List Tok}
    (c : RecvCase max s t ov r a) (p i : Int) :
    (outAll p r.2).count i + (ids (onPart p (inside r.1))).count i =
      (ids (onPart p (inside s))).count i + (ids (onPart p a)).count i := by
  rw [outAll_eq]
  rcases recv_inside c with ⟨e, rfl, n, _⟩ | ⟨v, n, _⟩
  · rw [e, n, view_bounce, seen_all]; exact Nat.add_comm ..
  · rw [v, n, onPart_append, ids_append, List.count_append]; exact Nat.zero_add _

theorem handover_bal {s : St} {r : St × List Action} (c : HandoverCase s r) (p i : Int) :
    (outAll p r.2).count i + (ids (onPart p (inside r.1))).count i = (ids (onPart p (inside s))).count i := by
  have : outAll p r.2 = [] := by cases c <;> rfl
  rcases handover_frame c with ⟨a, _⟩ | rfl
  · rw [a]; exact count_nil_add i _ this
  · exact count_nil_add i _ rfl

theorem handoverI_bal (s : St) (again : Bool) (p i : Int) :
    (outAll p (handoverI s again).2).count i + (ids (onPart p (inside (handoverI s again).1))).count i =
      (ids (onPart p (inside s))).count i := by
  unfold handoverI
  split
  · next h0 =>
    have hs : s.sets = [] := by simp only [Bool.and_eq_true, List.isEmpty_iff] at h0; exact h0.2
    simp [inside, hs, outAll_nil]
  · exact handover_bal (handover_case s) p i

theorem inject_bal (s : St) (set : List Tok) (p i : Int) :
    (outAll p (inject s set).2).count i + (ids (onPart p (inside (inject s set).1))).count i =
      (ids (onPart p (inside s))).count i + (ids (onPart p (arrivedI s (.inject set)))).count i := by
  unfold inject arrivedI
  cases hs : s.sets with
  | nil => simp [hs, inside, outAll_nil, onPart_append, ids_append]; omega
  | cons => exact count_pad i rfl rfl rfl

theorem recheck_bal {max : Nat} {x : St} {acts : List Action} {still : Bool} {r : St × List Action}
    (c : RecheckCase max x acts still r) (p i : Int) :
    (outAll p r.2).count i + (ids (onPart p (inside r.1))).count i =
      (outAll p acts).count i + (ids (onPart p (inside x))).count i := by
  rw [outAll_eq]
  cases c with
  | free w => rfl
  | stay => rfl
  | @bounce _ t w =>
    rw [view_append, show [retryMsg max t] = retryMsgs max [t] from rfl, view_retryMsgs, seen_all]
    simp only [inside, w, Option.toList_none, Option.toList_some, onPart_append, ids_append, List.count_append,
      List.append_nil]
    omega
  | @add t w =>
    rw [view_append, show view true (fun _ => true) false p [Action.add t.id t.part] = [] from rfl, List.append_nil]
    simp only [inside, w, Option.toList_none, Option.toList_some, List.append_nil, List.append_assoc]

theorem answer_bal (max : Nat) (x : St) (acts : List Action) (still : Bool) (batches : List (List Tok)) (p i : Int) :
    bal p i ((recheck max x acts still).1, (recheck max x acts still).2, batches) =
      (outAll p acts).count i + (ids (onPart p (inside x))).count i + (ids (onPart p batches.flatten)).count i := by
  unfold bal; rw [← recheck_bal (recheck_case max x acts still) p i]

theorem respI_bal (max : Nat) (s : St) (r : Resp) (still : Bool) (p i : Int) :
    bal p i (respI max s r still) = (ids (onPart p (inside s))).count i := by
  unfold respI
  split
  · exact (bal_nil ..).trans (count_nil_add i _ rfl)
  · next sent rest hs =>
    obtain ⟨f1, f2, _⟩ := handle_frame max { s with sets := rest } sent r
    have hc := handleI_count max { s with sets := rest } sent r p i
    rw [← (handleI_handle ..).1] at f1 f2
    rw [answer_bal]
    -- of handleResponse only `hc` (the set and the buffer) and `f1`, `f2` (the other sets and the held message) matter
    generalize handleI max { s with sets := rest } sent r = x at f1 f2 hc ⊢
    simp only [inside, hs, f1, f2, List.flatten_cons, onPart_append, ids_append, List.count_append] at hc ⊢
    omega

theorem failAdd_cases (r : St × List Action × List (List Tok)) :
    failAdd r = r ∨ ∃ ys t, r.1.buffer = ys ++ [t] ∧
      failAdd r = ({ r.1 with buffer := ys, stale := true }, r.2.1 ++ [Action.fail t.id t.part], r.2.2) := by
  unfold failAdd
  split
  · next t _ h2 =>
    obtain ⟨ys, hys⟩ := List.getLast?_eq_some_iff.1 h2
    exact Or.inr ⟨ys, t, hys, by rw [hys, List.dropLast_concat]⟩
  · exact Or.inl rfl

theorem failAdd_bal (r : St × List Action × List (List Tok)) (p i : Int) : bal p i (failAdd r) = bal p i r := by
  rcases failAdd_cases r with e | ⟨ys, t, hb, e⟩
  · rw [e]
  · have ho : List.filterMap (outA p) [Action.fail t.id t.part] = ids (onPart p [t]) :=
      (congrFun (outAll_eq p) _).trans (view_fail [t])
    simp only [e, bal, outAll, List.filterMap_append, ho, inside, hb, onPart_append, ids_append, List.count_append]
    omega

/-- a failing buffer.add moves its message from the buffer to a `fail` action, which changes neither side -/
theorem stepIE_bal (max : Nat) (s : St) (inp : InI) (addErr : Bool) (p i : Int) :
    bal p i (stepIE max s inp addErr) =
      (ids (onPart p (inside s))).count i + (ids (onPart p (arrivedI s inp))).count i := by
  have base : bal p i (stepI max s inp) =
      (ids (onPart p (inside s))).count i + (ids (onPart p (arrivedI s inp))).count i := by
    cases inp with
    | recv t ov => exact (bal_nil ..).trans (recv_bal (recv_case max s t ov) p i)
    | handover again => exact (bal_nil ..).trans ((handoverI_bal s again p i).trans (Nat.add_zero _).symm)
    | resp r still => exact (respI_bal max s r still p i).trans (Nat.add_zero _).symm
    | inject set => exact (bal_nil ..).trans (inject_bal s set p i)
  unfold stepIE
  split
  · rw [failAdd_bal]; exact base
  · exact base

def own (s : St) : List Tok := s.buffer ++ s.wait.toList

theorem stepIE_inv (max : Nat) (s : St) (inp : InI) (addErr : Bool) (h : Own s) : Own (stepIE max s inp addErr).1 := by
  have base : Own (stepI max s inp).1 := by
    cases inp with
    | recv t ov => exact recv_own (recv_case max s t ov) h
    | handover again =>
      simp only [stepI, handoverI]
      split
      · exact h.mono (Nat.le_refl 1) (fun _ e => e) fun x hx => Or.inl (List.mem_append_right _ hx)
      · exact handover_own (handover_case s) h
    | resp r still =>
      simp only [stepI, respI]
      split
      · exact h
      · next sent rest hs => rw [(handleI_handle max { s with sets := rest } sent r).1]; exact answer_own r still _ h hs
    | inject set =>
      simp only [stepI, inject]
      split
      · exact h
      · exact h.mono (Nat.le_refl 1) (fun _ e => e) fun _ m => Or.inl m
  unfold stepIE
  split
  · rcases failAdd_cases (stepI max s inp) with e | ⟨ys, t, hb, e⟩
    · rw [e]; exact base
    · rw [e]
      refine base.mono base.one (fun _ e => e) fun x hx => Or.inl ?_
      rw [hb, List.append_assoc]
      exact (List.mem_append.1 hx).elim (List.mem_append_left _) fun m => List.mem_append_right _ (List.mem_append_right _ m)
  · exact base

/-- a run: inputs paired with "the final buffer.add of this step fails" -/
def runIE (max : Nat) (s : St) : List (InI × Bool) → St × List Action × List (List Tok)
  | [] => (s, [], [])
  | i :: is =>
    ((runIE max (stepIE max s i.1 i.2).1 is).1, (stepIE max s i.1 i.2).2.1 ++ (runIE max (stepIE max s i.1 i.2).1 is).2.1,
     (stepIE max s i.1 i.2).2.2 ++ (runIE max (stepIE max s i.1 i.2).1 is).2.2)

def arrivalsI (max : Nat) (s : St) : List (InI × Bool) → List Tok
  | [] => []
  | i :: is => arrivedI s i.1 ++ arrivalsI max (stepIE max s i.1 i.2).1 is

theorem runIE_inv (max : Nat) (s : St) (ins : List (InI × Bool)) (h : Own s) : Own (runIE max s ins).1 := by
  induction ins generalizing s with
  | nil => exact h
  | cons i is ih => exact ih _ (stepIE_inv max s i.1 i.2 h)

theorem runIE_bal (max : Nat) (s : St) (ins : List (InI × Bool)) (p i : Int) :
    bal p i (runIE max s ins) =
      (ids (onPart p (inside s))).count i + (ids (onPart p (arrivalsI max s ins))).count i := by
  induction ins generalizing s with
  | nil => exact (bal_nil ..).trans (count_pad i rfl rfl rfl)
  | cons x xs ih =>
    have a := stepIE_bal max s x.1 x.2 p i
    have b := ih (stepIE max s x.1 x.2).1
    simp only [bal, runIE, arrivalsI, List.flatten_append, onPart_append, ids_append, List.count_append,
      outAll, List.filterMap_append] at a b ⊢
    omega

theorem bpI_at_most_one_set_in_flight (max : Nat) (ins : List (InI × Bool)) : (runIE max {} ins).1.sets.length ≤ 1 :=
  (runIE_inv max {} ins init_inv.own).one

theorem bpI_conservation (max : Nat) (ins : List (InI × Bool)) (p i : Int) :
    (ids (onPart p (arrivalsI max {} ins))).count i =
      (ids (onPart p (runIE max {} ins).1.sets.flatten)).count i + (ids (onPart p (runIE max {} ins).1.buffer)).count i +
      (ids (onPart p (runIE max {} ins).1.wait.toList)).count i + (outAll p (runIE max {} ins).2.1).count i +
      (ids (onPart p (runIE max {} ins).2.2.flatten)).count i := by
  have := (runIE_bal max {} ins p i).trans (Nat.zero_add _)
  simp only [bal, inside, onPart_append, ids_append, List.count_append] at this
  omega

theorem bpI_only_data_buffered (max : Nat) (ins : List (InI × Bool)) :
    ∀ t ∈ (runIE max {} ins).1.buffer ++ (runIE max {} ins).1.wait.toList, t.kind = .data :=
  fun t ht => ((runIE_inv max {} ins init_inv.own).acc t ht).1

def reopensI (p : Int) : InI → Prop
  | .recv t _ => t.part = p ∧ (t.kind = .syn ∨ t.kind = .fin)
  | _ => False

instance (p : Int) (i : InI) : Decidable (reopensI p i) := by
  cases i <;> unfold reopensI <;> infer_instance

theorem respI_quiet (max : Nat) (s : St) (r : Resp) (still : Bool) (p : Int) (hn : needsRetry s p = true) :
    adds p (respI max s r still).2.1 = [] ∧ needsRetry (respI max s r still).1 p = true := by
  unfold respI
  split
  · exact ⟨rfl, hn⟩
  · next sent rest _ =>
    have hx : needsRetry (handleI max { s with sets := rest } sent r).1 p = true := by
      rw [(handleI_handle ..).1, handle_needsRetry]; exact Bool.or_eq_true_iff.2 (Or.inl hn)
    obtain ⟨a, n⟩ := recheck_quiet (recheck_case max _ (handleI max { s with sets := rest } sent r).2.1 still) hx
      (rt := fun _ => false) (ad := true)
    rw [seen_none, List.append_nil, ← adds_eq, adds_handleI] at a
    exact ⟨a, n⟩

theorem stepIE_quiet (max : Nat) (s : St) (inp : InI) (addErr : Bool) (p : Int) (h : Own s)
    (hn : needsRetry s p = true) (hr : ¬ reopensI p inp) :
    adds p (stepIE max s inp addErr).2.1 = [] ∧ needsRetry (stepIE max s inp addErr).1 p = true := by
  have base : adds p (stepI max s inp).2.1 = [] ∧ needsRetry (stepI max s inp).1 p = true := by
    cases inp with
    | recv t ov => exact (recv_quiet (recv_case max s t ov) hn).imp adds_of_view fun n => n hr
    | handover again =>
      simp only [stepI, handoverI]
      split
      · exact ⟨rfl, hn⟩
      · exact (handover_quiet (handover_case s) h hn).imp_left (congrFun (adds_eq p) _).trans
    | resp r still => exact respI_quiet max s r still p hn
    | inject set => simp only [stepI, inject]; split <;> exact ⟨rfl, hn⟩
  unfold stepIE
  split
  · rcases failAdd_cases (stepI max s inp) with e | ⟨ys, t, _, e⟩
    · rw [e]; exact base
    · rw [e]; exact ⟨(adds_append ..).trans (congrArg (· ++ _) base.1), base.2⟩
  · exact base

theorem runIE_quiet (max : Nat) (s : St) (mid : List (InI × Bool)) (p : Int) (h : Own s)
    (hn : needsRetry s p = true) (hm : ∀ i ∈ mid, ¬ reopensI p i.1) :
    adds p (runIE max s mid).2.1 = [] ∧ needsRetry (runIE max s mid).1 p = true ∧ Own (runIE max s mid).1 := by
  induction mid generalizing s with
  | nil => exact ⟨rfl, hn, h⟩
  | cons x xs ih =>
    obtain ⟨a, b⟩ := stepIE_quiet max s x.1 x.2 p h hn (hm x List.mem_cons_self)
    obtain ⟨c, d⟩ := ih (stepIE max s x.1 x.2).1 (stepIE_inv max s x.1 x.2 h) b fun j hj => hm j (List.mem_cons_of_mem _ hj)
    exact ⟨by rw [runIE, adds_append, a, c]; rfl, d⟩

/-- Unlike the plain producer, the SET IN FLIGHT may contain messages of `p`: a batch injected by retryBatch. -/
theorem bpI_quiet_while_refused (max : Nat) (pre mid : List (InI × Bool)) (p : Int)
    (hn : needsRetry (runIE max {} pre).1 p = true) (hm : ∀ i ∈ mid, ¬ reopensI p i.1) :
    adds p (runIE max (runIE max {} pre).1 mid).2.1 = [] ∧ needsRetry (runIE max (runIE max {} pre).1 mid).1 p = true ∧
    (∀ t ∈ own (runIE max (runIE max {} pre).1 mid).1, t.part ≠ p) := by
  obtain ⟨a, b, c⟩ := runIE_quiet max _ mid p (runIE_inv max {} pre init_inv.own) hn hm
  exact ⟨a, b, fun t ht e => by have := (c.acc t ht).2; rw [e, b] at this; cases this⟩

/-- inside waitForSpace the second (forced) wait hands over whatever is in the buffer, also nothing -/
theorem bpI_empty_set_needs_stale (s : St) (hw : s.wait = none) (again : Bool)
    (h : (handoverI s again).1.sets = [[]]) (h0 : s.sets = []) : s.buffer = [] ∧ s.stale = true := by
  have : handoverI s again = handover s := by simp [handoverI, hw]
  rw [this] at h
  exact bp_empty_set_needs_stale s hw h h0

/-- Retry.Max = 3.  Messages 1, 2 (partition 0) are sent, 3 (partition 0) waits in the buffer; the response is
    retriable: 1, 2 go to retryBatch (third component), 3 is bounced, partition 0 is refused. -/
def exI : List (InI × Bool) :=
  [(.recv ⟨-1, 0, 0, .syn⟩ false, false), (.recv ⟨1, 0, 0, .data⟩ false, false), (.recv ⟨2, 0, 0, .data⟩ false, false),
   (.handover false, false), (.recv ⟨3, 0, 0, .data⟩ false, false),
   (.resp (.verdicts (fun _ => .retriable) [] []) false, false)]

example : (runIE 3 {} exI).2.1 = [.ackSyn 0, .add 1 0, .add 2 0, .add 3 0, .drop 0, .requeue 3 0 1 false] ∧
    (runIE 3 {} exI).2.2 = [[⟨1, 0, 0, .data⟩, ⟨2, 0, 0, .data⟩]] ∧
    needsRetry (runIE 3 {} exI).1 0 = true ∧
    retryBatch 3 [⟨1, 0, 0, .data⟩, ⟨2, 0, 0, .data⟩] true =
      [.bump 1 1, .bump 2 1, .offer [⟨1, 0, 1, .data⟩, ⟨2, 0, 1, .data⟩]] ∧
    -- a spent budget fails the WHOLE batch (the bump already made stays)
    retryBatch 1 [⟨1, 0, 0, .data⟩, ⟨2, 0, 1, .data⟩] true = [.bump 1 1, .fail 1, .fail 2] := by decide +kernel

/-- The per-partition FIFO of the plain producer does not hold.  After `exI` the fin chaser re-opens partition 0
    and message 4 (partition 0, submitted after 1 and 2) is buffered while the retryBatch goroutine still holds [1, 2].
    First run: the goroutine reaches the bridge before the worker's next hand-over - [1, 2] are sent, then 4.
    Second run: the hand-over comes first - 4 is sent BEFORE 1 and 2.  Which one happens is decided by the scheduler,
    not by the worker (the known retryBatch reordering; the broker's sequence check turns it into errors). -/
example :
    (runIE 3 {} (exI ++ [(.recv ⟨-2, 0, 0, .fin⟩ false, false), (.recv ⟨-3, 0, 0, .syn⟩ false, false),
      (.recv ⟨4, 0, 0, .data⟩ false, false), (.inject [⟨1, 0, 1, .data⟩, ⟨2, 0, 1, .data⟩], false)])).1.sets
      = [[⟨1, 0, 1, .data⟩, ⟨2, 0, 1, .data⟩]] ∧
    (runIE 3 {} (exI ++ [(.recv ⟨-2, 0, 0, .fin⟩ false, false), (.recv ⟨-3, 0, 0, .syn⟩ false, false),
      (.recv ⟨4, 0, 0, .data⟩ false, false), (.handover false, false),
      (.inject [⟨1, 0, 1, .data⟩, ⟨2, 0, 1, .data⟩], false)])).1.sets = [[⟨4, 0, 0, .data⟩]] := by decide +kernel

/-- a failing buffer.add: the hook bp.add fires, the message is failed and is not in the buffer -/
example : (stepIE 3 {} (.recv ⟨7, 0, 0, .data⟩ false) true).2.1 = [.add 7 0, .fail 7 0] ∧
    (stepIE 3 {} (.recv ⟨7, 0, 0, .data⟩ false) true).1.buffer = [] := by decide +kernel

example : (ids (onPart 0 (arrivalsI 3 {} exI))).count 1 = 1 ∧ (ids (onPart 0 (runIE 3 {} exI).2.2.flatten)).count 1 = 1 ∧
    (outAll 0 (runIE 3 {} exI).2.1).count 3 = 1 := by decide +kernel

end Props.C05bp
