import SaramaVerif.Lemmas.C02bp
/-
  C02, lemma L2 of DESIGN.md Appendix D: "a broker worker bounces in order and goes quiet".

  Everything here is about `Model.BrokerProd.step`, the transducer model of one broker worker of the non-idempotent
  producer, and holds for EVERY input sequence (tokens, hand-overs to the bridge, responses with any verdicts, any
  map-iteration orders, any wouldOverflow answers), from the worker's initial state (the step and run lemmas behind
  the theorems: from any state that satisfies the invariant `PInv`).  What each part of the worker does to one
  partition is Lemmas/C02bp.lean; here the parts are put together along a run.

    bp_at_most_one_set_in_flight   at most one produce set between hand-over and response handling
    bp_partition_fifo              per partition: data tokens out (success / failure / bounce) ++ tokens inside = arrivals
    bp_conservation                per (id, partition): received = in set + in buffer + held + left; fins are never held
    bp_quiet_after_failure         from a failing response until the partition's fin / syn: nothing of it is added
    bp_quiet_while_refused         the same from any reachable state that refuses the partition
    bp_bounces_in_order            bounce sequence of the partition = set part, buffer part, held message, later arrivals
    bp_bounce_order_preserving     bounced data tokens of a partition are a subsequence of its arrivals
    bp_empty_set_needs_stale /     an empty produce set reaches the bridge only via the stale `output` variable, which
    bp_stale_origin                arises only when waitForSpace bounces its held message (a defect of brokerProducer.run)

  Tie to the Go code: Driver/ProducerTrace.lean (`BPW`) replays every broker worker of every scenario through the
  same `step` and compares its actions with the hook events of the real code.
-/
namespace Props.C02bp
open Model.BrokerProd

variable {rt : Bool → Bool} {ad : Bool}

def dataArrived (p : Int) (s : St) (i : In) : List Tok := onPart p ((arrived s i).filter (fun t => !t.isFin))

theorem step_fifo (max : Nat) (s : St) (i : In) (h : PInv s) :
    (∀ p, outData p (step max s i).2 ++ ids (onPart p (inside (step max s i).1)) =
      ids (onPart p (inside s)) ++ ids (dataArrived p s i)) ∧ PInv (step max s i).1 := by
  cases i with
  | recv t ov => exact ⟨recv_fifo (recv_case max s t ov) h, recv_inv (recv_case max s t ov) h⟩
  | handover =>
    exact ⟨fun p => (handover_fifo (handover_case s) p).trans (List.append_nil _).symm, handover_inv (handover_case s) h⟩
  | resp r still => exact (resp_fifo max s r still h).imp_left fun a p => (a p).trans (List.append_nil _).symm

def dataArrivals (max : Nat) (p : Int) (s : St) (ins : List In) : List Tok :=
  onPart p ((arrivals max s ins).filter (fun t => !t.isFin))

theorem run_fifo (max : Nat) (s : St) (ins : List In) (h : PInv s) :
    (∀ p, outData p (runAll max s ins).2 ++ ids (onPart p (inside (runAll max s ins).1)) =
      ids (onPart p (inside s)) ++ ids (dataArrivals max p s ins)) ∧ PInv (runAll max s ins).1 := by
  induction ins generalizing s with
  | nil => exact ⟨fun p => (List.append_nil _).symm, h⟩
  | cons i is ih =>
    obtain ⟨a, b⟩ := step_fifo max s i h
    obtain ⟨c, d⟩ := ih (step max s i).1 b
    refine ⟨fun p => ?_, d⟩
    have e : dataArrivals max p s (i :: is) = dataArrived p s i ++ dataArrivals max p (step max s i).1 is := by
      simp only [dataArrivals, dataArrived, arrivals, List.filter_append, onPart_append]
    simp only [runAll]
    rw [outData_append, List.append_assoc, c p, ← List.append_assoc, a p, e, ids_append, List.append_assoc]

/-- inputs that can end the quiet period of partition `p`: its fin chaser or its syn.  (A closing worker bounces the
    fin and stays quiet; the predicate does not look at `closing`, so it excludes that input all the same.) -/
def reopens (p : Int) : In → Prop
  | .recv t _ => t.part = p ∧ (t.kind = .syn ∨ t.kind = .fin)
  | _ => False

instance (p : Int) (i : In) : Decidable (reopens p i) := by
  cases i <;> unfold reopens <;> infer_instance

theorem step_quiet (max : Nat) (s : St) (i : In) (p : Int) (h : PInv s) (hn : needsRetry s p = true) :
    view false rt ad p (step max s i).2 = seen rt (onPart p (arrived s i)) ∧
    (¬ reopens p i → needsRetry (step max s i).1 p = true) := by
  cases i with
  | recv t ov => exact recv_quiet (recv_case max s t ov) hn
  | handover => exact (handover_quiet (handover_case s) h.own hn).imp_right fun b _ => b
  | resp r still => exact (resp_quiet max s r still p h hn).imp_right fun b _ => b

theorem arrivals_cons (max : Nat) (s : St) (i : In) (is : List In) :
    arrivals max s (i :: is) = arrived s i ++ arrivals max (step max s i).1 is := rfl

theorem run_quiet (max : Nat) (s : St) (mid : List In) (p : Int) (h : PInv s) (hn : needsRetry s p = true)
    (hm : ∀ i ∈ mid, ¬ reopens p i) :
    view false rt ad p (runAll max s mid).2 = seen rt (onPart p (arrivals max s mid)) ∧
    needsRetry (runAll max s mid).1 p = true ∧ PInv (runAll max s mid).1 := by
  induction mid generalizing s with
  | nil => exact ⟨rfl, hn, h⟩
  | cons i is ih =>
    obtain ⟨a, b⟩ := step_quiet max s i p h hn (rt := rt) (ad := ad)
    obtain ⟨c, d⟩ := ih (step max s i).1 (step_fifo max s i h).2 (b (hm i List.mem_cons_self))
      fun j hj => hm j (List.mem_cons_of_mem _ hj)
    exact ⟨by rw [runAll, view_append, a, c, arrivals_cons, seen_part_append], d⟩

/-! The stale `output` variable: an EMPTY produce set can go to the broker.

  In brokerProducer.run the `continue` statements of the message arm skip the `if bp.timerFired ||
  bp.buffer.readyToFlush() { output = bp.output } else { output = nil }` at the bottom of the loop.  When
  waitForSpace handles a response that empties the buffer (drop of the failed partition, or [closing]) and the held
  message is bounced, the loop continues with `output` still armed and hands the empty buffer to the bridge: an
  empty ProduceRequest goes to the broker, and on a dead connection a second handleError abandons the broker
  again (which can unregister the worker that was created in the meantime).  The model carries this as `stale`. -/

theorem bp_empty_set_needs_stale (s : St) (hw : s.wait = none) (h : (handover s).1.sets = [[]]) (h0 : s.sets = []) :
    s.buffer = [] ∧ s.stale = true := by
  have c := handover_case s
  generalize handover s = r at c h
  cases c with
  | idle => rw [h0] at h; cases h
  | take _ _ h2 =>
    have hb : s.buffer = [] := List.cons.inj h |>.1
    exact ⟨hb, by simpa [hb] using h2⟩
  | takeHeld _ hw' => rw [hw] at hw'; cases hw'

theorem bp_stale_origin (max : Nat) (s : St) (i : In) (h : (step max s i).1.stale = true) :
    s.stale = true ∨ ∃ t r still, s.wait = some t ∧ i = .resp r still ∧ (step max s i).1.wait = none := by
  cases i with
  | recv t ov => exact Or.inl (recv_stale (recv_case max s t ov) h)
  | handover => exact Or.inl (handover_stale (handover_case s) h)
  | resp r still =>
    refine (resp_stale max s r still h).imp id fun ⟨e, w⟩ => ?_
    obtain ⟨t, ht⟩ := Option.isSome_iff_exists.1 e
    exact ⟨t, r, still, ht, rfl, w⟩

/-- witness of the defect: message 1 goes to the bridge in a set, message 2 is buffered, message 3 would overflow and
    is held in waitForSpace; the connection dies; the set, the buffer and the held message are bounced; the loop then
    hands an EMPTY set to the bridge -/
example : (runAll 3 {} [.recv ⟨-1, 0, 0, .syn⟩ false, .recv ⟨1, 0, 0, .data⟩ false, .handover,
      .recv ⟨2, 0, 0, .data⟩ false, .recv ⟨3, 0, 0, .data⟩ true, .resp (.connErr [] []) false, .handover]).1.sets = [[]] ∧
    (runAll 3 {} [.recv ⟨-1, 0, 0, .syn⟩ false, .recv ⟨1, 0, 0, .data⟩ false, .handover,
      .recv ⟨2, 0, 0, .data⟩ false, .recv ⟨3, 0, 0, .data⟩ true, .resp (.connErr [] []) false, .handover]).2 =
      [.ackSyn 0, .add 1 0, .add 2 0, .closing, .abandon, .requeue 1 0 1 false, .requeue 2 0 1 false,
       .requeue 3 0 1 false] := by decide +kernel

theorem runAll_append (max : Nat) (s : St) (a b : List In) :
    runAll max s (a ++ b) = ((runAll max (runAll max s a).1 b).1, (runAll max s a).2 ++ (runAll max (runAll max s a).1 b).2) := by
  induction a generalizing s with
  | nil => rfl
  | cons i is ih => simp only [List.cons_append, runAll, ih, List.append_assoc]

theorem arrivals_append (max : Nat) (s : St) (a b : List In) :
    arrivals max s (a ++ b) = arrivals max s a ++ arrivals max (runAll max s a).1 b := by
  induction a generalizing s with
  | nil => rfl
  | cons i is ih => simp only [List.cons_append, arrivals, runAll, ih, List.append_assoc]

theorem run_after_failure (max : Nat) (s : St) (h : PInv s) (sent : List Tok) (r : Resp) (still : Bool) (mid : List In)
    (p : Int) (hs : s.sets = [sent]) (hf : failsFor max p sent r) (hm : ∀ i ∈ mid, ¬ reopens p i) :
    view false rt ad p (runAll max s (.resp r still :: mid)).2 =
      seen rt (onPart p (sent ++ s.buffer ++ s.wait.toList ++ arrivals max (step max s (.resp r still)).1 mid)) ∧
    needsRetry (runAll max s (.resp r still :: mid)).1 p = true ∧ PInv (runAll max s (.resp r still :: mid)).1 := by
  obtain ⟨a, n⟩ := resp_refused max s sent [] r still p hs (Or.inr hf) (rt := rt) (ad := ad)
  rw [if_pos hf] at a
  obtain ⟨b, c⟩ := run_quiet max _ mid p (step_fifo max s (.resp r still) h).2 n hm (rt := rt) (ad := ad)
  exact ⟨by rw [runAll, view_append, b, seen_part_append]; exact congrArg (· ++ _) a, c⟩

/-- example run (Retry.Max = 3): partitions 0 and 1 share the worker; messages 1, 2 (partition 0) and 9 (partition 1)
    are at the bridge, 3 (partition 0) is in the buffer -/
def exPre : List In :=
  [.recv ⟨-1, 0, 0, .syn⟩ false, .recv ⟨1, 0, 0, .data⟩ false, .recv ⟨2, 0, 0, .data⟩ false,
   .recv ⟨9, 1, 0, .data⟩ false, .handover, .recv ⟨3, 0, 0, .data⟩ false]
def exSent : List Tok := [⟨1, 0, 0, .data⟩, ⟨2, 0, 0, .data⟩, ⟨9, 1, 0, .data⟩]
def exResp : Resp := .verdicts (fun p => if p = 0 then .retriable else .ok) [1, 0] [0]
def exMid : List In := [.recv ⟨4, 0, 0, .data⟩ false, .recv ⟨8, 1, 0, .data⟩ false]
def exLast : In := .recv ⟨-2, 0, 0, .fin⟩ false

theorem run_inv (max : Nat) (ins : List In) : PInv (runAll max {} ins).1 := (run_fifo max {} ins init_inv).2

theorem bp_at_most_one_set_in_flight (max : Nat) (ins : List In) : (runAll max {} ins).1.sets.length ≤ 1 :=
  (run_inv max ins).one

example : (runAll 2 {} [.recv ⟨1, 0, 0, .data⟩ false, .handover, .recv ⟨2, 0, 0, .data⟩ false, .handover]).1.sets.length = 1
    ∧ (runAll 2 {} [.recv ⟨1, 0, 0, .data⟩ false, .handover, .recv ⟨2, 0, 0, .data⟩ false, .handover]).2
        = [.add 1 0, .add 2 0, .disabled] := by decide +kernel

theorem bp_partition_fifo (max : Nat) (ins : List In) (p : Int) :
    outData p (runAll max {} ins).2 ++ ids (onPart p (inside (runAll max {} ins).1)) =
      ids (dataArrivals max p {} ins) :=
  (run_fifo max {} ins init_inv).1 p

example : outData 0 (runAll 3 {} (exPre ++ [.resp exResp false])).2 = [1, 2, 3] ∧
    outData 1 (runAll 3 {} (exPre ++ [.resp exResp false])).2 = [9] ∧
    ids (dataArrivals 3 0 {} (exPre ++ [.resp exResp false])) = [1, 2, 3] := by decide +kernel

theorem bp_conservation (max : Nat) (ins : List In) (p : Int) (i : Int) :
    (ids (dataArrivals max p {} ins)).count i =
      (ids (onPart p (runAll max {} ins).1.sets.flatten)).count i + (ids (onPart p (runAll max {} ins).1.buffer)).count i +
      (ids (onPart p (runAll max {} ins).1.wait.toList)).count i + (outData p (runAll max {} ins).2).count i ∧
    (∀ t ∈ inside (runAll max {} ins).1, t.kind = .data) := by
  refine ⟨?_, (run_inv max ins).data⟩
  rw [← bp_partition_fifo max ins p]
  simp only [inside, onPart_append, ids, List.map_append, List.count_append]
  omega

example : (ids (dataArrivals 3 0 {} exPre)).count 3 = 1 ∧ (ids (onPart 0 (runAll 3 {} exPre).1.buffer)).count 3 = 1 ∧
    (ids (onPart 0 (runAll 3 {} exPre).1.sets.flatten)).count 1 = 1 ∧ (outData 0 (runAll 3 {} exPre).2).count 1 = 0 ∧
    (outData 0 (runAll 3 {} (exPre ++ [.resp exResp false])).2).count 1 = 1 := by decide +kernel

/-- From a response that fails partition `p` (retriable verdict with Retry.Max > 0, or a
    connection-level error) on, as long as the worker receives neither the partition's fin chaser nor a syn for it,
    no token of `p` is added to the buffer, nothing of `p` is inside, and `p` stays refused. -/
theorem bp_quiet_after_failure (max : Nat) (pre : List In) (sent : List Tok) (r : Resp) (still : Bool) (mid : List In)
    (p : Int) (hs : (runAll max {} pre).1.sets = [sent]) (hf : failsFor max p sent r)
    (hm : ∀ i ∈ mid, ¬ reopens p i) :
    adds p (runAll max (runAll max {} pre).1 (.resp r still :: mid)).2 = [] ∧
    needsRetry (runAll max (runAll max {} pre).1 (.resp r still :: mid)).1 p = true ∧
    onPart p (inside (runAll max (runAll max {} pre).1 (.resp r still :: mid)).1) = [] := by
  obtain ⟨a, b, c⟩ := run_after_failure max _ (run_inv max pre) sent r still mid p hs hf hm
  exact ⟨adds_of_view a, b, c.quiet p b⟩

example : (runAll 3 {} exPre).1.sets = [exSent] ∧ failsFor 3 0 exSent exResp ∧ (∀ i ∈ exMid, ¬ reopens 0 i) ∧
    -- partition 1 is not affected: its message 8 is added
    adds 1 (runAll 3 (runAll 3 {} exPre).1 (.resp exResp false :: exMid)).2 = [8] ∧
    -- after the fin chaser partition 0 is open again
    needsRetry (runAll 3 (runAll 3 {} exPre).1 (.resp exResp false :: (exMid ++ [exLast]))).1 0 = false := by decide +kernel

theorem bp_quiet_while_refused (max : Nat) (pre mid : List In) (p : Int)
    (hn : needsRetry (runAll max {} pre).1 p = true) (hm : ∀ i ∈ mid, ¬ reopens p i) :
    adds p (runAll max (runAll max {} pre).1 mid).2 = [] ∧ needsRetry (runAll max (runAll max {} pre).1 mid).1 p = true := by
  obtain ⟨a, b, _⟩ := run_quiet max _ mid p (run_inv max pre) hn hm
  exact ⟨adds_of_view a, b⟩

/-- When a response fails partition `p`, the tokens of `p` handed to retryMessage from then on -
    until and including the next input after any run `mid` free of the partition's fin / syn (that input is the fin
    chaser in the real pipeline) - are, in this order: the partition's part of the answered set in set order, its
    part of the buffer in arrival order, the message held in waitForSpace, and then every token of `p` that arrives,
    in arrival order. -/
theorem bp_bounces_in_order (max : Nat) (pre : List In) (sent : List Tok) (r : Resp) (still : Bool) (mid : List In)
    (last : In) (p : Int) (hs : (runAll max {} pre).1.sets = [sent]) (hf : failsFor max p sent r)
    (hm : ∀ i ∈ mid, ¬ reopens p i) :
    bounces p (runAll max (runAll max {} pre).1 (.resp r still :: (mid ++ [last]))).2 =
      ids (onPart p sent) ++ ids (onPart p (runAll max {} pre).1.buffer) ++ ids (onPart p (runAll max {} pre).1.wait.toList) ++
      ids (onPart p (arrivals max (step max (runAll max {} pre).1 (.resp r still)).1 (mid ++ [last]))) := by
  obtain ⟨a, b, c⟩ := run_after_failure (rt := fun _ => true) (ad := false) max _ (run_inv max pre) sent r still mid p hs hf hm
  obtain ⟨d, _⟩ := step_quiet (rt := fun _ => true) (ad := false) max _ last p c b
  rw [show In.resp r still :: (mid ++ [last]) = (In.resp r still :: mid) ++ [last] from rfl, runAll_append, runAll,
    runAll, List.append_nil, bounces_eq, view_append, a, d, ← seen_part_append, seen_all, arrivals_append]
  simp only [arrivals, List.append_nil, onPart_append, ids_append, List.append_assoc]
  rfl

example : (runAll 3 {} exPre).1.sets = [exSent] ∧ failsFor 3 0 exSent exResp ∧ (∀ i ∈ exMid, ¬ reopens 0 i) ∧
    bounces 0 (runAll 3 (runAll 3 {} exPre).1 (.resp exResp false :: (exMid ++ [exLast]))).2 = [1, 2, 3, 4, -2] ∧
    (runAll 3 (runAll 3 {} exPre).1 (.resp exResp false :: (exMid ++ [exLast]))).2 =
      [.succ 9 1, .requeue 1 0 1 false, .requeue 2 0 1 false, .drop 0, .requeue 3 0 1 false,
       .refuse 4, .requeue 4 0 1 false, .add 8 1, .refuse (-2), .requeue (-2) 0 1 true] := by decide +kernel

theorem sublist_filterMap {f g : Action → Option Int} (hfg : ∀ a i, f a = some i → g a = some i) (l : List Action) :
    List.Sublist (l.filterMap f) (l.filterMap g) := by
  induction l with
  | nil => simp
  | cons a as ih =>
    rw [List.filterMap_cons, List.filterMap_cons]
    cases hf : f a with
    | none =>
      cases hg : g a with
      | none => exact ih
      | some j => exact List.Sublist.cons j ih
    | some i =>
      rw [hfg a i hf]
      exact List.Sublist.cons_cons i ih

theorem bp_bounce_order_preserving (max : Nat) (ins : List In) (p : Int) :
    List.Sublist (bouncedData p (runAll max {} ins).2) (ids (dataArrivals max p {} ins)) := by
  rw [← bp_partition_fifo max ins p]
  refine List.Sublist.trans (sublist_filterMap ?_ _) (List.sublist_append_left _ _)
  intro a i h
  cases a with
  | requeue _ _ _ b | expire _ _ b =>
    cases b
    · exact h
    · cases h
  | _ => cases h

example : bouncedData 0 (runAll 3 {} (exPre ++ .resp exResp false :: (exMid ++ [exLast]))).2 = [1, 2, 3, 4] ∧
    ids (dataArrivals 3 0 {} (exPre ++ .resp exResp false :: (exMid ++ [exLast]))) = [1, 2, 3, 4] := by decide +kernel

/-- Retry.Max = 0: a retriable verdict fails the messages at once, abandons the broker and leaves the partition open -/
example : (runAll 0 {} (exPre ++ [.resp exResp false, .recv ⟨4, 0, 0, .data⟩ false])).2 =
    [.ackSyn 0, .add 1 0, .add 2 0, .add 9 1, .add 3 0, .succ 9 1, .abandon, .fail 1 0, .fail 2 0, .add 4 0] := by decide +kernel

end Props.C02bp
