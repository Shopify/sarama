import SaramaVerif.Model.CodecSkel
import SaramaVerif.Lemmas.C09Fmt
/-
  C09, static tie: what the regenerated `T_mirror` obligations of Bridge/C09Skel.lean buy.  (Its `T_schema` obligations,
  `schemaTie T.encSkel (bodySchema "T") = true`, stand as they are: no theorem here takes one as a hypothesis.)

  The skeletons of Gen/C09Skel.lean are read off the Go AST.  For a type `T` the bridge proves
  (by kernel evaluation) `mirror T.encSkel T.decSkel = true`.  Here, generically:

    * `mirror_all_versions`: the check, which looks at the versions 0 .. one above every constant of a version
      condition, covers EVERY version (`normAt_stable`: above all constants nothing changes);
    * `mirror_sound`: if the normal forms of the two sides mirror each other and both interpret to a schema,
      the decode side's schema `g` refines the encode side's schema `f` (`Fmt.sub f g`: the same schema, except
      that the decoder may also accept a null array the encoder never writes);
    * `sub_sound`: then every value well-typed for `f` is well-typed for `g` and has the same bytes;
    * hence (`skel_roundtrip`, with the generic `dec_enc` / `size_eq_enc_length` of Lemmas/C09Fmt.lean): for every
      version, decoding by the DECODE skeleton's schema what the ENCODE skeleton's schema wrote gives the value
      back and leaves the rest, and the sizing pass is exact - for every type with a discharged obligation.
-/
namespace Props.C09skel
open Model.Codec

theorem allUpTo_spec (p : Nat → Bool) : ∀ n, allUpTo p n = true → ∀ v, v ≤ n → p v = true := by
  intro n
  induction n with
  | zero => exact fun h v hv => Nat.le_zero.mp hv ▸ h
  | succ n ih =>
    intro h v hv
    have h := Bool.and_eq_true_iff.mp h
    rcases Nat.le_succ_iff.mp hv with hv | rfl
    · exact ih h.2 v hv
    · exact h.1

theorem eval_stable (c : VCond) (B v : Nat) (hB : c.maxC ≤ B) (hv : B < v) : c.eval v = c.eval (B + 1) := by
  induction c with
  | tt => rfl
  | ff => rfl
  | ge n | gt n | le n | lt n | eq n | ne n =>
    have hB : n ≤ B := hB
    exact decide_eq_decide.mpr (by omega)
  | not c ih => exact congrArg Bool.not (ih hB)
  | and a b iha ihb | or a b iha ihb =>
    have hB := Nat.max_le.mp hB
    unfold VCond.eval
    rw [iha hB.1, ihb hB.2]

theorem resolve_stable (cs : CountSel) (B v : Nat) (hB : cs.maxC ≤ B) (hv : B < v) :
    cs.resolve v = cs.resolve (B + 1) := by
  induction cs with
  | cnt k => rfl
  | nul k => rfl
  | sel c a b iha ihb =>
    have hB := Nat.max_le.mp hB
    have hB' := Nat.max_le.mp hB.2
    unfold CountSel.resolve
    rw [eval_stable c B v hB.1 hv, iha hB'.1, ihb hB'.2]
  | dsel a b iha ihb =>
    have hB := Nat.max_le.mp hB
    unfold CountSel.resolve
    rw [iha hB.1, ihb hB.2]

theorem normAt_stable (s : Skel) (B v : Nat) (hB : s.maxC ≤ B) (hv : B < v) :
    ∀ k, normAt v s k = normAt (B + 1) s k := by
  induction s with
  | skip | prim p | lit p | unsupported r | atVer n s _ => exact fun _ => rfl
  | seq a b iha ihb =>
    intro k
    have hB := Nat.max_le.mp hB
    unfold normAt
    rw [ihb hB.2, iha hB.1]
  | alt a b iha ihb =>
    intro k
    have hB := Nat.max_le.mp hB
    unfold normAt
    rw [iha hB.1, iha hB.1, ihb hB.2]
  | ifv c t e iht ihe =>
    intro k
    have hB := Nat.max_le.mp hB
    have hB' := Nat.max_le.mp hB.2
    unfold normAt
    rw [eval_stable c B v hB.1 hv, iht hB'.1, ihe hB'.2]
  | array cs acc e ih =>
    intro k
    have hB := Nat.max_le.mp hB
    unfold normAt
    rw [resolve_stable cs B v hB.1 hv, ih hB.2]
  | len32 s ih | varlen s ih | crc p s ih =>
    intro k
    unfold normAt
    rw [ih hB]

theorem mirror_all_versions (e d : Skel) (h : mirror e d = true) : ∀ ver, mirrorAt ver e d = true := by
  intro ver
  by_cases hv : ver ≤ vbound e d
  · exact allUpTo_spec _ _ h ver hv
  · have hb : mirrorAt (vbound e d) e d = true := allUpTo_spec _ _ h _ (Nat.le_refl _)
    have hv := Nat.lt_of_succ_lt (Nat.lt_of_not_le hv)
    unfold mirrorAt at hb ⊢
    rwa [normAt_stable e _ ver (Nat.le_max_left e.maxC d.maxC) hv,
      normAt_stable d _ ver (Nat.le_max_right e.maxC d.maxC) hv]

private theorem allWT_mono (w w' : Val → Bool) (vs : List Val) (h : ∀ v ∈ vs, w v = true → w' v = true)
    (ha : allWT w vs = true) : allWT w' vs = true := by
  induction vs with
  | nil => rfl
  | cons x xs ih =>
    have ha := Bool.and_eq_true_iff.mp ha
    exact Bool.and_eq_true_iff.mpr
      ⟨h x List.mem_cons_self ha.1, ih (fun v hv => h v (List.mem_cons_of_mem _ hv)) ha.2⟩

private theorem countOK_null (n b : Nat) : countOK .i32null n b = countOK .i32 n b := rfl

private theorem prim_sub (p q : Prim) (h : primOK p q = true) (v : Val) (hw : wtP p v = true) :
    wtP q v = true ∧ encP q v = encP p v := by
  rcases Bool.or_eq_true_iff.mp h with h | h
  · exact of_decide_eq_true h ▸ ⟨hw, rfl⟩
  · have h := Bool.and_eq_true_iff.mp h
    have hp : p = .ci32arr := of_decide_eq_true h.1
    have hq : q = .nci32arr := of_decide_eq_true h.2
    subst hp hq
    cases v
    case list vs => exact ⟨hw, rfl⟩
    all_goals exact Bool.noConfusion hw

private theorem allInt4_spec (ver : Nat) (vs : List Val) (h : allInt 4 vs = true) :
    allWT (WT (.prim .i32) ver) vs = true ∧ vs.map (enc (.prim .i32) ver) = (intsOf vs).map (putInt 4) := by
  induction vs with
  | nil => exact ⟨rfl, rfl⟩
  | cons x xs ih =>
    cases x
    case int i =>
      have h := Bool.and_eq_true_iff.mp h
      obtain ⟨h1, h2⟩ := ih h.2
      exact ⟨Bool.and_eq_true_iff.mpr ⟨h.1, h1⟩, congrArg (putInt 4 i :: ·) h2⟩
    all_goals exact Bool.noConfusion h

/-- `putCompactInt32Array` against the explicit loop -/
private theorem ci32arr_loop (ver : Nat) (v : Val) (hw : wtP .ci32arr v = true) :
    WT (.arr .compact (.prim .i32)) ver v = true ∧ enc (.arr .compact (.prim .i32)) ver v = encP .ci32arr v := by
  cases v
  case list vs =>
    have hw := Bool.and_eq_true_iff.mp hw
    obtain ⟨h1, h2⟩ := allInt4_spec ver vs hw.2
    have h3 : ((vs.map (enc (.prim .i32) ver)).flatten).length = 4 * vs.length := by
      rw [h2]; exact (Lemmas.C09.putInts_length 4 _).trans (by rw [Lemmas.C09.intsOf_length])
    constructor
    · show (allWT (WT (.prim .i32) ver) vs &&
        countOK .compact vs.length ((vs.map (enc (.prim .i32) ver)).flatten).length) = true
      rw [h1, h3]
      exact decide_eq_true ⟨of_decide_eq_true hw.1, Nat.le_mul_of_pos_left _ (by decide)⟩
    · show putCount .compact (some vs.length) ++ (vs.map (enc (.prim .i32) ver)).flatten = _
      rw [h2]
      show _ = putUVarint ((intsOf vs).length + 1) ++ putInts 4 (intsOf vs)
      rw [Lemmas.C09.intsOf_length]; rfl
  all_goals exact Bool.noConfusion hw

theorem sub_sound (f : Fmt) : ∀ (g : Fmt), Fmt.sub f g = true → ∀ (ver : Nat) (v : Val), WT f ver v = true →
    WT g ver v = true ∧ enc g ver v = enc f ver v := by
  intro g
  -- along the equations of `Fmt.sub`: 1 prim/prim, 2 the primitive ci32arr against the decoder's explicit loop,
  -- 3 unit, 4 seq, 5 ite, 6 arr, 7 len32, 8 varlen, 9 crc, 10 every pair of schemas that `sub` rejects
  fun_induction Fmt.sub f g <;> intro h ver v hw
  case case1 p q => exact prim_sub p q h v hw
  case case2 p c e =>
    have h := Bool.and_eq_true_iff.mp h
    have h1 := Bool.and_eq_true_iff.mp h.1
    have hp : p = .ci32arr := of_decide_eq_true h1.1
    have hc : c = .compact := of_decide_eq_true h1.2
    subst hp hc
    cases e with
    | prim q =>
      have hq : q = .i32 := of_decide_eq_true h.2
      subst hq
      exact ci32arr_loop ver v hw
    | _ => exact Bool.noConfusion h.2
  case case3 => exact ⟨hw, rfl⟩
  case case4 a b c d iha ihb =>
    cases v
    case pair x y =>
      have h := Bool.and_eq_true_iff.mp h
      have hw := Bool.and_eq_true_iff.mp hw
      have ha := iha h.1 ver x hw.1
      have hb := ihb h.2 ver y hw.2
      exact ⟨Bool.and_eq_true_iff.mpr ⟨ha.1, hb.1⟩, show enc c ver x ++ enc d ver y = _ by rw [ha.2, hb.2]; rfl⟩
    all_goals exact Bool.noConfusion hw
  case case5 lo hi a b lo' hi' c d iha ihb =>
    have h := Bool.and_eq_true_iff.mp h
    have h1 := Bool.and_eq_true_iff.mp h.1
    have h2 := Bool.and_eq_true_iff.mp h1.1
    have hlo : lo = lo' := of_decide_eq_true h2.1
    have hhi : hi = hi' := of_decide_eq_true h2.2
    subst hlo hhi
    unfold WT at hw ⊢
    unfold enc
    split
    · rename_i hc; rw [if_pos hc] at hw; exact iha h1.2 ver v hw
    · rename_i hc; rw [if_neg hc] at hw; exact ihb h.2 ver v hw
  case case6 c e c' e' ih =>
    have h := Bool.and_eq_true_iff.mp h
    cases v
    case null =>
      have hc : c = .i32null := eq_of_beq hw
      subst hc
      rcases Bool.or_eq_true_iff.mp h.1 with hc | hc
      · exact of_decide_eq_true hc ▸ ⟨rfl, rfl⟩
      · exact Bool.noConfusion (Bool.and_eq_true_iff.mp hc).1
    case list vs =>
      have hw := Bool.and_eq_true_iff.mp hw
      have hall := Lemmas.C09.allWT_spec _ _ hw.1
      have henc : vs.map (enc e' ver) = vs.map (enc e ver) :=
        List.map_congr_left fun x hx => (ih h.2 ver x (hall x hx)).2
      have hwt : allWT (WT e' ver) vs = true :=
        allWT_mono _ _ vs (fun x _ hx' => (ih h.2 ver x hx').1) hw.1
      -- the count kinds are equal, or the decoder's also has the null form, with the same bounds
      have hcount : countOK c' = countOK c ∧ putCount c' (some vs.length) = putCount c (some vs.length) := by
        rcases Bool.or_eq_true_iff.mp h.1 with hc | hc
        · exact of_decide_eq_true hc ▸ ⟨rfl, rfl⟩
        · have hc := Bool.and_eq_true_iff.mp hc
          exact (of_decide_eq_true hc.1 : c = .i32) ▸ (of_decide_eq_true hc.2 : c' = .i32null) ▸ ⟨rfl, rfl⟩
      show (allWT (WT e' ver) vs && countOK c' vs.length ((vs.map (enc e' ver)).flatten).length) = true ∧
        putCount c' (some vs.length) ++ (vs.map (enc e' ver)).flatten = _
      rw [henc, hwt, hcount.1, hcount.2, hw.2]; exact ⟨rfl, rfl⟩
    all_goals exact Bool.noConfusion hw
  case case7 f g ih =>
    have hw := Bool.and_eq_true_iff.mp hw
    have := ih h ver v hw.1
    exact ⟨Bool.and_eq_true_iff.mpr ⟨this.1, this.2.symm ▸ hw.2⟩, congrArg putLen32 this.2⟩
  case case8 f g ih =>
    have hw := Bool.and_eq_true_iff.mp hw
    have := ih h ver v hw.1
    refine ⟨Bool.and_eq_true_iff.mpr ⟨this.1, this.2.symm ▸ hw.2⟩, ?_⟩
    show putVarLen (size g ver v) (enc g ver v) = putVarLen (size f ver v) (enc f ver v)
    rw [Lemmas.C09.size_eq_enc_length, Lemmas.C09.size_eq_enc_length, this.2]
  case case9 p f q g ih =>
    have h := Bool.and_eq_true_iff.mp h
    have hp : p = q := of_decide_eq_true h.1
    subst hp
    have := ih h.2 ver v hw
    exact ⟨this.1, congrArg (putCrc p) this.2⟩
  case case10 => exact Bool.noConfusion h

private theorem mirror_isNil (e d : NF) : NF.mirror e d = true → e.isNil = d.isNil := by
  fun_cases NF.mirror e d <;> intro h
  case case8 => exact Bool.noConfusion h
  all_goals rfl

private theorem isPrim_eq (q : Prim) (e : NF) (h : e.isPrim q = true) : e = .prim q .nil := by
  cases e with
  | prim p t =>
    cases t with
    | nil => exact (of_decide_eq_true h : p = q) ▸ rfl
    | _ => exact Bool.noConfusion h
  | _ => exact Bool.noConfusion h

private theorem countOf_sub (w : WKind) (n n' : Bool) (h : (!n || n') = true) :
    (decide (countOf w n = countOf w n') ||
      (decide (countOf w n = Count.i32) && decide (countOf w n' = Count.i32null))) = true := by
  revert h; cases w <;> cases n <;> cases n' <;> decide

private theorem cons_schemas {x x' : Option Fmt} {h h' : Fmt} {r r' : NF} (hx : x = some h) (hx' : x' = some h')
    (hh : Fmt.sub h h' = true) (hm : NF.mirror r r' = true)
    (ih : ∃ f g, r.toFmt = some f ∧ r'.toFmt = some g ∧ Fmt.sub f g = true) :
    ∃ f g, consFmt x r.isNil r.toFmt = some f ∧ consFmt x' r'.isNil r'.toFmt = some g ∧ Fmt.sub f g = true := by
  obtain ⟨fr, gr, hr, hr', hsub⟩ := ih
  rw [hx, hx', hr, hr', ← mirror_isNil r r' hm]
  cases r.isNil
  · exact ⟨_, _, rfl, rfl, Bool.and_eq_true_iff.mpr ⟨hh, hsub⟩⟩
  · exact ⟨_, _, rfl, rfl, hh⟩

/-- sides that mirror each other (field by field, on the normal forms of one version) are inside the schema
    language (no `unsupported` node, no inconsistent count statement, no value-dependent alternative with different
    layouts is reachable at that version), and the decode side's schema refines the encode side's -/
theorem mirror_schemas (e d : NF) : NF.mirror e d = true →
    ∃ f g, e.toFmt = some f ∧ d.toFmt = some g ∧ Fmt.sub f g = true := by
  -- along the equations of `NF.mirror`: 1 nil/nil, 2 prim/prim, 3 the primitive ci32arr against an explicit loop,
  -- 4 arr/arr, 5 len32, 6 varlen, 7 crc, 8 every other pair
  fun_induction NF.mirror e d <;> intro h
  case case1 => exact ⟨_, _, rfl, rfl, rfl⟩
  case case2 p r q s ih =>
    have h := Bool.and_eq_true_iff.mp h
    exact cons_schemas rfl rfl h.1 h.2 (ih h.2)
  case case3 p r w n e s ih =>
    have h := Bool.and_eq_true_iff.mp h
    have hl := Bool.and_eq_true_iff.mp h.1
    have hl1 := Bool.and_eq_true_iff.mp hl.1
    have hp : p = .ci32arr := of_decide_eq_true hl1.1
    have hw : w = .compact := of_decide_eq_true hl1.2
    rw [isPrim_eq _ e hl.2, hp, hw]
    exact cons_schemas (h' := .arr .compact (.prim .i32)) rfl rfl rfl h.2 (ih h.2)
  case case4 w n e r w' n' e' r' ihe ihr =>
    have h := Bool.and_eq_true_iff.mp h
    have h1 := Bool.and_eq_true_iff.mp h.1
    have h2 := Bool.and_eq_true_iff.mp h1.1
    obtain ⟨fe, ge, he, hge, hesub⟩ := ihe h1.2
    have hw : w = w' := of_decide_eq_true h2.1
    subst hw
    exact cons_schemas (congrArg (Option.map _) he) (congrArg (Option.map _) hge)
      (Bool.and_eq_true_iff.mpr ⟨countOf_sub w n n' h2.2, hesub⟩) h.2 (ihr h.2)
  case case5 b r b' r' ihb ihr | case6 b r b' r' ihb ihr =>
    have h := Bool.and_eq_true_iff.mp h
    obtain ⟨fe, ge, he, hge, hesub⟩ := ihb h.1
    exact cons_schemas (congrArg (Option.map _) he) (congrArg (Option.map _) hge) hesub h.2 (ihr h.2)
  case case7 p b r q b' r' ihb ihr =>
    have h := Bool.and_eq_true_iff.mp h
    have h1 := Bool.and_eq_true_iff.mp h.1
    obtain ⟨fe, ge, he, hge, hesub⟩ := ihb h1.2
    exact cons_schemas (congrArg (Option.map _) he) (congrArg (Option.map _) hge)
      (Bool.and_eq_true_iff.mpr ⟨h1.1, hesub⟩) h.2 (ihr h.2)
  case case8 => exact Bool.noConfusion h

theorem mirror_sound (e : NF) : ∀ (d : NF) (f g : Fmt), NF.mirror e d = true → e.toFmt = some f → d.toFmt = some g →
    Fmt.sub f g = true := by
  intro d f g hm hf hg
  obtain ⟨f', g', hf', hg', hs⟩ := mirror_schemas e d hm
  rw [Option.some.inj (hf.symm.trans hf'), Option.some.inj (hg.symm.trans hg')]
  exact hs

theorem mirror_toFmt_some (e : NF) : ∀ d : NF, NF.mirror e d = true →
    (∃ f, e.toFmt = some f) ∧ (∃ g, d.toFmt = some g) :=
  fun d hm => let ⟨f, g, hf, hg, _⟩ := mirror_schemas e d hm; ⟨⟨f, hf⟩, ⟨g, hg⟩⟩

theorem skel_roundtrip_at (e d : Skel) (ver : Nat) (f g : Fmt) (hm : mirrorAt ver e d = true)
    (hf : e.fmtAt ver = some f) (hg : d.fmtAt ver = some g) (v : Val) (rest : Bytes) (hw : WT f ver v = true) :
    dec g ver (enc f ver v ++ rest) = some (v, rest) ∧ size f ver v = (enc f ver v).length ∧
    size g ver v = size f ver v := by
  have hs := mirror_sound _ _ f g hm hf hg
  have h := sub_sound f g hs ver v hw
  refine ⟨?_, Lemmas.C09.size_eq_enc_length f ver v, ?_⟩
  · rw [← h.2]; exact Lemmas.C09.dec_enc g ver v rest h.1
  · rw [Lemmas.C09.size_eq_enc_length g ver v, Lemmas.C09.size_eq_enc_length f ver v, h.2]

/-- for a type whose obligation `mirror T.encSkel T.decSkel = true` is discharged, at EVERY version:
    what the schema of the encode method writes for a well-typed value, the schema of the decode method reads back
    as that value, consuming exactly those bytes; and the prep pass computes exactly that length -/
theorem skel_roundtrip (e d : Skel) (h : mirror e d = true) (ver : Nat) (f g : Fmt)
    (hf : e.fmtAt ver = some f) (hg : d.fmtAt ver = some g) (v : Val) (rest : Bytes) (hw : WT f ver v = true) :
    dec g ver (enc f ver v ++ rest) = some (v, rest) ∧ size f ver v = (enc f ver v).length ∧
    size g ver v = size f ver v :=
  skel_roundtrip_at e d ver f g (mirror_all_versions e d h ver) hf hg v rest hw

/-- nothing but the bridge obligation is assumed - at every version both skeletons have a schema,
    and those schemas round-trip across the two methods -/
theorem skel_roundtrip_total (e d : Skel) (h : mirror e d = true) (ver : Nat) :
    ∃ f g, e.fmtAt ver = some f ∧ d.fmtAt ver = some g ∧
      ∀ (v : Val) (rest : Bytes), WT f ver v = true →
        dec g ver (enc f ver v ++ rest) = some (v, rest) ∧ size f ver v = (enc f ver v).length := by
  have hm := mirror_all_versions e d h ver
  obtain ⟨⟨f, hf⟩, ⟨g, hg⟩⟩ := mirror_toFmt_some _ _ hm
  refine ⟨f, g, hf, hg, fun v rest hw => ?_⟩
  have := skel_roundtrip_at e d ver f g hm hf hg v rest hw
  exact ⟨this.1, this.2.1⟩

/-- for the types whose two sides agree only on the versions 0..n they implement -/
theorem skel_roundtrip_upto (n : Nat) (e d : Skel) (h : mirrorUpTo n e d = true) (ver : Nat) (hv : ver ≤ n) (f g : Fmt)
    (hf : e.fmtAt ver = some f) (hg : d.fmtAt ver = some g) (v : Val) (rest : Bytes) (hw : WT f ver v = true) :
    dec g ver (enc f ver v ++ rest) = some (v, rest) ∧ size f ver v = (enc f ver v).length ∧
    size g ver v = size f ver v :=
  skel_roundtrip_at e d ver f g (allUpTo_spec _ n h ver hv) hf hg v rest hw

theorem skel_reencode (e d : Skel) (h : mirror e d = true) (ver : Nat) (f g : Fmt)
    (hf : e.fmtAt ver = some f) (hg : d.fmtAt ver = some g) (v : Val) (hw : WT f ver v = true) :
    ∃ v', dec g ver (enc f ver v) = some (v', []) ∧ enc f ver v' = enc f ver v := by
  have := (skel_roundtrip e d h ver f g hf hg v [] hw).1
  rw [List.append_nil] at this
  exact ⟨v, this, rfl⟩

/-- `exEnc`, `exDec`: a pair in the style of OffsetFetchRequest (compact / classic layout by version, null array
    from v2, a field from v7), written the way the two Go methods differ -/
def exEnc : Skel :=
  Skel.seqL [.ifv (.ge 6) (.prim .cstr) (.prim .str),
    .array (.sel (.ge 6) (.dsel (.nul .compact) (.cnt .compact)) (.dsel (.sel (.ge 2) (.nul .i32) (.cnt .i32)) (.cnt .i32))) false
      (Skel.seqL [.ifv (.ge 6) (.prim .cstr) (.prim .str), .ifv (.ge 6) (.prim .ci32arr) (.prim .i32arr),
                  .ifv (.ge 6) (.prim .tagged) .skip]),
    .ifv (.ge 7) (.prim .bool) .skip, .ifv (.ge 6) (.prim .tagged) .skip]

def exDec : Skel :=
  Skel.seqL [.ifv (.gt 5) (.prim .cstr) (.prim .str),
    .array (.sel (.ge 6) (.cnt .uvarintRaw) (.cnt .i32)) true
      (Skel.seqL [.ifv (.ge 6) (.prim .cstr) (.prim .str), .ifv (.ge 6) (.prim .nci32arr) (.prim .i32arr),
                  .ifv (.not (.lt 6)) (.prim .tagged) .skip]),
    .ifv (.ge 7) (.prim .bool) .skip, .ifv (.ge 6) (.prim .tagged) .skip]

example : mirror exEnc exDec = true := by decide +kernel
example : exEnc.fmtAt 1 =
    some (.seq (.prim .str) (.arr .i32 (.seq (.prim .str) (.prim .i32arr)))) := rfl
example : exEnc.fmtAt 3 =
    some (.seq (.prim .str) (.arr .i32null (.seq (.prim .str) (.prim .i32arr)))) := rfl
example : exDec.fmtAt 7 = some (.seq (.prim .cstr) (.seq (.arr .compact (.seq (.prim .cstr) (.seq (.prim .nci32arr) (.prim .tagged))))
    (.seq (.prim .bool) (.prim .tagged)))) := rfl

def exVal : Val := .pair (.bytes [103]) (.list [.pair (.bytes [116]) (.list [.int 0, .int 7])])

example : dec (.seq (.prim .str) (.arr .i32null (.seq (.prim .str) (.prim .i32arr)))) 1
    (enc (.seq (.prim .str) (.arr .i32 (.seq (.prim .str) (.prim .i32arr)))) 1 exVal ++ [9]) = some (exVal, [9]) :=
  (skel_roundtrip exEnc exDec (by decide +kernel) 1 _ _ rfl rfl exVal [9] (by decide +kernel)).1

/-- a gate changed on the decode side only: the obligation fails -/
example : mirror exEnc (Skel.seqL [.ifv (.ge 6) (.prim .cstr) (.prim .str),
    .array (.sel (.ge 6) (.cnt .uvarintRaw) (.cnt .i32)) true
      (Skel.seqL [.ifv (.ge 6) (.prim .cstr) (.prim .str), .ifv (.ge 6) (.prim .nci32arr) (.prim .i32arr),
                  .ifv (.ge 6) (.prim .tagged) .skip]),
    .ifv (.ge 8) (.prim .bool) .skip, .ifv (.ge 6) (.prim .tagged) .skip]) = false := by decide +kernel

/-- a decoder that rejects the null array the encoder may write does not mirror it -/
example : mirror (.array (.dsel (.cnt .i32) (.nul .i32)) false (.prim .str)) (.array (.cnt .i32) false (.prim .str)) = false := by
  decide +kernel
example : mirror (.array (.dsel (.cnt .i32) (.nul .i32)) false (.prim .str)) (.array (.cnt .i32raw) true (.prim .str)) = true := by
  decide +kernel

end Props.C09skel
