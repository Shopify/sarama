/-
  Worker level: a broker worker (`Model.BrokerProd`) that serves several partitions, seen from one partition `p`.
  `projB p b` is what the worker `b` is for `p`; `SeenAs p b j` says that `j` is this projection up to the sets at the
  bridge and `stale`, which the system level relates separately.  Actions are relabelled to partition 0 (`relabA`) and
  selected by the partition whose outcome they report (`isOwn p`, `isOut` of Lemmas/C02bp.lean).  Two of the three
  inputs of the worker are treated here: a token taken from the input channel (a token of `p`: the projected worker
  takes the relabelled token, `recv_proj_own_pair`; of another partition: nothing that `p` sees changes,
  `recv_foreign`, hence `recv_other_partition`, `recv_proj_foreign`) and the hand-over of the buffer to the bridge
  (`handover_fields`; hidden from `p`, `handover_hidden_proj`, or visible, `handover_visible_proj`, each with what the
  step reports).  The third, the answer, is in Props/C02multiV.lean.
-/
import SaramaVerif.Props.C02multi

namespace Props.C02sys
open Model Model.BrokerProd

def projL (p : Int) (l : List Tok) : List Tok := (onPart p l).map relab

def projWait (p : Int) : Option Tok → Option Tok
  | some t => if t.part = p then some (relab t) else none
  | none => none

def projB (p : Int) (b : St) : St :=
  { closing := b.closing, cr := fun q => if q = 0 then b.cr p else false, buffer := projL p b.buffer,
    sets := b.sets.map (projL p), wait := projWait p b.wait, stale := b.stale }

-- `projL` unfolds to `projQ` (Props/C02multi.lean); `rw` keeps the two heads apart, so its lemmas are restated
theorem projL_append (p : Int) (a b : List Tok) : projL p (a ++ b) = projL p a ++ projL p b := projQ_append p a b

theorem projL_own {p : Int} {t : Tok} (h : t.part = p) : projL p [t] = [relab t] := projQ_cons_same h []
theorem projL_foreign {p : Int} {t : Tok} (h : t.part ≠ p) : projL p [t] = [] := projQ_cons_other h []

theorem needsRetry_proj (p : Int) (b : St) : needsRetry (projB p b) 0 = needsRetry b p := by
  simp [needsRetry, projB]

theorem projB_setCr_own (p : Int) (b : St) (v : Bool) :
    projB p { b with cr := setCr b.cr p v } = { projB p b with cr := setCr (projB p b).cr 0 v } := by
  simp only [projB, St.mk.injEq, true_and, and_true]
  funext q
  by_cases hq : q = 0 <;> simp [setCr, hq]

theorem projB_setCr_foreign (p : Int) (b : St) {q : Int} (hq : q ≠ p) (v : Bool) :
    projB p { b with cr := setCr b.cr q v } = projB p b := by
  simp only [projB, St.mk.injEq, true_and, and_true]
  funext x
  by_cases hx : x = 0 <;> simp [setCr, hx, Ne.symm hq]

theorem projB_cr {p : Int} {b b' : St} (h : b'.cr = b.cr) : (projB p b').cr = (projB p b).cr := by
  simp only [projB, h]

theorem relab_kind (t : Tok) : (relab t).kind = t.kind := rfl
theorem relab_part (t : Tok) : (relab t).part = 0 := rfl

theorem st_eq_of_fields (a b : St) (h1 : a.closing = b.closing) (h2 : a.cr = b.cr) (h3 : a.buffer = b.buffer)
    (h4 : a.sets = b.sets) (h5 : a.wait = b.wait) (h6 : a.stale = b.stale) : a = b := by
  cases a; cases b; simp_all

structure SeenAs (p : Int) (b j : St) : Prop where
  closing : j.closing = b.closing
  cr      : j.cr = (projB p b).cr
  buffer  : j.buffer = projL p b.buffer
  wait    : j.wait = projWait p b.wait

theorem seenAs_iff {p : Int} {b j : St} :
    SeenAs p b j ↔ j = ({ projB p b with sets := j.sets, stale := j.stale } : St) :=
  ⟨fun h => st_eq_of_fields _ _ h.closing h.cr h.buffer rfl h.wait rfl,
   fun h => ⟨(congrArg St.closing h :), (congrArg St.cr h :), (congrArg St.buffer h :), (congrArg St.wait h :)⟩⟩

theorem seenAs_projB (p : Int) (b : St) (x : List (List Tok)) (y : Bool) :
    SeenAs p b { projB p b with sets := x, stale := y } := ⟨rfl, rfl, rfl, rfl⟩

def relabA : Action → Action
  | .ackSyn _ => .ackSyn 0
  | .requeue id _ r f => .requeue id 0 r f
  | .expire id _ f => .expire id 0 f
  | .add id _ => .add id 0
  | .succ id _ => .succ id 0
  | .fail id _ => .fail id 0
  | .drop _ => .drop 0
  | a => a

theorem retryMsg_relab (M : Nat) (t : Tok) : retryMsg M (relab t) = relabA (retryMsg M t) := by
  show (if t.retries ≥ M then _ else _) = relabA (if t.retries ≥ M then _ else _)
  split <;> rfl

theorem relabA_disabled {as : List Action} (h : as.map relabA = [.disabled]) : as = [.disabled] := by
  cases as with
  | nil => cases h
  | cons a r =>
    obtain ⟨h1, h2⟩ := List.cons.inj h
    rw [List.map_eq_nil_iff.1 h2]
    cases a <;> first | rfl | cases h1

theorem isOwn_relabA (a : Action) : isOwn 0 (relabA a) = isOut a := by cases a <;> rfl

theorem isOut_relabA (a : Action) : isOut (relabA a) = isOut a := by cases a <;> rfl

def OwnActs (p : Int) (as : List Action) : Prop :=
  ∀ a ∈ as, (∀ id q r f, a = Action.requeue id q r f → q = p) ∧ (∀ id q, a = Action.succ id q → q = p) ∧
    (∀ id q f, a = Action.expire id q f → q = p) ∧ (∀ id q, a = Action.fail id q → q = p)

def ForeignActs (p : Int) (as : List Action) : Prop :=
  ∀ a ∈ as, (∀ id q r f, a = Action.requeue id q r f → q ≠ p) ∧ (∀ id q, a = Action.succ id q → q ≠ p) ∧
    (∀ id q f, a = Action.expire id q f → q ≠ p) ∧ (∀ id q, a = Action.fail id q → q ≠ p)

theorem outPart_cases {R : Int → Prop} {a : Action} (h : ∀ q, outPart a = some q → R q) :
    (∀ id q r f, a = Action.requeue id q r f → R q) ∧ (∀ id q, a = Action.succ id q → R q) ∧
    (∀ id q f, a = Action.expire id q f → R q) ∧ (∀ id q, a = Action.fail id q → R q) :=
  ⟨fun _ q _ _ e => h q (e ▸ rfl), fun _ q e => h q (e ▸ rfl), fun _ q _ e => h q (e ▸ rfl), fun _ q e => h q (e ▸ rfl)⟩

theorem ownActs_of_outPart {p : Int} {as : List Action} (h : ∀ a ∈ as, ∀ q, outPart a = some q → q = p) :
    OwnActs p as := fun a ha => outPart_cases (R := (· = p)) (h a ha)

theorem foreignActs_of_outPart {p : Int} {as : List Action} (h : ∀ a ∈ as, ∀ q, outPart a = some q → q ≠ p) :
    ForeignActs p as := fun a ha => outPart_cases (R := (· ≠ p)) (h a ha)

theorem foreign_of_filter {p : Int} {as : List Action} (h : as.filter (isOwn p) = []) : ForeignActs p as :=
  foreignActs_of_outPart fun a ha _ e hq => List.filter_eq_nil_iff.mp h a ha (isOwn_iff.mpr (hq ▸ e))

theorem OwnActs.isOwn_eq {p : Int} {as : List Action} (ho : OwnActs p as) {a : Action} (ha : a ∈ as) :
    isOwn p a = isOut a := by
  obtain ⟨o1, o2, o3, o4⟩ := ho a ha
  cases a with
  | requeue id q r f => exact beq_of_eq (o1 id q r f rfl)
  | succ id q => exact beq_of_eq (o2 id q rfl)
  | expire id q f => exact beq_of_eq (o3 id q f rfl)
  | fail id q => exact beq_of_eq (o4 id q rfl)
  | _ => rfl

theorem OwnActs.filter_map {p : Int} {as : List Action} (ho : OwnActs p as) :
    (as.map relabA).filter isOut = (as.filter (isOwn p)).map relabA := by
  rw [List.filter_map]
  exact congrArg _ (List.filter_congr fun a ha => (isOut_relabA a).trans (ho.isOwn_eq ha).symm)

theorem ForeignActs.filter_own {p : Int} {as : List Action} (ho : ForeignActs p as) : as.filter (isOwn p) = [] := by
  refine List.filter_eq_nil_iff.mpr fun a ha e => ?_
  obtain ⟨o1, o2, o3, o4⟩ := ho a ha
  cases a with
  | requeue id q r f => exact o1 id q r f rfl (eq_of_beq e)
  | succ id q => exact o2 id q rfl (eq_of_beq e)
  | expire id q f => exact o3 id q f rfl (eq_of_beq e)
  | fail id q => exact o4 id q rfl (eq_of_beq e)
  | _ => cases e

theorem recvDo_proj {p : Int} (b : St) {t : Tok} (ov : Bool) (ht : t.part = p) (hw : b.wait = none) :
    recvDo (projB p b) (relab t) ov = recvDo b t ov := by
  have hwp : (projB p b).wait = none := by rw [projB, hw]; rfl
  unfold recvDo
  rw [hwp, hw, relab_part, needsRetry_proj, ht]
  rfl

theorem run_proj_own (M : Nat) {p : Int} (b : St) {t : Tok} (ht : t.part = p) (d : RecvDo) :
    d.run M (projB p b) (relab t) = (projB p (d.run M b t).1, (d.run M b t).2.map relabA) := by
  subst ht
  have hcr := projB_setCr_own t.part b false
  cases d with
  | off => rfl
  | ack => exact Prod.ext hcr.symm rfl
  | bounce c =>
    refine Prod.ext ?_ (congrArg (fun a => [Action.refuse t.id, a]) (retryMsg_relab M t))
    cases c
    · rfl
    · exact hcr.symm
  | hold => exact Prod.ext (by simp [RecvDo.run, projB, projWait]) rfl
  | add => exact Prod.ext (by simp [RecvDo.run, projB, projL_append, projL_own]) rfl

theorem recv_proj_own_pair (M : Nat) (p : Int) (b : St) (t : Tok) (ov : Bool) (ht : t.part = p) (hw : b.wait = none) :
    step M (projB p b) (.recv (relab t) ov) = (projB p (step M b (.recv t ov)).1, (step M b (.recv t ov)).2.map relabA) := by
  rw [recv_eq, recv_eq, recvDo_proj b ov ht hw, run_proj_own M b ht]

theorem recv_proj_own (M : Nat) (p : Int) (b : St) (t : Tok) (ov : Bool) (ht : t.part = p) (hw : b.wait = none) :
    (step M (projB p b) (.recv (relab t) ov)).1 = projB p (step M b (.recv t ov)).1 :=
  congrArg Prod.fst (recv_proj_own_pair M p b t ov ht hw)

theorem recv_proj_own_acts (M : Nat) (p : Int) (b : St) (t : Pipeline.Tok) (ov : Bool) (ht : t.part = p) (hw : b.wait = none) :
    (step M (projB p b) (.recv (relab t) ov)).2 = (step M b (.recv t ov)).2.map relabA :=
  congrArg Prod.snd (recv_proj_own_pair M p b t ov ht hw)

theorem recv_foreign (M : Nat) {p : Int} (b : St) {t : Tok} (ov : Bool) (ht : t.part ≠ p) :
    projWait p (step M b (.recv t ov)).1.wait = projWait p b.wait ∧
    (step M b (.recv t ov)).1.closing = b.closing ∧ (step M b (.recv t ov)).1.cr p = b.cr p ∧
    (step M b (.recv t ov)).1.sets = b.sets ∧ onPart p (step M b (.recv t ov)).1.buffer = onPart p b.buffer := by
  obtain ⟨r, a, hr, c⟩ : ∃ r a, step M b (.recv t ov) = r ∧ Props.C02bp.RecvCase M b t ov r a :=
    ⟨_, _, rfl, Props.C02bp.recv_case ..⟩
  rw [hr]
  cases c with
  | syn | reopen => exact ⟨rfl, rfl, setCr_other _ ht _, rfl, rfl⟩
  | hold hw => exact ⟨(if_neg ht).trans (congrArg (projWait p) hw).symm, rfl, rfl, rfl, rfl⟩
  | add => exact ⟨rfl, rfl, rfl, rfl, by simp [onPart, ht]⟩
  | _ => exact ⟨rfl, rfl, rfl, rfl, rfl⟩

theorem recv_other_partition (M : Nat) (b : BrokerProd.St) (t : Pipeline.Tok) (ov : Bool) (p : Int) (ht : t.part ≠ p) :
    (BrokerProd.step M b (.recv t ov)).1.closing = b.closing ∧ (BrokerProd.step M b (.recv t ov)).1.cr p = b.cr p ∧
    (BrokerProd.step M b (.recv t ov)).1.sets = b.sets ∧
    BrokerProd.onPart p (BrokerProd.step M b (.recv t ov)).1.buffer = BrokerProd.onPart p b.buffer :=
  (recv_foreign M b ov ht).2

set_option linter.unusedVariables false in
/-- `hw` is not used -/
theorem recv_proj_foreign (M : Nat) (p : Int) (b : St) (t : Tok) (ov : Bool) (ht : t.part ≠ p) (hw : b.wait = none) :
    projB p (step M b (.recv t ov)).1 = { projB p b with stale := (step M b (.recv t ov)).1.stale } := by
  obtain ⟨h5, h1, h2, h3, h4⟩ := recv_foreign M b ov ht
  simp only [projB, projL, h1, h2, h3, h4, h5]

/-- taking a token reads neither the sets at the bridge nor `stale`.  The step may write `stale`, so the right side
    takes its value from the left and the state equation speaks of the other fields only. -/
theorem recv_ss (M : Nat) (b : St) (S : List (List Pipeline.Tok)) (x : Bool) (t : Pipeline.Tok) (ov : Bool) :
    (step M { b with sets := S, stale := x } (.recv t ov)).2 = (step M b (.recv t ov)).2 ∧
    (step M { b with sets := S, stale := x } (.recv t ov)).1 =
      ({ (step M b (.recv t ov)).1 with
          sets := S, stale := (step M { b with sets := S, stale := x } (.recv t ov)).1.stale } : St) ∧
    (step M b (.recv t ov)).1.sets = b.sets := by
  have e : recvDo { b with sets := S, stale := x } t ov = recvDo b t ov := rfl
  rw [recv_eq, recv_eq, e]
  cases recvDo b t ov with
  | bounce c => cases c <;> exact ⟨rfl, rfl, rfl⟩
  | _ => exact ⟨rfl, rfl, rfl⟩

theorem recv_sets (M : Nat) (b : St) (t : Pipeline.Tok) (ov : Bool) : (step M b (.recv t ov)).1.sets = b.sets :=
  (Props.C02bp.recv_frame (Props.C02bp.recv_case M b t ov)).1

theorem recv_stale (M : Nat) (b : St) (x : Bool) (t : Pipeline.Tok) (ov : Bool) :
    (step M { b with stale := x } (.recv t ov)).2 = (step M b (.recv t ov)).2 ∧
    (step M { b with stale := x } (.recv t ov)).1 =
      { (step M b (.recv t ov)).1 with stale := (step M { b with stale := x } (.recv t ov)).1.stale } := by
  obtain ⟨g1, g2, g3⟩ := recv_ss M b b.sets x t ov
  exact ⟨g1, g2.trans (by rw [← g3])⟩

theorem recv_seenAs_own (M : Nat) {p : Int} {b j : St} (h : SeenAs p b j) {t : Tok} (ov : Bool) (ht : t.part = p)
    (hw : b.wait = none) :
    (step M j (.recv (relab t) ov)).2 = (step M b (.recv t ov)).2.map relabA ∧
    SeenAs p (step M b (.recv t ov)).1 (step M j (.recv (relab t) ov)).1 := by
  obtain ⟨g1, g2, _⟩ := recv_ss M (projB p b) j.sets j.stale (relab t) ov
  rw [← seenAs_iff.1 h] at g1 g2
  refine ⟨g1.trans (recv_proj_own_acts M p b t ov ht hw), ?_⟩
  rw [g2, recv_proj_own M p b t ov ht hw]
  exact seenAs_projB ..

theorem recv_seenAs_foreign (M : Nat) {p : Int} {b j : St} (h : SeenAs p b j) {t : Tok} (ov : Bool) (ht : t.part ≠ p) :
    SeenAs p (step M b (.recv t ov)).1 j := by
  obtain ⟨h5, h1, h2, _, h4⟩ := recv_foreign M b ov ht
  exact ⟨h.closing.trans h1.symm, h.cr.trans (by simp only [projB, h2]), h.buffer.trans (by simp only [projL, h4]),
    h.wait.trans h5.symm⟩

theorem recv_outPart (M : Nat) (b : St) (t : Pipeline.Tok) (ov : Bool) :
    ∀ a ∈ (step M b (.recv t ov)).2, ∀ q, outPart a = some q → q = t.part := by
  have retry : ∀ q, outPart (retryMsg M t) = some q → q = t.part := by
    unfold retryMsg
    split <;> exact fun q e => (Option.some.inj e).symm
  have quiet : ∀ {a : Action}, outPart a = none → ∀ q, outPart a = some q → q = t.part :=
    fun h q e => nomatch h.symm.trans e
  have nil : ∀ a ∈ ([] : List Action), ∀ q, outPart a = some q → q = t.part := fun _ h => nomatch h
  rw [recv_eq]
  cases recvDo b t ov with
  | bounce c => exact List.forall_mem_cons.2 ⟨quiet rfl, List.forall_mem_cons.2 ⟨retry, nil⟩⟩
  | hold => exact nil
  | _ => exact List.forall_mem_cons.2 ⟨quiet rfl, nil⟩

theorem handover_fields (M : Nat) (b : St) (hd : (step M b .handover).2 ≠ [Action.disabled]) :
    (step M b .handover).1.sets = [b.buffer] ∧ (step M b .handover).1.closing = b.closing ∧
    (step M b .handover).1.cr = b.cr ∧ (step M b .handover).1.wait = none ∧
    (step M b .handover).1.buffer = b.wait.toList ∧
    ((step M b .handover).2.filter isOut = [] ∧ ∀ p, (step M b .handover).2.filter (isOwn p) = []) ∧
    (step M b .handover).1.stale = false := by
  rw [(Props.C02bp.handover_eq M b hd).2]
  cases b.wait <;> exact ⟨rfl, rfl, rfl, rfl, rfl, ⟨rfl, fun _ => rfl⟩, rfl⟩

theorem handover_free (M : Nat) (b : St) (hd : (step M b .handover).2 ≠ [Action.disabled]) : b.sets = [] :=
  (Props.C02bp.handover_eq M b hd).1

theorem projWait_toList (p : Int) (w : Option Pipeline.Tok) : (projWait p w).toList = projL p w.toList := by
  cases w with
  | none => rfl
  | some t => by_cases ht : t.part = p <;> simp [projWait, projL, onPart, ht]

theorem projL_toList_none {p : Int} {w : Option Pipeline.Tok} (h : projWait p w = none) : projL p w.toList = [] := by
  rw [← projWait_toList, h]; rfl

theorem handover_hidden_proj {M : Nat} {p : Int} {b : St} (hd : (step M b .handover).2 ≠ [Action.disabled])
    (hbuf : projL p b.buffer = []) (hwt : projWait p b.wait = none) :
    projL p (step M b .handover).1.buffer = projL p b.buffer ∧
    projWait p (step M b .handover).1.wait = projWait p b.wait ∧
    (step M b .handover).1.sets ≠ [] ∧ (∀ x ∈ (step M b .handover).1.sets, projL p x = []) ∧
    (step M b .handover).2.filter (isOwn p) = [] := by
  obtain ⟨f1, _, _, f4, f5, f6, _⟩ := handover_fields M b hd
  rw [f1, f4, f5, hbuf, hwt]
  exact ⟨projL_toList_none hwt, rfl, List.cons_ne_nil _ _, fun x hx => List.mem_singleton.1 hx ▸ hbuf, f6.2 p⟩

theorem handover_visible_proj {M : Nat} {p : Int} {b j : St} (hd : (step M b .handover).2 ≠ [Action.disabled])
    (hen : (step M j .handover).2 ≠ [Action.disabled])
    (a3 : j.buffer = projL p b.buffer) (a4 : j.wait = projWait p b.wait) :
    (step M j .handover).1.buffer = projL p (step M b .handover).1.buffer ∧
    (step M j .handover).1.wait = projWait p (step M b .handover).1.wait ∧
    (step M j .handover).1.sets = (step M b .handover).1.sets.map (projL p) ∧
    (step M j .handover).2.filter isOut = ((step M b .handover).2.filter (isOwn p)).map relabA := by
  obtain ⟨f1, _, _, f4, f5, f6, _⟩ := handover_fields M b hd
  obtain ⟨g1, _, _, g4, g5, g6, _⟩ := handover_fields M j hen
  rw [f1, f4, f5, g1, g4, g5, a3, a4, g6.1, f6.2 p]
  exact ⟨projWait_toList p _, rfl, rfl, rfl⟩

theorem handover_visible_enabled {M : Nat} {p : Int} {b j : St} (hj : j.sets = []) (a3 : j.buffer = projL p b.buffer)
    (a4 : j.wait = projWait p b.wait) (hvis : projL p b.buffer ≠ [] ∨ projWait p b.wait ≠ none) :
    (step M j .handover).2 ≠ [Action.disabled] :=
  Lemmas.C02sys.handover_enabled M _ hj (hvis.symm.imp (a4 ▸ ·) (a3 ▸ ·))

/-- the set handed over may hold nothing of `p` only when a message of `p` is held or `stale` is armed -/
theorem handover_proj (M : Nat) (p : Int) (b : St) (hd : (step M b .handover).2 ≠ [Action.disabled])
    (hdp : (step M (projB p b) .handover).2 ≠ [Action.disabled]) :
    (step M (projB p b) .handover).1 = projB p (step M b .handover).1 := by
  obtain ⟨_, f2, f3, _, _, _, f6⟩ := handover_fields M b hd
  obtain ⟨_, g2, g3, _, _, _, g6⟩ := handover_fields M (projB p b) hdp
  obtain ⟨c3, c4, c5, _⟩ := handover_visible_proj hd hdp rfl rfl
  refine st_eq_of_fields _ _ (g2.trans f2.symm) ?_ c3 c5 c4 (g6.trans f6.symm)
  show _ = fun q => if q = 0 then (step M b .handover).1.cr p else false
  rw [g3, f3]; rfl

theorem handover_hidden (M : Nat) (p : Int) (b : St) (hd : (step M b .handover).2 ≠ [Action.disabled])
    (hdp : (step M (projB p b) .handover).2 = [Action.disabled]) :
    ∃ sent, (step M b .handover).1.sets = [sent] ∧ projL p sent = [] ∧ projWait p b.wait = none := by
  have hs := handover_free M b hd
  have hnot : ¬(projL p b.buffer ≠ [] ∨ projWait p b.wait ≠ none) := fun hvis =>
    handover_visible_enabled (j := projB p b) (congrArg (List.map (projL p)) hs) rfl rfl hvis hdp
  exact ⟨b.buffer, (handover_fields M b hd).1, Classical.not_not.1 fun h => hnot (Or.inl h),
    Classical.not_not.1 fun h => hnot (Or.inr h)⟩

end Props.C02sys
