import SaramaVerif.Model.GroupWorld
import SaramaVerif.Props.C07
import SaramaVerif.Lemmas.AssocFind
/-
  C07 for any number of members sharing one coordinator.

  * `world_projects`: a world history is accepted only if, for EVERY client, that client's own events are an accepted
    history of the single-member session model — so every theorem of Props/C07 (session order, identity carried, fresh
    identity after fencing, …) holds for every member of every accepted world history, whatever the other members do
    and however the histories interleave.
  * `no_double_claim_in_generation`: in every accepted world history a partition is claimed at most once per
    generation: two ConsumeClaim calls for one partition in sessions of one generation belong to the same client.
-/
namespace Props.C07world
open Model.GroupWorld
open Model.Group (St Ev)
open Lemmas.Acceptor

theorem getL_setL (l : List (Nat × St)) (c c' : Nat) (s : St) :
    getL (setL l c s) c' = if c = c' then s else getL l c' := by
  unfold getL setL
  rw [Lemmas.Assoc.find?_replace Prod.fst]
  by_cases hc : c = c' <;> simp only [hc, ↓reduceIte]

theorem guard_sts (w w1 : World) (c : Nat) (e : Ev) (h : wguard w c e = .ok w1) : w1.sts = w.sts := by
  revert h; unfold wguard
  split
  · refine ok_of_ite (fun _ => ?_) nofun; rintro ⟨⟩; rfl
  · refine ok_of_guard fun _ => ok_of_guard fun _ h => ?_; cases h; rfl
  · rintro ⟨⟩; rfl

theorem wstep_member (w w' : World) (c : Nat) (e : Ev) (h : wstep w (.member c e) = .ok w') :
    ∃ w1 s', wguard w c e = .ok w1 ∧ Model.Group.step (getSt w c) e = .ok s' ∧ w' = { w1 with sts := setL w.sts c s' } := by
  simp only [wstep] at h
  split at h
  · cases h
  · split at h
    · cases h
    · injection h with h; exact ⟨_, _, ‹_›, ‹_›, h.symm⟩

theorem wstep_plan (w w' : World) (c : Nat) (ps : List Nat) : wstep w (.plan c ps) = .ok w' →
    planOk w.plans (getSt w c).gen (getSt w c).member ps = true ∧
      w' = { w with plans := ⟨(getSt w c).gen, (getSt w c).member, ps⟩ :: w.plans } := by
  refine ok_of_guard fun _ => ok_of_guard fun hok h => ?_
  cases h; exact ⟨Decidable.not_not.mp hok, rfl⟩

theorem step_member (w w' : World) (c : Nat) (e : Ev) (h : wstep w (.member c e) = .ok w') :
    Model.Group.step (getSt w c) e = .ok (getSt w' c) ∧ ∀ c', c' ≠ c → getSt w' c' = getSt w c' := by
  obtain ⟨w1, s', _, hs, rfl⟩ := wstep_member w w' c e h
  refine ⟨?_, ?_⟩
  · rw [hs]; simp [getSt, getL_setL]
  · intro c' hc; simp [getSt, getL_setL, hc.symm]

theorem folds : Folds wstep wrun :=
  .ofExcept (fun _ => rfl) fun w e es => by rw [wrun]; cases wstep w e <;> rfl

/-- for every client, its own events form an accepted single-member history ending in the state the
    world holds for it -/
theorem world_projects (c : Nat) (es : List WEv) (w w' : World) (h : wrun w es = .ok w') :
    Model.Group.run (getSt w c) (proj c es) = .ok (getSt w' c) := by
  induction es generalizing w with
  | nil => cases folds.nil.mp h; rfl
  | cons e es ih =>
    obtain ⟨w1, hs, h⟩ := folds.cons.mp h
    have h1 := ih w1 h
    cases e with
    | member c' ev =>
      obtain ⟨hown, hoth⟩ := step_member w w1 c' ev hs
      by_cases hc : c' = c
      · subst hc
        simp only [proj, ↓reduceIte, Model.Group.run, hown]
        exact h1
      · simp only [proj, hc, ↓reduceIte]
        rw [← hoth c (fun e => hc e.symm)]; exact h1
    | plan c' ps =>
      obtain ⟨_, rfl⟩ := wstep_plan w w1 c' ps hs
      exact h1

theorem member_holds (P : St → Prop) (hstep : ∀ s s' e, Model.Group.step s e = .ok s' → P s → P s') (h0 : P {})
    (c : Nat) (es : List WEv) (w' : World) (h : wrun {} es = .ok w') : P (getSt w' c) :=
  Props.C07.folds.inv P hstep _ _ _ (world_projects c es {} w' h) h0

theorem member_inv (c : Nat) (es : List WEv) (w' : World) (h : wrun {} es = .ok w') :
    Props.C07.GInv (getSt w' c) :=
  member_holds _ Props.C07.step_inv Props.C07.init_inv c es w' h

structure WInv (w : World) : Prop where
  plans_disjoint : ∀ q1 ∈ w.plans, ∀ q2 ∈ w.plans, q1.gen = q2.gen → q1.member ≠ q2.member → ∀ p, p ∈ q1.parts → p ∉ q2.parts
  issued_fun : ∀ i1 ∈ w.issued, ∀ i2 ∈ w.issued, i1.member = i2.member → i1.client = i2.client
  claim_ok : ∀ k ∈ w.claims, (⟨k.client, k.member⟩ : Issued) ∈ w.issued ∧ ∃ q ∈ w.plans, q.gen = k.gen ∧ q.member = k.member ∧ k.p ∈ q.parts

theorem init_winv : WInv {} := by
  refine ⟨?_, ?_, ?_⟩
  · intro q1 h; simp at h
  · intro i h; simp at h
  · intro k h; simp at h

private theorem compatible_spec (g : Int) (m : Nat) (ps : List Nat) (q : Plan) (h : compatible g m ps q = true)
    (hg : q.gen = g) (hm : q.member ≠ m) : ∀ p, p ∈ ps → p ∉ q.parts := by
  unfold compatible at h
  simp only [hg, ↓reduceIte, hm] at h
  intro p hp
  have := (List.all_eq_true.mp h) p hp
  simpa using this

private theorem idFresh_spec (issued : List Issued) (c m : Nat) (h : idFresh issued c m = true) :
    ∀ i ∈ issued, i.member = m → i.client = c := by
  intro i hi hm
  simpa [hm] using List.all_eq_true.mp h i hi

private theorem hasPlan_spec (plans : List Plan) (g : Int) (m p : Nat) (h : hasPlan plans g m p = true) :
    ∃ q ∈ plans, q.gen = g ∧ q.member = m ∧ p ∈ q.parts := by
  obtain ⟨q, hq, hq2⟩ := List.any_eq_true.mp h
  simp only [Bool.and_eq_true, decide_eq_true_eq, List.contains_eq_mem] at hq2
  exact ⟨q, hq, hq2.1.1, hq2.1.2, hq2.2⟩

theorem guard_inv (w w1 : World) (c : Nat) (e : Ev) (h : wguard w c e = .ok w1) (hi : WInv w) : WInv w1 := by
  revert h; unfold wguard
  split
  · -- successful join: a member id is issued
    rename_i im _ig
    refine ok_of_ite (fun hf => ?_) nofun
    rintro ⟨⟩
    have hfresh := idFresh_spec _ _ _ hf
    refine ⟨hi.plans_disjoint, ?_, ?_⟩
    · intro i1 h1 i2 h2 hm
      rcases List.mem_cons.mp h1 with rfl | h1 <;> rcases List.mem_cons.mp h2 with rfl | h2
      · rfl
      · exact (hfresh i2 h2 hm.symm).symm
      · exact hfresh i1 h1 hm
      · exact hi.issued_fun i1 h1 i2 h2 hm
    · intro k hk
      obtain ⟨h1, h2⟩ := hi.claim_ok k hk
      exact ⟨List.mem_cons_of_mem _ h1, h2⟩
  · -- a claim starts
    rename_i _n p
    refine ok_of_guard fun hiss => ok_of_guard fun hpl h => ?_
    cases h
    refine ⟨hi.plans_disjoint, hi.issued_fun, ?_⟩
    intro k hk
    rcases List.mem_cons.mp hk with rfl | hk
    · exact ⟨by simpa using hiss, hasPlan_spec _ _ _ _ (Decidable.not_not.mp hpl)⟩
    · exact hi.claim_ok k hk
  · rintro ⟨⟩; exact hi

theorem step_winv (w w' : World) (e : WEv) (h : wstep w e = .ok w') (hi : WInv w) : WInv w' := by
  cases e with
  | member c ev =>
    obtain ⟨w1, s', hg, _, rfl⟩ := wstep_member w w' c ev h
    exact { guard_inv w w1 c ev hg hi with }
  | plan c ps =>
    obtain ⟨hok, rfl⟩ := wstep_plan w w' c ps h
    have hall := List.all_eq_true.mp hok
    refine ⟨?_, hi.issued_fun, ?_⟩
    · intro q1 h1 q2 h2 hg hm p hp
      rcases List.mem_cons.mp h1 with rfl | h1 <;> rcases List.mem_cons.mp h2 with rfl | h2
      · exact absurd rfl hm
      · exact compatible_spec _ _ _ q2 (hall q2 h2) hg.symm (fun e => hm e.symm) p hp
      · intro hp2
        exact compatible_spec _ _ _ q1 (hall q1 h1) hg hm p hp2 hp
      · exact hi.plans_disjoint q1 h1 q2 h2 hg hm p hp
    · intro k hk
      obtain ⟨h1, q, hq, h2⟩ := hi.claim_ok k hk
      exact ⟨h1, q, List.mem_cons_of_mem _ hq, h2⟩

theorem run_winv (es : List WEv) (w w' : World) (h : wrun w es = .ok w') (hi : WInv w) : WInv w' :=
  folds.inv WInv step_winv es w w' h hi

/-- in every accepted world history, two ConsumeClaim calls for the same partition in sessions of the same generation
    were made by the same client -/
theorem no_double_claim_in_generation (es : List WEv) (w' : World) (h : wrun {} es = .ok w')
    (k1 k2 : Claim) (h1 : k1 ∈ w'.claims) (h2 : k2 ∈ w'.claims) (hg : k1.gen = k2.gen) (hp : k1.p = k2.p) :
    k1.client = k2.client := by
  have hi := run_winv es {} w' h init_winv
  obtain ⟨i1, q1, hq1, g1, m1, p1⟩ := hi.claim_ok k1 h1
  obtain ⟨i2, q2, hq2, g2, m2, p2⟩ := hi.claim_ok k2 h2
  by_cases hm : k1.member = k2.member
  · exact hi.issued_fun _ i1 _ i2 hm
  · exfalso
    have hne : q1.member ≠ q2.member := by rw [m1, m2]; exact hm
    have hge : q1.gen = q2.gen := by rw [g1, g2]; exact hg
    exact hi.plans_disjoint q1 hq1 q2 hq2 hge hne k1.p p1 (by rw [hp]; exact p2)

/-- two clients, one generation, disjoint assignments, both claim; and an overlapping assignment is rejected -/
example : (wrun {} [.member 1 (.join 0 .ok 1 1), .member 2 (.join 0 .ok 2 1),
                   .member 1 (.sync 1 1 .ok), .plan 1 [0, 2], .member 2 (.sync 2 1 .ok), .plan 2 [1],
                   .member 1 (.setup 100 1 1), .member 2 (.setup 200 2 1),
                   .member 1 (.claimStart 100 0), .member 2 (.claimStart 200 1), .member 1 (.claimStart 100 2)]).toOption.map
            (fun w => w.claims.length) = some 3 := by decide +kernel
example : (wrun {} [.member 1 (.join 0 .ok 1 1), .member 2 (.join 0 .ok 2 1),
                   .member 1 (.sync 1 1 .ok), .plan 1 [0, 2], .member 2 (.sync 2 1 .ok), .plan 2 [2]]).toOption.isNone = true := by decide +kernel

end Props.C07world
