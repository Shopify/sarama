import SaramaVerif.Props.C01
/-
  C05, producer side: what the accounting model (`Model/Producer`) accepts of the events of the idempotent producer.

  Sequence numbers.  The acceptor takes a `stampAt p e q` event (hook at getAndIncrementSequenceNumber's call site:
  partition, epoch and sequence returned) only if q is the number of stamps already given to partition p in epoch e.
  For EVERY accepted history:
    * `stamps_never_repeat`  no two messages are ever given the same (partition, epoch, sequence);
    * `stamps_dense`         the sequences given to a partition in an epoch are exactly 0, 1, …, n-1 (no gap; every
                             partition starts again at 0 in a new epoch - "all sequences reset" on an epoch bump).
  Messages (namespace `Props.C05`, with the broker side of `Props/C05.lean`): a message is given a sequence number at
  most once, on its first forward, and what goes out in an idempotent produce set has been given one, under an epoch
  not newer than the set's, a whole-batch resend under the stamp of its previous send (rules R1, R2).
-/
namespace Props.C05stamps
open Model.Producer Lemmas.Acceptor

structure SInv (l : List (Int × Int × Int)) : Prop where
  below : ∀ x ∈ l, 0 ≤ x.2.2 ∧ x.2.2 < (stampCount l x.1 x.2.1 : Int)
  dense : ∀ p e (k : Nat), k < stampCount l p e → (p, e, (k : Int)) ∈ l
  nodup : l.Nodup

private theorem stampCount_cons_same (l : List (Int × Int × Int)) (p e q : Int) :
    stampCount ((p, e, q) :: l) p e = stampCount l p e + 1 := by
  simp [stampCount]

private theorem stampCount_cons_other (l : List (Int × Int × Int)) (p e q p' e' : Int) (h : ¬ (p = p' ∧ e = e')) :
    stampCount ((p, e, q) :: l) p' e' = stampCount l p' e' := by
  simp [stampCount, h]

theorem push_inv (l : List (Int × Int × Int)) (p e : Int) (hi : SInv l) :
    SInv ((p, e, (stampCount l p e : Int)) :: l) := by
  refine ⟨?_, ?_, ?_⟩
  · intro x hx
    rcases List.mem_cons.mp hx with rfl | hx
    · simp only []
      rw [stampCount_cons_same]
      constructor <;> omega
    · obtain ⟨h0, h1⟩ := hi.below x hx
      refine ⟨h0, ?_⟩
      by_cases hpe : p = x.1 ∧ e = x.2.1
      · rw [← hpe.1, ← hpe.2, stampCount_cons_same]; rw [hpe.1, hpe.2]; omega
      · rw [stampCount_cons_other _ _ _ _ _ _ hpe]; exact h1
  · intro p' e' k hk
    by_cases hpe : p = p' ∧ e = e'
    · obtain ⟨rfl, rfl⟩ := hpe
      rw [stampCount_cons_same] at hk
      by_cases hkk : k = stampCount l p e
      · subst hkk; exact List.mem_cons_self
      · exact List.mem_cons_of_mem _ (hi.dense p e k (by omega))
    · rw [stampCount_cons_other _ _ _ _ _ _ hpe] at hk
      exact List.mem_cons_of_mem _ (hi.dense p' e' k hk)
  · refine List.nodup_cons.mpr ⟨?_, hi.nodup⟩
    intro hm
    have := (hi.below _ hm).2
    simp only [] at this
    omega

theorem step_sinv (s s' : St) (e : Ev) (h : step s e = .ok s') (hi : SInv s.stampLog) : SInv s'.stampLog := by
  rcases (Props.C01.step_logs s s' e h).stamp with heq | ⟨p, ep, heq⟩ <;> rw [heq]
  · exact hi
  · exact push_inv _ p ep hi

theorem run_sinv (es : List Ev) (s s' : St) (h : run s es = .ok s') (hi : SInv s.stampLog) : SInv s'.stampLog :=
  Props.C01.folds.inv (fun s => SInv s.stampLog) step_sinv es s s' h hi

theorem init_sinv (cfg : Cfg) : SInv (init cfg).stampLog := by
  refine ⟨?_, ?_, ?_⟩
  · intro x hx; simp [init] at hx
  · intro p e k hk; simp [init, stampCount] at hk
  · simp [init]

/-- in every accepted history no (partition, epoch, sequence) is given twice -/
theorem stamps_never_repeat (cfg : Cfg) (es : List Ev) (s : St) (h : run (init cfg) es = .ok s) : s.stampLog.Nodup :=
  (run_sinv es _ s h (init_sinv cfg)).nodup

/-- in every accepted history the sequences given to a partition in an epoch are 0, 1, …, n-1:
    whenever sequence q was given, every smaller non-negative sequence was given too, and q itself is non-negative -/
theorem stamps_dense (cfg : Cfg) (es : List Ev) (s : St) (h : run (init cfg) es = .ok s)
    (p e q : Int) (hq : (p, e, q) ∈ s.stampLog) (k : Nat) (hk : (k : Int) < q) : (p, e, (k : Int)) ∈ s.stampLog ∧ 0 ≤ q := by
  have hi := run_sinv es _ s h (init_sinv cfg)
  obtain ⟨h0, h1⟩ := hi.below _ hq
  simp only [] at h0 h1
  exact ⟨hi.dense p e k (by omega), h0⟩

/-- two partitions, an epoch change -/
example : (run (init { retryMax := 1, icepts := 0, idem := true })
            [.stampAt 0 0 0, .stampAt 1 0 0, .stampAt 0 0 1, .stampAt 1 0 1, .stampAt 1 0 2, .stampAt 0 1 0, .stampAt 1 1 0]).toOption.map
            (fun s => s.stampLog.length) = some 7 := by decide +kernel
/-- … and the other partition continuing at 3 in the new epoch is rejected -/
example : (run (init { retryMax := 1, icepts := 0, idem := true })
            [.stampAt 0 0 0, .stampAt 1 0 0, .stampAt 1 0 1, .stampAt 1 0 2, .stampAt 0 1 0, .stampAt 1 1 3]).toOption.isNone = true := by decide +kernel

/-- the acceptor takes an epoch-bump event only for a message that has an error event and carried a sequence number,
    and only once per message -/
theorem bump_only_for_failed_sequenced_message (s s' : St) (id : Int) (h : step s (.bump id) = .ok s') :
    id ∈ s.errs ∧ s.seqLog.count id ≠ 0 ∧ s.bumps.count id = 0 ∧ s'.bumps = id :: s.bumps := by
  revert h
  refine ok_of_guard fun h1 => ok_of_guard fun h2 => ok_of_guard fun h3 h => ?_
  cases h; exact ⟨Decidable.not_not.mp h1, h2, Decidable.not_not.mp h3, rfl⟩

/-- what the driver checks when the producer has closed: no failed sequenced message is left without its bump -/
example : unbumped ({ (init { retryMax := 1, icepts := 0, idem := true }) with errs := [7], seqLog := [7] }) = [7] := by decide +kernel
example : unbumped ({ (init { retryMax := 1, icepts := 0, idem := true }) with errs := [7], seqLog := [7], bumps := [7] }) = [] := by decide +kernel

end Props.C05stamps

namespace Props.C05
open Model.Producer Lemmas.Acceptor

theorem sequence_assigned_once (cfg : Cfg) (es : List Ev) (s : St) (h : run (init cfg) es = .ok s) (id : Int) :
    s.seqLog.count id ≤ 1 := (Props.C01.reachable_inv cfg es s h).seq_once id

theorem sequence_only_on_first_forward (s s' : St) (id : Int) (h : step s (.seq id) = .ok s') :
    s.cfg.idem = true ∧ id ∈ s.live ∧ s.retryLog.count id = 0 ∧ s.seqLog.count id = 0 := by
  revert h
  exact ok_of_guard fun h1 => ok_of_guard fun h2 => ok_of_guard fun h3 => ok_of_guard fun h4 _ =>
    ⟨Decidable.not_not.mp h1, Decidable.not_not.mp h2, Decidable.not_not.mp h3, Decidable.not_not.mp h4⟩

theorem sent_checked (s s' : St) (id idx e f : Int) (hid : 0 < id) (hc : s.curStamp = some (e, f))
    (h : step s (.sent id idx) = .ok s') :
    ∃ me mq, lookup3 s.msgStamp id = some (me, mq) ∧ me ≤ e ∧
      (id ∈ s.viaBatch → ∀ prev, lookup3 s.lastSent id = some prev → prev = (e, f + idx)) := by
  rcases Props.C01.step_sent_cases s s' id idx h with ⟨hn | hle, _⟩ | ⟨e', f', me, mq, _, hc', _, hm, hle, hp⟩
  · cases hc.symm.trans hn
  · omega
  · cases hc.symm.trans hc'; exact ⟨me, mq, hm, hle, hp⟩

/-- rule R1: a produce set never carries an epoch older than the stamp of one of its messages
    (accepted `sent` events only; the trace validation replays every batch the real producer hands to a broker) -/
theorem batch_epoch_not_older_than_message (s s' : St) (id idx e f me mq : Int) (hid : 0 < id)
    (hc : s.curStamp = some (e, f)) (hm : lookup3 s.msgStamp id = some (me, mq))
    (h : step s (.sent id idx) = .ok s') : me ≤ e := by
  obtain ⟨_, _, hm', hle, _⟩ := sent_checked s s' id idx e f hid hc h
  cases hm.symm.trans hm'; exact hle

set_option linter.unusedVariables false in
/-- rule R2: a whole-batch resend (retryBatch) goes out under exactly the (epoch, sequence) of its previous send:
    "a resent batch carries the identical sequence range, epoch and records" for the retryBatch path.  (The statement
    carries `hm`, which the proof does not use.) -/
theorem retrybatch_resend_identical (s s' : St) (id idx e f me mq pe pq : Int) (hid : 0 < id)
    (hc : s.curStamp = some (e, f)) (hm : lookup3 s.msgStamp id = some (me, mq))
    (hp : lookup3 s.lastSent id = some (pe, pq)) (hv : id ∈ s.viaBatch)
    (h : step s (.sent id idx) = .ok s') : (pe, pq) = (e, f + idx) :=
  have ⟨_, _, _, _, hprev⟩ := sent_checked s s' id idx e f hid hc h
  hprev hv _ hp

/-- an idempotent batch never carries a message that was not given a sequence number -/
theorem sent_message_was_stamped (s s' : St) (id idx e f : Int) (hid : 0 < id)
    (hc : s.curStamp = some (e, f)) (h : step s (.sent id idx) = .ok s') : (lookup3 s.msgStamp id).isSome := by
  obtain ⟨_, _, hm, _⟩ := sent_checked s s' id idx e f hid hc h
  rw [hm]; rfl

end Props.C05
