/-
  The DECIDABLE side conditions under which the projection on `p` follows a run of the model with several partitions,
  checked along the run (`projOK`).
    * `brOK`: the answer of a `broker` step is well-formed for `p` and, if it appends for `p`, comes from the leader of
      `p`.  Not well-formed for `p` is one answer only: a per-partition answer whose verdict at `p` is `.conn true`, for
      which the step appends to the log of `p` while the worker, and `projV p`, read the verdict as `.fatal` (see
      `projV`, Props/C02multiV.lean).
    * `delOK`: a `deliver` step is not one of the cases excluded - a set that holds NOTHING of `p` while (i) the answer
      is a connection error or (ii) a message of `p` is held in waitForSpace.  In these the worker with several
      partitions goes to closing mode and bounces its buffer (i), or re-checks the held message (ii), so the state of
      `p` changes; but the one-partition worker has no set at its bridge, its `deliver` is not enabled, and
      `Choice.closeW` requires an empty buffer, nothing held, normal mode and `cur = some w`.  Two sub-cases of (i) are
      admitted by `delOK2` (Props/C02multiK.lean).
-/
import SaramaVerif.Props.C02multiV

namespace Props.C02sys
open Model Model.Pipeline Model.PipelineN Model.BrokerProd Lemmas.C02sys

def isConn : RespN → Bool
  | .conn _ => true
  | _ => false

def brOK (p : Int) (sN : SysN) (w : Nat) (r : RespN) : Bool :=
  ((projV p r).appends == r.appends p) && !((projV p r).appends && !(brokerOf w == sN.ldr p))

theorem brOK_spec {p : Int} {sN : SysN} {s : Sys} {w : Nat} {r : RespN} (h : QRel p sN s)
    (hok : brOK p sN w r = true) :
    (projV p r).appends = r.appends p ∧ ¬(((projV p r).appends && !(brokerOf w == s.ldr)) = true) := by
  simp only [brOK, Bool.and_eq_true, beq_iff_eq, Bool.not_eq_true'] at hok
  rw [h.ldr]
  exact ⟨hok.1, by simpa using hok.2⟩

/-- `true` when there is no set at the bridge or no answer: no `deliver` step is enabled then -/
def delOK (p : Int) (sN : SysN) (w : Nat) : Bool :=
  match (sN.wk w).bp.sets, (sN.wk w).pend with
  | sent :: _, some (r, _) =>
    !(projL p sent).isEmpty || (!isConn r && (projWait p (sN.wk w).bp.wait).isNone)
  | _, _ => true

theorem delOK_noneOfP {p : Int} {sN : SysN} {w : Nat} {sent : List Pipeline.Tok} {rest : List (List Pipeline.Tok)}
    {r : RespN} {base : Int → Nat} (hd : delOK p sN w = true) (hsets : (sN.wk w).bp.sets = sent :: rest)
    (hpd : (sN.wk w).pend = some (r, base)) (he : projL p sent = []) :
    (∃ v, r = .parts v) ∧ projWait p (sN.wk w).bp.wait = none := by
  simp only [delOK, hsets, hpd, he] at hd
  cases r with
  | conn a => simp [isConn] at hd
  | parts v => exact ⟨⟨v, rfl⟩, by simpa [isConn] using hd⟩

def projOK (M : Nat) (p : Int) : SysN → List ChoiceN → Bool
  | _, [] => true
  | sN, c :: cs =>
    match sysStepN M sN c with
    | none => false
    | some sN' =>
      (match c with
        | .broker w r => brOK p sN w r
        | .deliver w _ => delOK p sN w
        | _ => true) && projOK M p sN' cs

end Props.C02sys
