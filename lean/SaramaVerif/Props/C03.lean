import SaramaVerif.Lemmas.C03Hist
/-
  C03 — a partition consumer delivers the log exactly once, in order, unaltered.

  Objects: `L : List LUnit` an arbitrary partition log (record batches, legacy v0/v1 blocks and compressed
  wrappers, control batches, compaction gaps), well-formed (`LogWF`); a consumer state (next offset, fetch
  size); a fetch history `bs : List Block`, every response faithful for the state in which it arrives
  (`FaithfulHist`: error block | missing block | throttled-empty | a run of consecutive units of the log that
  begins with the first unit reaching the asked offset, cut anywhere, possibly with partial trailing data).
  `run cfg st bs` is the model of the real parseResponse applied to the history (tied to the code by
  differential execution and the bridge obligations).  `visible tsw L` = all records of non-control units.
-/
namespace Props.C03
open Model.ConsumerParse Lemmas.C03

/-- the isolation hypothesis of C03, on the log: read-uncommitted, or no transactional batch in it (C11 treats
    read-committed over transactional logs) -/
def IsoLog (cfg : Cfg) (L : List LUnit) : Prop := cfg.readCommitted = false ∨ ∀ u ∈ L, unitIsTxn u = false

private theorem isoOK_of_log {cfg : Cfg} {L : List LUnit} {o : Int} {es : List Entry}
    (h : IsoLog cfg L) (hf : FaithfulData L o es) : IsoOK cfg es := by
  obtain ⟨pre, post, hL, _⟩ := hf
  refine h.imp id (fun h b hb => ?_)
  have : LUnit.bat b ∈ L := by
    rw [hL]
    apply List.mem_append_left; apply List.mem_append_right
    exact List.mem_flatMap.2 ⟨_, hb, by simp [entryUnits]⟩
  exact h _ this

private theorem visible_asc {tsw : Bool} {L : List LUnit} {b0 : Int} (h : LogWF tsw b0 L) : Asc b0 (visible tsw L) :=
  visibleIso_uncommitted tsw L ▸ visibleIso_asc false tsw h

theorem step_window (cfg : Cfg) (L : List LUnit) (b0 : Int) (st : PState) (b : Block)
    (hwf : LogWF cfg.tsFromWrapper b0 L) (hiso : IsoLog cfg L) (hf : FaithfulResp cfg L st b) :
    (parseBlock cfg st b).1 = window st.offset (parseBlock cfg st b).2.1.offset (visible cfg.tsFromWrapper L) ∧
    st.offset ≤ (parseBlock cfg st b).2.1.offset := by
  refine step_window_of cfg _ st b (fun es ab e => ?_) fun hp => ?_
  · subst e; exact hf.2 rfl
  · cases b with
    | data es pt ab =>
      have ⟨r1, r2, _⟩ := resp_static cfg L b0 st es pt ab hwf hf.1 (isoOK_of_log hiso hf.1) (of_decide_eq_true hp)
      exact ⟨r1, r2⟩
    | _ => cases hp

theorem run_window (cfg : Cfg) (L : List LUnit) (b0 : Int) (hwf : LogWF cfg.tsFromWrapper b0 L) (hiso : IsoLog cfg L)
    (bs : List Block) (st : PState) (hf : FaithfulHist cfg L st bs) :
    (run cfg st bs).1 = window st.offset (run cfg st bs).2.offset (visible cfg.tsFromWrapper L) ∧
    st.offset ≤ (run cfg st bs).2.offset :=
  hist_window cfg _ b0 (visible_asc hwf) (FaithfulHist cfg L)
    (fun st b _ h => ⟨step_window cfg L b0 st b hwf hiso h.1, h.2⟩) bs st hf

private theorem asc_raise : ∀ {l : List SRec} {b b' : Int}, Asc b l → (∀ r ∈ l, b' < r.off) → Asc b' l
  | [], _, _, _, _ => trivial
  | x :: _, _, _, ⟨_, h2⟩, h => ⟨h x List.mem_cons_self, h2⟩

private theorem asc_pairwise : ∀ {l : List SRec} {b : Int}, Asc b l → l.Pairwise (fun x y => x.off < y.off)
  | [], _, _ => List.Pairwise.nil
  | _ :: _, _, ⟨_, h2⟩ => List.Pairwise.cons (fun y hy => Asc.all_gt h2 y hy) (asc_pairwise h2)

private theorem visibleFrom_split {b0 : Int} {l : List SRec} (hl : Asc b0 l) {S o : Int} (h : S ≤ o) :
    visibleFrom S l = window S o l ++ visibleFrom o l := by
  rw [visibleFrom, Asc.filter_split _ o hl]
  congr 1
  · exact List.filter_congr fun r _ => (Bool.decide_and ..).symm
  · exact List.filter_congr fun r _ => (Bool.decide_and ..).symm.trans
      (decide_eq_decide.mpr ⟨And.right, fun h' => ⟨Int.le_trans h h', h'⟩⟩)

/-- For every well-formed log, every start offset `S`, every fetch size, every history
    of faithful responses: the concatenation of everything delivered
    (1) is exactly the visible records of the log with `S ≤ offset < next offset` (nothing skipped, nothing
        below `S`, every message with the offset / key / value / headers / timestamp stored in the log),
    (2) is a prefix of `visibleFrom S (visible L)`,
    (3) has strictly increasing offsets (nothing twice, nothing reordered). -/
theorem consume_prefix (cfg : Cfg) (L : List LUnit) (b0 S fs : Int) (bs : List Block)
    (hwf : LogWF cfg.tsFromWrapper b0 L) (hiso : IsoLog cfg L) (hf : FaithfulHist cfg L ⟨S, fs⟩ bs) :
    (run cfg ⟨S, fs⟩ bs).1 = window S (run cfg ⟨S, fs⟩ bs).2.offset (visible cfg.tsFromWrapper L) ∧
    (∃ rest, visibleFrom S (visible cfg.tsFromWrapper L) = (run cfg ⟨S, fs⟩ bs).1 ++ rest) ∧
    (run cfg ⟨S, fs⟩ bs).1.Pairwise (fun x y => x.off < y.off) := by
  have ⟨h1, h2⟩ := run_window cfg L b0 hwf hiso bs ⟨S, fs⟩ hf
  dsimp only at h1 h2
  refine ⟨h1, ⟨visibleFrom (run cfg ⟨S, fs⟩ bs).2.offset (visible cfg.tsFromWrapper L), ?_⟩, ?_⟩
  · rw [h1]; exact visibleFrom_split (visible_asc hwf) h2
  · rw [h1]; exact asc_pairwise (Asc.filter _ (visible_asc hwf))

/-- every delivered message is a record of a non-control unit of the log, unaltered, with offset ≥ S -/
theorem delivered_is_stored (cfg : Cfg) (L : List LUnit) (b0 S fs : Int) (bs : List Block)
    (hwf : LogWF cfg.tsFromWrapper b0 L) (hiso : IsoLog cfg L) (hf : FaithfulHist cfg L ⟨S, fs⟩ bs) :
    ∀ m ∈ (run cfg ⟨S, fs⟩ bs).1, S ≤ m.off ∧ ∃ u ∈ L, unitIsControl u = false ∧ m ∈ unitRecs cfg.tsFromWrapper u := by
  intro m hm
  rw [(run_window cfg L b0 hwf hiso bs ⟨S, fs⟩ hf).1] at hm
  simp only [window, List.mem_filter, decide_eq_true_eq] at hm
  refine ⟨hm.2.1, ?_⟩
  rcases List.mem_flatMap.1 hm.1 with ⟨u, hu, hr⟩
  refine ⟨u, hu, ?_⟩
  cases hc : unitIsControl u
  · simpa [hc] using hr
  · simp [hc] at hr

set_option linter.unusedVariables false in
/-- A faithful response with at least one complete non-empty record set strictly
    increases the next offset (also when it consists of control records only), the verdict is ok and the fetch
    size returns to `Fetch.Default`. The statement carries `hiso`, which the proof does not use: what a response does to
    the consumer state depends on no keep decision (`resp_progress`). -/
theorem consume_progress (cfg : Cfg) (L : List LUnit) (b0 : Int) (st : PState) (b : Block)
    (hwf : LogWF cfg.tsFromWrapper b0 L) (hiso : IsoLog cfg L) (hf : FaithfulResp cfg L st b)
    (hp : productive b = true) :
    st.offset < (parseBlock cfg st b).2.1.offset ∧ (parseBlock cfg st b).2.2 = .ok ∧
    (parseBlock cfg st b).2.1.fetchSize = cfg.fetchDefault := by
  cases b with
  | data es pt ab =>
    have ⟨r2, r3, r4, _⟩ := resp_progress cfg L b0 st es pt ab hwf hf.1 (of_decide_eq_true hp)
    exact ⟨r2, r3, r4⟩
  | _ => cases hp

/-- error / missing / throttled-empty / empty / partial-only responses deliver nothing and leave the offset where it is -/
theorem unproductive_keeps_offset (cfg : Cfg) (L : List LUnit) (st : PState) (b : Block)
    (hf : FaithfulResp cfg L st b) (hp : productive b = false) :
    (parseBlock cfg st b).1 = [] ∧ (parseBlock cfg st b).2.1.offset = st.offset :=
  parseBlock_idle cfg st b hp fun es ab e => by subst e; exact hf.2 rfl

/-- Partial-only data below the limit grows the fetch size: strictly, never beyond
    a non-zero `Fetch.Max`, never beyond MaxInt32 -/
theorem partial_grows_fetch_size (cfg : Cfg) (st : PState) (es : List Entry) (ab : List (Int × Int))
    (hn : nRecs es = 0) (hfs : 0 < st.fetchSize) (hi : st.fetchSize < 2147483647)
    (hmax : cfg.fetchMax = 0 ∨ st.fetchSize < cfg.fetchMax) :
    (parseBlock cfg st (.data es true ab)).2.1.offset = st.offset ∧
    st.fetchSize < (parseBlock cfg st (.data es true ab)).2.1.fetchSize ∧
    (parseBlock cfg st (.data es true ab)).2.1.fetchSize ≤ 2147483647 ∧
    (cfg.fetchMax > 0 → (parseBlock cfg st (.data es true ab)).2.1.fetchSize ≤ cfg.fetchMax) := by
  have hne : ¬ (cfg.fetchMax > 0 ∧ st.fetchSize = cfg.fetchMax) := fun ⟨h1, h2⟩ =>
    hmax.elim (Int.ne_of_gt h1) fun l => Int.ne_of_lt l h2
  simp only [parseBlock, hn, ↓reduceIte, hne, growFetch]
  generalize hD : (if Go.mul32 st.fetchSize 2 < 0 then 2147483647 else Go.mul32 st.fetchSize 2) = D
  have hDb : st.fetchSize < D ∧ D ≤ 2147483647 := by
    rw [← hD]; unfold Go.mul32 Go.wrap32; split <;> omega
  refine ⟨trivial, ?_⟩
  split <;> omega

/-- the documented skip: partial-only data when the fetch size already is a non-zero `Fetch.Max` reports
    ErrMessageTooLarge and skips exactly one offset -/
theorem too_large_skips_one (cfg : Cfg) (st : PState) (es : List Entry) (ab : List (Int × Int))
    (hn : nRecs es = 0) (hmax : cfg.fetchMax > 0) (hfs : st.fetchSize = cfg.fetchMax) :
    parseBlock cfg st (.data es true ab) = ([], ⟨st.offset + 1, st.fetchSize⟩, .tooLarge) := by
  simp [parseBlock, hn, hmax, hfs]

/-- the `Fetch.Max` guard of `FaithfulResp` follows from "Fetch.Max = 0 or every unit fits into Fetch.Max" for
    a broker that sends partial-only data only when the next unit (of encoded size `size u`) exceeds the asked
    fetch size -/
theorem fetch_max_guard (cfg : Cfg) (L : List LUnit) (st : PState) (size : LUnit → Int)
    (hfit : cfg.fetchMax = 0 ∨ ∀ u ∈ L, size u ≤ cfg.fetchMax)
    (hbroker : ∃ u ∈ L, st.fetchSize < size u) :
    ¬ (cfg.fetchMax > 0 ∧ st.fetchSize = cfg.fetchMax) := by
  rintro ⟨h1, h2⟩
  rcases hfit with h | h
  · exact Int.ne_of_gt h1 h
  · obtain ⟨u, hu, hs⟩ := hbroker
    exact Int.ne_of_lt (Int.lt_of_lt_of_le hs (h u hu)) h2

def productiveCount (bs : List Block) : Nat := (bs.filter productive).length

theorem offset_lower_bound (cfg : Cfg) (L : List LUnit) (b0 : Int) (hwf : LogWF cfg.tsFromWrapper b0 L) (hiso : IsoLog cfg L) :
    ∀ (bs : List Block) (st : PState), FaithfulHist cfg L st bs →
    st.offset + productiveCount bs ≤ (run cfg st bs).2.offset
  | [], st, _ => Int.le_of_eq (Int.add_zero _)
  | b :: bs, st, ⟨hf, hrest⟩ => by
      have ih := offset_lower_bound cfg L b0 hwf hiso bs _ hrest
      unfold productiveCount at ih ⊢
      rw [run, List.filter_cons]
      dsimp only
      cases hp : productive b
      · have ⟨_, p2⟩ := unproductive_keeps_offset cfg L st b hf hp
        rw [if_neg Bool.false_ne_true]
        omega
      · have ⟨p1, _, _⟩ := consume_progress cfg L b0 st b hwf hiso hf hp
        rw [if_pos rfl, List.length_cons]
        omega

/-- Once a faithful history contains enough productive responses to pass the end of the
    log (each one advances by at least one offset), the whole of `visibleFrom S (visible L)` has been delivered –
    under the `Fetch.Max` guard carried by `FaithfulResp` -/
theorem consume_complete (cfg : Cfg) (L : List LUnit) (b0 S fs : Int) (bs : List Block)
    (hwf : LogWF cfg.tsFromWrapper b0 L) (hiso : IsoLog cfg L) (hf : FaithfulHist cfg L ⟨S, fs⟩ bs)
    (hend : ∀ r ∈ visible cfg.tsFromWrapper L, r.off < S + productiveCount bs) :
    (run cfg ⟨S, fs⟩ bs).1 = visibleFrom S (visible cfg.tsFromWrapper L) := by
  have ⟨h1, _⟩ := run_window cfg L b0 hwf hiso bs ⟨S, fs⟩ hf
  have hb := offset_lower_bound cfg L b0 hwf hiso bs ⟨S, fs⟩ hf
  rw [h1]
  unfold window visibleFrom
  apply List.filter_congr
  intro r hr
  have := hend r hr
  simp only [decide_eq_decide]
  constructor
  · exact fun h => h.1
  · intro h; exact ⟨h, by simp only at hb; omega⟩

/-- chooseStartingOffset: −1 is OffsetNewest, −2 OffsetOldest, any other offset must lie in the range the broker has -/
theorem start_offset_choice (offset newest oldest : Int) :
    (offset = -1 → chooseStart offset newest oldest = some newest) ∧
    (offset = -2 → chooseStart offset newest oldest = some oldest) ∧
    (offset ≠ -1 → offset ≠ -2 → oldest ≤ offset → offset ≤ newest → chooseStart offset newest oldest = some offset) ∧
    (offset ≠ -1 → offset ≠ -2 → (offset < oldest ∨ newest < offset) → chooseStart offset newest oldest = none) := by
  unfold chooseStart offsetNewest offsetOldest
  refine ⟨fun h => by simp [h], fun h => by simp [h], fun h1 h2 h3 h4 => ?_, fun h1 h2 h3 => ?_⟩
  · simp [h1, h2, h3, h4]
  · have : ¬ (offset ≥ oldest ∧ offset ≤ newest) := fun ⟨a, b⟩ => h3.elim (Int.not_lt.mpr a) (Int.not_lt.mpr b)
    simp [h1, h2, this]

/-! The timestamp rule of compressed v1 message sets (variant flag `tsFromWrapper`).

`visible true L` carries Kafka's rule (KIP-32: the wrapper's log-append attribute decides).  All theorems above
hold for both variants w.r.t. `visible cfg.tsFromWrapper L`; for `tsFromWrapper = true` that is Kafka's rule.  The
pinned code follows the INNER message's attribute (`tsFromWrapper = false`): Kafka's timestamps are delivered
only for logs whose wrappers agree with their inner messages. -/

/-- the logs on which the two timestamp rules agree -/
def TsConsistent (L : List LUnit) : Prop :=
  ∀ b, LUnit.blk b ∈ L → ∀ ms, b.inner = some ms → ∀ m ∈ ms, m.logAppend = b.logAppend

theorem visible_variant_eq : ∀ (L : List LUnit), TsConsistent L → visible false L = visible true L := by
  intro L h
  unfold visible
  rw [List.flatMap_def, List.flatMap_def]
  refine congrArg _ (List.map_congr_left fun u hu => ?_)
  cases u with
  | bat b => rfl
  | blk b =>
    show blockRecs false b = blockRecs true b
    unfold blockRecs
    cases hi : b.inner with
    | none => rfl
    | some ms =>
      -- the two rules differ only in whose log-append attribute decides
      refine List.map_congr_left fun m hm => ?_
      unfold innerRec
      rw [h b hu ms hi m hm]
      rfl

/-- `consume_prefix` for the variant that follows the wrapper: with the wrapper rule the delivered timestamps are Kafka's -/
theorem consume_prefix_fixed (cfg : Cfg) (L : List LUnit) (b0 S fs : Int) (bs : List Block) (hv : cfg.tsFromWrapper = true)
    (hwf : LogWF true b0 L) (hiso : IsoLog cfg L) (hf : FaithfulHist cfg L ⟨S, fs⟩ bs) :
    (run cfg ⟨S, fs⟩ bs).1 = window S (run cfg ⟨S, fs⟩ bs).2.offset (visible true L) := by
  have := (consume_prefix cfg L b0 S fs bs (by rw [hv]; exact hwf) hiso hf).1
  rwa [hv] at this

/-- `consume_prefix` for the variant that follows the inner message: the code delivers Kafka's view of the log provided the
    log's wrappers are `TsConsistent` (the extra hypothesis is exactly what is missing) -/
theorem consume_prefix_partial (cfg : Cfg) (L : List LUnit) (b0 S fs : Int) (bs : List Block) (hv : cfg.tsFromWrapper = false)
    (hts : TsConsistent L)
    (hwf : LogWF false b0 L) (hiso : IsoLog cfg L) (hf : FaithfulHist cfg L ⟨S, fs⟩ bs) :
    (run cfg ⟨S, fs⟩ bs).1 = window S (run cfg ⟨S, fs⟩ bs).2.offset (visible true L) := by
  have := (consume_prefix cfg L b0 S fs bs (by rw [hv]; exact hwf) hiso hf).1
  rwa [hv, visible_variant_eq L hts] at this

section Examples
private def r (d : Int) : Rec := ⟨d, "k", "v", "-", d⟩
private def b0 : Batch := ⟨0, 1, [r 0, r 1], false, .unknown, false, -1, false, 1000, 1001⟩
private def bc : Batch := ⟨2, 0, [r 0], true, .commit, true, 7, false, 1000, 1000⟩
private def b3 : Batch := ⟨3, 2, [r 0, r 1], false, .unknown, false, -1, true, 2000, 2005⟩
/-- batches 0..1, a control batch at 2, a compacted batch 3..5 (record 5 removed) -/
private def exL : List LUnit := [.bat b0, .bat bc, .bat b3]
private def cfg0 : Cfg := ⟨100, 0, false, false⟩
/-- error, data starting below the start offset + partial trailing data, throttled, partial-only, the rest -/
private def hist : List Block :=
  [.err 6, .data [.batch b0] true [], .throttled, .data [] true [], .data [.batch bc, .batch b3] false []]

example : LogWF cfg0.tsFromWrapper (-1) exL := by decide +kernel
example : IsoLog cfg0 exL := Or.inl rfl
example : FaithfulHist cfg0 exL ⟨1, 100⟩ hist :=
  ⟨trivial, ⟨faithfulData_of [] [.bat bc, .bat b3] rfl (by decide) (by decide) (by decide), by decide⟩, trivial,
    ⟨faithfulData_of [.bat b0] [.bat bc, .bat b3] rfl (by decide) (by decide) (by decide), by decide⟩,
    ⟨faithfulData_of [.bat b0] [] rfl (by decide) (by decide) (by decide), by decide⟩, trivial⟩
/-- start 1: record 0 is not delivered, the control record at 2 is passed, the history is complete -/
example : ((run cfg0 ⟨1, 100⟩ hist).1.map (fun m => (m.off, m.ts)), (run cfg0 ⟨1, 100⟩ hist).2) =
    ([(1, 1001), (3, 2005), (4, 2005)], ⟨5, 100⟩) := by decide +kernel
example : productiveCount hist = 2 := by decide +kernel

private def lm (o v : Int) (la : Bool) (ts : Int) : LMsg := ⟨o, v, la, ts, "k", "v"⟩
private def p0 : LBlock := ⟨0, 0, false, -1, "k", "v", none⟩
/-- v0 wrapper: absolute inner offsets 1, 2 -/
private def w0 : LBlock := ⟨2, 0, false, -1, "", "", some [lm 1 0 false (-1), lm 2 0 false (-1)]⟩
/-- v1 wrapper at 5, log-append: relative inner offsets 0, 1, 2 → 3, 4, 5 -/
private def w1 : LBlock := ⟨5, 1, true, 9000, "", "", some [lm 0 1 true 10, lm 1 1 true 11, lm 2 1 true 12]⟩
private def exL2 : List LUnit := [.blk p0, .blk w0, .blk w1]
private def hist2 : List Block := [.data [.legacy [w0]] false [], .missing, .data [.legacy [w1]] false []]

example : LogWF cfg0.tsFromWrapper (-1) exL2 := by decide +kernel
example : TsConsistent exL2 := by
  intro b hb ms hms m hm
  simp only [exL2, List.mem_cons, LUnit.blk.injEq, List.not_mem_nil, or_false] at hb
  rcases hb with rfl | rfl | rfl <;> simp [p0, w0, w1] at hms <;> subst hms <;> revert m <;> decide
example : FaithfulHist cfg0 exL2 ⟨2, 100⟩ hist2 :=
  ⟨⟨faithfulData_of [.blk p0] [.blk w1] rfl (by decide) (by decide) (by decide), by decide⟩, trivial,
    ⟨faithfulData_of [.blk p0, .blk w0] [] rfl (by decide) (by decide) (by decide), by decide⟩, trivial⟩
example : ((run cfg0 ⟨2, 100⟩ hist2).1.map (fun m => (m.off, m.ts)), (run cfg0 ⟨2, 100⟩ hist2).2) =
    ([(2, -1), (3, 9000), (4, 9000), (5, 9000)], ⟨6, 100⟩) := by decide +kernel

/-- counter-example for the pinned variant without `TsConsistent`: a log-append v1 wrapper (timestamp 5000) whose
    inner message is not flagged (what a broker stores): the code delivers the inner timestamp 1000 -/
private def wSkew : LBlock := ⟨0, 1, true, 5000, "", "", some [lm 0 1 false 1000]⟩
example : ((run cfg0 ⟨0, 100⟩ [.data [.legacy [wSkew]] false []]).1.map (·.ts) = [1000]) ∧
          ((visible true [.blk wSkew]).map (·.ts) = [5000]) ∧
          ((run ⟨100, 0, false, true⟩ ⟨0, 100⟩ [.data [.legacy [wSkew]] false []]).1.map (·.ts) = [5000]) := by decide +kernel

/-- the documented skip needs `Fetch.Max > 0` reached; with it one offset is lost -/
example : parseBlock ⟨100, 100, false, false⟩ ⟨7, 100⟩ (.data [] true []) = ([], ⟨8, 100⟩, .tooLarge) := by decide +kernel
example : chooseStart (-1) 10 2 = some 10 ∧ chooseStart (-2) 10 2 = some 2 ∧ chooseStart 5 10 2 = some 5 ∧
          chooseStart 11 10 2 = none ∧ chooseStart 1 10 2 = none := by decide +kernel
end Examples

end Props.C03
