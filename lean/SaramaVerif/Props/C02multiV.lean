/-
  Worker level: the answer to a produce request (`resp`: handleSuccess / handleError, then the re-check of
  waitForSpace) at a worker that serves several partitions, seen from ONE partition `p`.
  What handleResponse does for `p` is known from Lemmas/C02bp.lean (`handle_own`, `handle_state`): only the messages
  of `p` in the set and in the buffer and the response at `p` enter (`own_loop1`, `own_loop2`, `own_handle` restate it
  for a per-partition answer).  The worker is compared with the one-partition worker on the projected set:
  `ProjRes p X X1` says that the step result `X1` of the one-partition worker is what the result `X` is for `p` - the
  same outcome-bearing actions of `p` (relabelled, retries and fin flags included), states related by `SeenAs`.
  handleResponse with the response as `p` sees it (`handle_proj`, any response; `respAt`) and the re-check
  (`recheck_proj_res`) keep it, for any set - one that holds nothing of `p` projects on the empty set - and so does
  `resp` (`resp_proj_res`; `resp_proj_out` for the answers of the model with several partitions, `projV p r` being the
  answer as `p` sees it).
  A set that the one-partition worker does not have at all (hidden) is the case where it would handle the empty set:
  nothing happens for `p` (`resp_hidden`, `resp_hidden_conn_seenAs`).
-/
import SaramaVerif.Props.C02multiW

namespace Props.C02sys
open Model Model.Pipeline Model.PipelineN Model.BrokerProd Lemmas.C02sys
open Props.C02bp (onPart_onPart hit handle_frame resp_sets)

theorem verdictActs_nil (M : Nat) (vd : BrokerProd.Verdict) : verdictActs M vd [] = [] := by simp [verdictActs]

/-- the first pass of handleSuccess (`loop1`: the outcomes, partition by partition) reports for `p` what it reports
    for the messages of `p` alone -/
theorem own_loop1 (M : Nat) (v : Int → BrokerProd.Verdict) (p : Int) (ps : List Int) :
    ∀ (rem : List Pipeline.Tok), (loop1 M v ps rem).filter (isOwn p) =
      if p ∈ ps then (verdictActs M (v p) (onPart p rem)).filter (isOwn p) else [] := fun rem => by
  rw [Props.C02bp.own_loop1, Props.C02bp.own_verdictActs, onPart_onPart, if_pos rfl]

/-- the second pass (`loop2`: the bounces): the messages of `p` in the set, then those in the buffer, are bounced exactly
    when `p` is `hit` (`Props.C02bp.hit`: `p` is among the partitions still to do, the set holds something of it, and
    its verdict is retriable) -/
theorem own_loop2 (M : Nat) (v : Int → BrokerProd.Verdict) (p : Int) (ps : List Int) :
    ∀ (rem : List Pipeline.Tok) (s : St), (loop2 M v ps rem s).2.filter (isOwn p) =
      if hit v p ps rem then retryMsgs M (onPart p rem) ++ retryMsgs M (onPart p s.buffer) else [] :=
  Props.C02bp.own_loop2 M v p ps

/-- both passes, a per-partition answer, seen from a partition `p` of which the set holds something -/
theorem own_handle (M : Nat) (b : St) (sent : List Pipeline.Tok) (v : Int → BrokerProd.Verdict) (p : Int)
    (hne : onPart p sent ≠ []) :
    (handle M b sent (.verdicts v [] [])).2.filter (isOwn p) =
      (verdictActs M (v p) (onPart p sent)).filter (isOwn p) ++
        (if 0 < M ∧ v p = .retriable then retryMsgs M (onPart p sent) ++ retryMsgs M (onPart p b.buffer) else []) ∧
    (handle M b sent (.verdicts v [] [])).1.sets = b.sets ∧
    (handle M b sent (.verdicts v [] [])).1.wait = b.wait ∧
    (handle M b sent (.verdicts v [] [])).1.closing = b.closing ∧
    (handle M b sent (.verdicts v [] [])).1.cr p = (b.cr p || decide (0 < M ∧ v p = .retriable)) ∧
    onPart p (handle M b sent (.verdicts v [] [])).1.buffer =
      (if 0 < M ∧ v p = .retriable then [] else onPart p b.buffer) := by
  have c : Props.C02bp.failsFor M p sent (.verdicts v [] []) ↔ (0 < M ∧ v p = .retriable) :=
    ⟨fun h => ⟨h.1, h.2.1⟩, fun h => ⟨h.1, h.2, hne⟩⟩
  have f := handle_frame M b sent (.verdicts v [] [])
  refine ⟨?_, f.1, f.2.1, ?_, ?_, ?_⟩
  · rw [Props.C02bp.handle_own, Props.C02bp.own_verdictActs, onPart_onPart, if_pos rfl]
    simp only [Props.C02bp.handleOwn, hne, ne_eq, not_false_eq_true, and_true]
  · rw [Props.C02bp.handle_state]; exact Bool.or_false _
  · rw [Props.C02bp.handle_state]
    exact congrArg (b.cr p || ·) ((Bool.true_and _).trans (decide_eq_decide.2 c))
  · rw [Props.C02bp.handle_buffer]; simp only [c]

/-- the step result `X1` of the one-partition worker is what the step result `X` is for `p` -/
structure ProjRes (p : Int) (X X1 : St × List Action) : Prop where
  out : X1.2.filter (isOwn 0) = (X.2.filter (isOwn p)).map relabA
  st  : SeenAs p X.1 X1.1

theorem projWait_none_iff {p : Int} {w : Option Pipeline.Tok} : projWait p w = none ↔ ∀ t, w = some t → t.part ≠ p := by
  cases w with
  | none => exact ⟨fun _ _ e => (nomatch e), fun _ => rfl⟩
  | some t =>
    by_cases ht : t.part = p
    · simp [projWait, ht]
    · simp only [projWait, ht, if_false, Option.some.injEq, true_iff]
      intro t' e; exact e ▸ ht

theorem projL_eq_nil {p : Int} {l : List Pipeline.Tok} : projL p l = [] ↔ onPart p l = [] := List.map_eq_nil_iff

/-- `relab` forgets only the partition -/
theorem onPart_of_projL {p : Int} {a b : List Pipeline.Tok} (h : projL p a = projL p b) : onPart p a = onPart p b := by
  have back : ∀ l : List Pipeline.Tok, (projL p l).map (fun t => { t with part := p }) = onPart p l := by
    intro l
    rw [projL, List.map_map]
    conv => rhs; rw [← List.map_id (onPart p l)]
    exact List.map_congr_left fun t ht => by cases t; cases Props.C02bp.part_of_mem_onPart ht; rfl
  rw [← back a, ← back b, h]

theorem P0_projL (p : Int) (l : List Pipeline.Tok) : P0 (projL p l) := by
  intro t ht
  obtain ⟨x, _, rfl⟩ := List.mem_map.mp ht
  rfl

theorem P0_projWait {p : Int} {w : Option Pipeline.Tok} {t : Pipeline.Tok} (h : projWait p w = some t) : t.part = 0 := by
  cases w with
  | none => cases h
  | some t0 =>
    simp only [projWait] at h
    split at h
    · cases h; rfl
    · cases h

theorem retryMsgs_relab (M : Nat) (l : List Pipeline.Tok) : retryMsgs M (l.map relab) = (retryMsgs M l).map relabA := by
  simp [retryMsgs, List.map_map, Function.comp_def, retryMsg_relab]

/-- the outcome-bearing actions are of partition 0, as on a one-partition worker: `isOut` and `isOwn 0` select the same -/
def AllP0 (as : List Action) : Prop := ∀ a ∈ as, isOut a = isOwn 0 a

theorem AllP0.filter {as : List Action} (h : AllP0 as) : as.filter isOut = as.filter (isOwn 0) :=
  List.filter_congr h

theorem AllP0.append {a b : List Action} (ha : AllP0 a) (hb : AllP0 b) : AllP0 (a ++ b) :=
  List.forall_mem_append.2 ⟨ha, hb⟩

theorem AllP0.nil : AllP0 [] := List.forall_mem_nil _

theorem AllP0.cons {a : Action} {l : List Action} (h : isOut a = isOwn 0 a) (hl : AllP0 l) : AllP0 (a :: l) :=
  List.forall_mem_cons.2 ⟨h, hl⟩

theorem AllP0_retryMsg (M : Nat) {t : Pipeline.Tok} (ht : t.part = 0) : isOut (retryMsg M t) = isOwn 0 (retryMsg M t) := by
  rw [isOwn_retryMsg, ht]; unfold retryMsg; split <;> rfl

theorem AllP0_recheck (M : Nat) (S : St) (A : List Action) (st : Bool) (hA : AllP0 A)
    (hw : ∀ t, S.wait = some t → t.part = 0) : AllP0 (recheck M S A st).2 := by
  have c := Props.C02bp.recheck_case M S A st
  generalize recheck M S A st = R at c
  cases c with
  | free | stay => exact hA
  | bounce w => exact AllP0.append hA (AllP0.cons (AllP0_retryMsg M (hw _ w)) AllP0.nil)
  | add => exact AllP0.append hA (AllP0.cons rfl AllP0.nil)

theorem resp_P0_out (M : Nat) (b1 : St) (sent1 : List Pipeline.Tok) (rest : List (List Pipeline.Tok)) (r : Resp)
    (st : Bool) (hs : b1.sets = sent1 :: rest) (hh : AllP0 (handle M { b1 with sets := rest } sent1 r).2)
    (hw : ∀ t, b1.wait = some t → t.part = 0) :
    (resp M b1 r st).2.filter isOut = (resp M b1 r st).2.filter (isOwn 0) := by
  apply AllP0.filter
  rw [Props.C02bp.resp_cons r st hs]
  refine AllP0_recheck _ _ _ _ hh fun t' ht' => hw t' ?_
  rwa [(handle_frame M { b1 with sets := rest } sent1 r).2.1] at ht'

/-- on a worker all of whose tokens are of partition 0, `handle` reports on partition 0 only: an outcome for another
    partition `q` would be among what `handle` reports on `q`, which is nothing -/
theorem AllP0_handle (M : Nat) (b1 : St) (l : List Pipeline.Tok) (r : Resp) (hs : P0 l) (hb : P0 b1.buffer) :
    AllP0 (handle M b1 l r).2 := by
  intro a ha
  cases hq : outPart a with
  | none => cases a <;> first | rfl | cases hq
  | some q =>
    obtain ⟨t, ht, rfl⟩ := Props.C02bp.handle_reports_held ha (isOwn_iff.2 hq)
    rw [(List.mem_append.1 ht).elim (hs t) (hb t)] at hq
    rw [isOwn_iff.2 hq]; cases a <;> first | rfl | cases hq

theorem resp_P0_out_conn (M : Nat) (b1 : St) (sent1 : List Pipeline.Tok) (rest : List (List Pipeline.Tok))
    (st : Bool) (hs : b1.sets = sent1 :: rest) (hP : P0 sent1) (hb : P0 b1.buffer)
    (hw : ∀ t, b1.wait = some t → t.part = 0) :
    (resp M b1 (.connErr [] []) st).2.filter isOut = (resp M b1 (.connErr [] []) st).2.filter (isOwn 0) :=
  resp_P0_out M b1 sent1 rest _ st hs (AllP0_handle M _ sent1 _ hP hb) hw

/-- the response as partition `p` sees it, for the one-partition worker -/
def respAt (p : Int) : Resp → Resp
  | .verdicts v _ _ => .verdicts (fun _ => v p) [] []
  | .encErr _ => .encErr []
  | .connErr _ _ => .connErr [] []

theorem verdictOwn_relab (M : Nat) (x : BrokerProd.Verdict) (l : List Pipeline.Tok) :
    Props.C02bp.verdictOwn M x (l.map relab) = (Props.C02bp.verdictOwn M x l).map relabA := by
  cases x <;> by_cases hm : M = 0 <;> simp [Props.C02bp.verdictOwn, hm, relabA, relab, Function.comp_def]

theorem handleOwn_relab (M : Nat) (p : Int) (ps pb : List Pipeline.Tok) (r : Resp) :
    Props.C02bp.handleOwn M 0 (ps.map relab) (pb.map relab) (respAt p r) =
      (Props.C02bp.handleOwn M p ps pb r).map relabA := by
  cases r with
  | verdicts v o1 o2 =>
    simp only [Props.C02bp.handleOwn, respAt, verdictOwn_relab, retryMsgs_relab, List.map_append, ne_eq,
      List.map_eq_nil_iff, apply_ite (List.map relabA), List.map_nil]
  | encErr o => simp [Props.C02bp.handleOwn, respAt, relabA, relab, Function.comp_def]
  | connErr o1 o2 => simp only [Props.C02bp.handleOwn, respAt, retryMsgs_relab, List.map_append]

theorem failsFor_proj (M : Nat) (p q : Int) (sent : List Pipeline.Tok) (r : Resp) :
    Props.C02bp.failsFor M q (projL p sent) (respAt p r) ↔
      Props.C02bp.failsFor M p sent r ∧ (q = 0 ∨ Props.C02bp.closes r = true) := by
  have e : onPart q (projL p sent) ≠ [] ↔ onPart p sent ≠ [] ∧ q = 0 := by
    by_cases hq : q = 0
    · subst hq; rw [onPart_P0 (P0_projL p sent), ne_eq, projL_eq_nil]; exact (and_iff_left rfl).symm
    · exact iff_of_false (fun h => h (Props.C02bp.onPart_eq_nil.2 fun t ht e => hq (e.symm.trans (P0_projL p sent t ht))))
        (fun h => hq h.2)
  cases r with
  | verdicts v o1 o2 => simp only [Props.C02bp.failsFor, respAt, e, Props.C02bp.closes, Bool.false_eq_true, or_false, and_assoc]
  | encErr o => exact iff_of_false id (fun h => h.1)
  | connErr o1 o2 => exact iff_of_true trivial ⟨trivial, Or.inr rfl⟩

/-- **`handle`, projected on `p`**, every response: the one-partition worker handles the projected set (empty when
    the set holds nothing of `p`) with the response as `p` sees it -/
theorem handle_proj (M : Nat) {b b1 : St} (sent : List Pipeline.Tok) (r : Resp) {p : Int} (h : SeenAs p b b1) :
    ProjRes p (handle M b sent r) (handle M b1 (projL p sent) (respAt p r)) := by
  have hPb : P0 b1.buffer := h.buffer ▸ P0_projL p b.buffer
  have hc : Props.C02bp.closes (respAt p r) = Props.C02bp.closes r := by cases r <;> rfl
  refine ⟨?_, ?_⟩
  · rw [Props.C02bp.handle_own, Props.C02bp.handle_own, onPart_P0 (P0_projL p sent), onPart_P0 hPb, h.buffer]
    exact handleOwn_relab ..
  · have f := handle_frame M b sent r
    have f1 := handle_frame M b1 (projL p sent) (respAt p r)
    refine ⟨?_, funext fun q => ?_, ?_, f1.2.1.trans (h.wait.trans (congrArg _ f.2.1.symm))⟩
    · rw [Props.C02bp.handle_state, Props.C02bp.handle_state]
      show (b1.closing || _) = (b.closing || _)
      rw [hc, h.closing]
    · rw [Props.C02bp.handle_state, Props.C02bp.handle_state]
      simp only [projB, h.cr, hc, decide_eq_decide.2 (failsFor_proj M p q sent r)]
      by_cases hq : q = 0
      · subst hq; simp
      · by_cases hcl : Props.C02bp.closes r = true <;> simp [hq, hcl]
    · -- the buffer of the one-partition worker is its own part of partition 0
      rw [← onPart_P0 fun t ht => hPb t (f1.2.2 t ht), Props.C02bp.handle_buffer]
      show _ = (onPart p (handle M b sent r).1.buffer).map relab
      rw [Props.C02bp.handle_buffer, onPart_P0 hPb, h.buffer]
      simp only [(failsFor_proj M p 0 sent r).trans (and_iff_left (Or.inl rfl))]
      split <;> rfl

theorem handle_proj_conn (M : Nat) {b b1 : St} (sent : List Pipeline.Tok) {p : Int} (h : SeenAs p b b1) :
    ProjRes p (handle M b sent (.connErr [] [])) (handle M b1 (projL p sent) (.connErr [] [])) :=
  handle_proj M sent _ h

theorem filter_snoc_neg {q : Int} {x : Action} (hx : isOwn q x = false) (B : List Action) :
    (B ++ [x]).filter (isOwn q) = B.filter (isOwn q) :=
  (filter_insert_neg B [] hx).trans (by rw [List.append_nil])

theorem recheck_proj_res (M : Nat) {S S1 : St} {A A1 : List Action} (st : Bool) {p : Int} (h : ProjRes p (S, A) (S1, A1)) :
    ProjRes p (recheck M S A st) (recheck M S1 A1 st) := by
  obtain ⟨hA, h1, h2, h3, h4⟩ := h
  dsimp only at hA h1 h2 h3 h4
  have no : ¬ false = true := Bool.false_ne_true
  cases hw : S.wait with
  | none =>
    simp only [recheck, hw, h4.trans (congrArg (projWait p) hw)]
    exact ⟨hA, h1, h2, h3, rfl⟩
  | some t =>
    by_cases ht : t.part = p
    · -- the held message is of `p`: the one-partition worker holds it too and takes the same branch
      have hw1 : S1.wait = some (relab t) := (h4.trans (congrArg (projWait p) hw)).trans (if_pos ht)
      have hn : needsRetry S1 (relab t).part = needsRetry S t.part := by
        rw [needsRetry, needsRetry, h1, h2, ht]; rfl
      simp only [recheck, hw, hw1, hn]
      cases needsRetry S t.part with
      | true =>
        rw [if_pos rfl, if_pos rfl]
        refine ⟨?_, h1, h2, h3, rfl⟩
        have e : isOwn p (retryMsg M t) = true := by rw [isOwn_retryMsg, ht]; exact beq_self_eq_true p
        show (A1 ++ [retryMsg M (relab t)]).filter (isOwn 0) = ((A ++ [retryMsg M t]).filter (isOwn p)).map relabA
        rw [List.filter_append, List.filter_append, List.filter_cons_of_pos e,
          List.filter_cons_of_pos (by rw [isOwn_retryMsg]; rfl), List.map_append, hA, retryMsg_relab]
        rfl
      | false =>
        rw [if_neg no, if_neg no]
        cases st with
        | true =>
          rw [if_pos rfl, if_pos rfl]
          exact ⟨hA, h1, h2, h3, h4⟩
        | false =>
          rw [if_neg no, if_neg no]
          refine ⟨(filter_snoc_neg rfl A1).trans (hA.trans (congrArg _ (filter_snoc_neg rfl A).symm)), h1, h2, ?_, rfl⟩
          show S1.buffer ++ [relab t] = projL p (S.buffer ++ [t])
          rw [projL_append, projL_own ht, h3]
    · -- the held message is of another partition: the one-partition worker holds none
      have hw1 : S1.wait = none := (h4.trans (congrArg (projWait p) hw)).trans (if_neg ht)
      simp only [recheck, hw, hw1]
      cases needsRetry S t.part with
      | true =>
        rw [if_pos rfl]
        refine ⟨hA.trans (congrArg _ (filter_snoc_neg ?_ A).symm), h1, h2, h3, rfl⟩
        rw [isOwn_retryMsg]; exact beq_false_of_ne ht
      | false =>
        rw [if_neg no]
        cases st with
        | true =>
          rw [if_pos rfl]
          exact ⟨hA, h1, h2, h3, hw1.symm.trans h4⟩
        | false =>
          rw [if_neg no]
          refine ⟨hA.trans (congrArg _ (filter_snoc_neg rfl A).symm), h1, h2, ?_, rfl⟩
          show S1.buffer = projL p (S.buffer ++ [t])
          rw [projL_append, projL_foreign ht, h3, List.append_nil]

theorem resp_proj_res (M : Nat) {b b1 : St} {sent sent1 : List Pipeline.Tok} {rest rest1 : List (List Pipeline.Tok)}
    (r r1 : Resp) (st : Bool) {p : Int} (hs : b.sets = sent :: rest) (hs1 : b1.sets = sent1 :: rest1)
    (hh : ProjRes p (handle M { b with sets := rest } sent r) (handle M { b1 with sets := rest1 } sent1 r1)) :
    ProjRes p (resp M b r st) (resp M b1 r1 st) := by
  rw [Props.C02bp.resp_cons r st hs, Props.C02bp.resp_cons r1 st hs1]
  exact recheck_proj_res M st hh

/-! The same with `ProjRes` spelt out field by field.  `handle_proj_parts` and `resp_proj_parts` carry a hypothesis `hne`
    (the set holds something of `p`) that their proofs do not use: a set that holds nothing of `p` projects on the
    empty set. -/

section
set_option linter.unusedVariables false

theorem handle_proj_parts (M : Nat) (b b1 : St) (sent : List Pipeline.Tok) (v : Int → BrokerProd.Verdict) (p : Int)
    (hne : projL p sent ≠ [])
    (h1 : b1.closing = b.closing) (h2 : b1.cr = (projB p b).cr) (h3 : b1.buffer = projL p b.buffer)
    (h4 : b1.wait = projWait p b.wait) :
    (handle M b1 (projL p sent) (.verdicts (fun _ => v p) [] [])).2.filter (isOwn 0) =
      ((handle M b sent (.verdicts v [] [])).2.filter (isOwn p)).map relabA ∧
    (handle M b1 (projL p sent) (.verdicts (fun _ => v p) [] [])).1.closing =
      (handle M b sent (.verdicts v [] [])).1.closing ∧
    (handle M b1 (projL p sent) (.verdicts (fun _ => v p) [] [])).1.cr =
      (projB p (handle M b sent (.verdicts v [] [])).1).cr ∧
    (handle M b1 (projL p sent) (.verdicts (fun _ => v p) [] [])).1.buffer =
      projL p (handle M b sent (.verdicts v [] [])).1.buffer ∧
    (handle M b1 (projL p sent) (.verdicts (fun _ => v p) [] [])).1.wait =
      projWait p (handle M b sent (.verdicts v [] [])).1.wait ∧
    (handle M b1 (projL p sent) (.verdicts (fun _ => v p) [] [])).1.sets = b1.sets ∧
    (handle M b sent (.verdicts v [] [])).1.sets = b.sets :=
  have h := handle_proj M sent (.verdicts v [] []) ⟨h1, h2, h3, h4⟩
  ⟨h.out, h.st.closing, h.st.cr, h.st.buffer, h.st.wait, (handle_frame ..).1, (handle_frame ..).1⟩

theorem recheck_proj (M : Nat) (S S1 : St) (A A1 : List Action) (st : Bool) (p : Int)
    (h1 : S1.closing = S.closing) (h2 : S1.cr = (projB p S).cr) (h3 : S1.buffer = projL p S.buffer)
    (h4 : S1.wait = projWait p S.wait) (hA : A1.filter (isOwn 0) = (A.filter (isOwn p)).map relabA) :
    (recheck M S1 A1 st).2.filter (isOwn 0) = ((recheck M S A st).2.filter (isOwn p)).map relabA ∧
    (recheck M S1 A1 st).1.closing = (recheck M S A st).1.closing ∧
    (recheck M S1 A1 st).1.cr = (projB p (recheck M S A st).1).cr ∧
    (recheck M S1 A1 st).1.buffer = projL p (recheck M S A st).1.buffer ∧
    (recheck M S1 A1 st).1.wait = projWait p (recheck M S A st).1.wait ∧
    (recheck M S1 A1 st).1.sets = S1.sets ∧ (recheck M S A st).1.sets = S.sets :=
  have h := recheck_proj_res M st (p := p) (S := S) (S1 := S1) ⟨hA, h1, h2, h3, h4⟩
  ⟨h.out, h.st.closing, h.st.cr, h.st.buffer, h.st.wait, Props.C02bp.recheck_sets (Props.C02bp.recheck_case ..),
    Props.C02bp.recheck_sets (Props.C02bp.recheck_case ..)⟩

theorem resp_proj_parts (M : Nat) (b b1 : St) (sent : List Pipeline.Tok) (rest rest1 : List (List Pipeline.Tok))
    (v : Int → BrokerProd.Verdict) (st : Bool) (p : Int)
    (hs : b.sets = sent :: rest) (hs1 : b1.sets = projL p sent :: rest1) (hne : projL p sent ≠ [])
    (h1 : b1.closing = b.closing) (h2 : b1.cr = (projB p b).cr) (h3 : b1.buffer = projL p b.buffer)
    (h4 : b1.wait = projWait p b.wait) :
    (resp M b1 (.verdicts (fun _ => v p) [] []) st).2.filter (isOwn 0) =
      ((resp M b (.verdicts v [] []) st).2.filter (isOwn p)).map relabA ∧
    (resp M b1 (.verdicts (fun _ => v p) [] []) st).1.closing = (resp M b (.verdicts v [] []) st).1.closing ∧
    (resp M b1 (.verdicts (fun _ => v p) [] []) st).1.cr = (projB p (resp M b (.verdicts v [] []) st).1).cr ∧
    (resp M b1 (.verdicts (fun _ => v p) [] []) st).1.buffer =
      projL p (resp M b (.verdicts v [] []) st).1.buffer ∧
    (resp M b1 (.verdicts (fun _ => v p) [] []) st).1.wait = projWait p (resp M b (.verdicts v [] []) st).1.wait ∧
    (resp M b1 (.verdicts (fun _ => v p) [] []) st).1.sets = rest1 ∧
    (resp M b (.verdicts v [] []) st).1.sets = rest :=
  have h := resp_proj_res M _ _ st hs hs1 (handle_proj M sent (.verdicts v [] []) ⟨h1, h2, h3, h4⟩)
  ⟨h.out, h.st.closing, h.st.cr, h.st.buffer, h.st.wait, resp_sets M _ st hs1, resp_sets M _ st hs⟩

theorem resp_proj_conn (M : Nat) (b b1 : St) (sent : List Pipeline.Tok) (rest rest1 : List (List Pipeline.Tok))
    (st : Bool) (p : Int)
    (hs : b.sets = sent :: rest) (hs1 : b1.sets = projL p sent :: rest1)
    (h1 : b1.closing = b.closing) (h2 : b1.cr = (projB p b).cr) (h3 : b1.buffer = projL p b.buffer)
    (h4 : b1.wait = projWait p b.wait) :
    (resp M b1 (.connErr [] []) st).2.filter (isOwn 0) =
      ((resp M b (.connErr [] []) st).2.filter (isOwn p)).map relabA ∧
    (resp M b1 (.connErr [] []) st).1.closing = (resp M b (.connErr [] []) st).1.closing ∧
    (resp M b1 (.connErr [] []) st).1.cr = (projB p (resp M b (.connErr [] []) st).1).cr ∧
    (resp M b1 (.connErr [] []) st).1.buffer = projL p (resp M b (.connErr [] []) st).1.buffer ∧
    (resp M b1 (.connErr [] []) st).1.wait = projWait p (resp M b (.connErr [] []) st).1.wait ∧
    (resp M b1 (.connErr [] []) st).1.sets = rest1 ∧
    (resp M b (.connErr [] []) st).1.sets = rest :=
  have h := resp_proj_res M _ _ st hs hs1 (handle_proj_conn M sent ⟨h1, h2, h3, h4⟩)
  ⟨h.out, h.st.closing, h.st.cr, h.st.buffer, h.st.wait, resp_sets M _ st hs1, resp_sets M _ st hs⟩

end

-- `.parts v` can carry `v p = .conn a`, which means nothing as the verdict of one partition (a connection error answers
-- the whole request: `RespN.conn`).  The worker reads it as `.fatal` (`bvOf`, Model/PipelineN.lean), and so does `projV`;
-- only the `broker` step still appends for `.conn true`, the one answer `brOK` (Props/C02multiZ.lean) takes as ill-formed.
/-- the answer as partition `p` sees it -/
def projV (p : Int) : RespN → Pipeline.Verdict
  | .parts f => match f p with
    | .conn _ => .fatal
    | x => x
  | .conn a => .conn a

theorem projV_parts_toResp_eq (p : Int) (v : Int → Pipeline.Verdict) :
    (projV p (.parts v)).toResp = .verdicts (fun _ => bvOf (v p)) [] [] := by
  cases h : v p <;> simp [projV, h, Verdict.toResp, bvOf]

theorem resp_proj_out (M : Nat) {b b1 : St} {sent : List Pipeline.Tok} {rest rest1 : List (List Pipeline.Tok)}
    (r : RespN) (st : Bool) {p : Int} (hs : b.sets = sent :: rest) (hs1 : b1.sets = projL p sent :: rest1)
    (h : SeenAs p b b1) :
    (resp M b1 (projV p r).toResp st).2.filter isOut = ((resp M b r.toResp st).2.filter (isOwn p)).map relabA ∧
    SeenAs p (resp M b r.toResp st).1 (resp M b1 (projV p r).toResp st).1 := by
  have hP : P0 (projL p sent) := P0_projL p sent
  have hPb : P0 b1.buffer := h.buffer ▸ P0_projL p b.buffer
  have hw0 : ∀ t, b1.wait = some t → t.part = 0 := fun t ht => P0_projWait (h.wait ▸ ht)
  have h' : SeenAs p { b with sets := rest } { b1 with sets := rest1 } := ⟨h.closing, h.cr, h.buffer, h.wait⟩
  cases r with
  | parts v =>
    rw [projV_parts_toResp_eq]
    obtain ⟨a, c⟩ := resp_proj_res M _ _ st hs hs1 (handle_proj M sent (.verdicts (fun q => bvOf (v q)) [] []) h')
    exact ⟨(resp_P0_out M b1 _ _ _ st hs1 (AllP0_handle M _ _ _ hP hPb) hw0).trans a, c⟩
  | conn x =>
    obtain ⟨a, c⟩ := resp_proj_res M _ _ st hs hs1 (handle_proj_conn M sent h')
    exact ⟨(resp_P0_out M b1 _ _ _ st hs1 (AllP0_handle M _ _ _ hP hPb) hw0).trans a, c⟩

/-- the empty set answered while nothing is held: no action at all.  This and `resp_emptyset_conn` give the WHOLE action
    list, which `handle_own` (one partition's part of it) does not; on the empty set `handle` has no partition to go
    through and evaluates. -/
theorem resp_emptyset (M : Nat) (b : St) (rest : List (List Pipeline.Tok)) (u : Int → BrokerProd.Verdict) (st : Bool)
    (hs : b.sets = [] :: rest) (hw : b.wait = none) :
    resp M b (.verdicts u [] []) st = ({ b with sets := rest, stale := false }, []) := by
  rw [Props.C02bp.resp_cons _ st hs]
  simp [handle, retryTopics, partsOf, loop1, recheck, hw]

theorem resp_emptyset_conn (M : Nat) (b : St) (rest : List (List Pipeline.Tok)) (st : Bool)
    (hs : b.sets = [] :: rest) (hb : b.buffer = []) (hw : b.wait = none) :
    resp M b (.connErr [] []) st =
      ({ b with closing := true, buffer := [], sets := rest, stale := false }, [Action.closing, Action.abandon]) := by
  rw [Props.C02bp.resp_cons _ st hs]
  simp [handle, partsOf, arrange, retryMsgs, recheck, hw, hb]

/-- **HIDDEN set, per-partition answer, no message of `p` held**: the projected worker would handle the empty set, so
    the answer does nothing to `p` -/
theorem resp_hidden (M : Nat) {b b1 : St} {sent : List Pipeline.Tok} {rest : List (List Pipeline.Tok)}
    (v : Int → BrokerProd.Verdict) (st : Bool) {p : Int} (hs : b.sets = sent :: rest) (he : projL p sent = [])
    (hw : projWait p b.wait = none) (h : SeenAs p b b1) :
    (resp M b (.verdicts v [] []) st).2.filter (isOwn p) = [] ∧ SeenAs p (resp M b (.verdicts v [] []) st).1 b1 := by
  obtain ⟨a, c⟩ := resp_proj_res M _ (.verdicts (fun _ => v p) [] []) st hs
    (show ({ b1 with sets := [[]] } : St).sets = projL p sent :: [] by rw [he])
    (handle_proj M sent (.verdicts v [] []) ⟨h.closing, h.cr, h.buffer, h.wait⟩)
  rw [resp_emptyset M { b1 with sets := [[]] } [] _ st rfl (h.wait.trans hw)] at a c
  exact ⟨List.map_eq_nil_iff.mp a.symm, c.closing, c.cr, c.buffer, c.wait⟩

theorem resp_hidden_conn_seenAs (M : Nat) {b b1 : St} {sent : List Pipeline.Tok} {rest : List (List Pipeline.Tok)}
    (st : Bool) {p : Int} (hs : b.sets = sent :: rest) (he : projL p sent = []) (hbuf : projL p b.buffer = [])
    (hw : projWait p b.wait = none) (h : SeenAs p b b1) :
    (resp M b (.connErr [] []) st).2.filter (isOwn p) = [] ∧
    SeenAs p (resp M b (.connErr [] []) st).1 { b1 with closing := true } := by
  obtain ⟨a, c⟩ := resp_proj_res M _ (.connErr [] []) st hs
    (show ({ b1 with sets := [[]] } : St).sets = projL p sent :: [] by rw [he])
    (handle_proj_conn M sent ⟨h.closing, h.cr, h.buffer, h.wait⟩)
  rw [resp_emptyset_conn M { b1 with sets := [[]] } [] st rfl (h.buffer.trans hbuf) (h.wait.trans hw)] at a c
  exact ⟨List.map_eq_nil_iff.mp a.symm, c.closing, c.cr, (h.buffer.trans hbuf).trans c.buffer, c.wait⟩

/-- read off the worker's fields, which are those of every partition: the whole buffer is bounced and the held
    message with it, whatever its partition -/
theorem resp_hidden_conn (M : Nat) (b : St) (sent : List Pipeline.Tok) (rest : List (List Pipeline.Tok)) (st : Bool)
    (p : Int) (hs : b.sets = sent :: rest) (he : onPart p sent = []) (hbuf : onPart p b.buffer = [])
    (hw : ∀ t, b.wait = some t → t.part ≠ p) :
    (resp M b (.connErr [] []) st).2.filter (isOwn p) = [] ∧
    (resp M b (.connErr [] []) st).1.sets = rest ∧
    (resp M b (.connErr [] []) st).1.closing = true ∧
    (resp M b (.connErr [] []) st).1.cr = b.cr ∧
    (resp M b (.connErr [] []) st).1.buffer = [] ∧
    (resp M b (.connErr [] []) st).1.wait = none := by
  obtain ⟨a, c⟩ := resp_hidden_conn_seenAs M st hs (projL_eq_nil.mpr he) (projL_eq_nil.mpr hbuf)
    (projWait_none_iff.mpr hw) (seenAs_projB p b [] false)
  refine ⟨a, resp_sets M _ st hs, c.closing.symm, ?_⟩
  rw [Props.C02bp.resp_cons _ st hs]
  -- the connection-error arm of `handle` is a closed form as it stands (no pass over the partitions): unfolded
  cases hwt : b.wait <;> simp [handle, recheck, needsRetry]

theorem resp_hidden_parts (max : Nat) (b : St) (sent : List Pipeline.Tok) (rest : List (List Pipeline.Tok))
    (v : Int → BrokerProd.Verdict) (still : Bool) (p : Int)
    (hs : b.sets = sent :: rest) (he : onPart p sent = []) (hw : ∀ t, b.wait = some t → t.part ≠ p) :
    ForeignActs p (resp max b (.verdicts v [] []) still).2 ∧
    (resp max b (.verdicts v [] []) still).1.sets = rest ∧
    (resp max b (.verdicts v [] []) still).1.closing = b.closing ∧
    (resp max b (.verdicts v [] []) still).1.cr p = b.cr p ∧
    onPart p (resp max b (.verdicts v [] []) still).1.buffer = onPart p b.buffer ∧
    (∀ t, (resp max b (.verdicts v [] []) still).1.wait = some t → t.part ≠ p) := by
  have hw' := projWait_none_iff.mpr hw
  obtain ⟨a, c⟩ := resp_hidden max v still hs (projL_eq_nil.mpr he) hw' (seenAs_projB p b b.sets b.stale)
  refine ⟨foreign_of_filter a, resp_sets max _ still hs, c.closing.symm, ?_, onPart_of_projL c.buffer.symm,
    projWait_none_iff.mp (c.wait.symm.trans hw')⟩
  have := congrFun c.cr 0
  simpa [projB] using this.symm

/-- what `projB p` reads is unchanged (all but the sets and `stale`) -/
theorem projB_hidden_parts (max : Nat) (b : St) (sent : List Pipeline.Tok) (rest : List (List Pipeline.Tok))
    (v : Int → BrokerProd.Verdict) (still : Bool) (p : Int)
    (hs : b.sets = sent :: rest) (he : projL p sent = []) (hw : projWait p b.wait = none) (x : List (List Pipeline.Tok))
    (y : Bool) :
    ({ projB p (resp max b (.verdicts v [] []) still).1 with sets := x, stale := y } : St) =
      ({ projB p b with sets := x, stale := y } : St) :=
  (seenAs_iff.1 (resp_hidden max v still hs he hw (seenAs_projB p b x y)).2).symm

/-- a set of partition 1 answered while partition 0 is watched -/
example : ForeignActs 0 (resp 2 { sets := [[⟨5, 1, 0, .data⟩]] } (.verdicts (fun _ => .ok) [] []) false).2 :=
  (resp_hidden_parts 2 { sets := [[⟨5, 1, 0, .data⟩]] } [⟨5, 1, 0, .data⟩] [] (fun _ => .ok) false 0 rfl
    (by decide) (by intro t h; cases h)).1

/-- a set with a message of partition 0 and one of partition 1, answer `ok` for 0 and retriable for 1, seen from
    partition 0 -/
example : ((resp 2 { sets := [[⟨5, 0, 0, .data⟩, ⟨6, 1, 0, .data⟩]] }
      (.verdicts (fun q => if q = 1 then .retriable else .ok) [] []) false).2.filter (isOwn 0)).map relabA =
    [Action.succ 5 0] ∧
    (resp 2 { sets := [[⟨5, 0, 0, .data⟩]] } (.verdicts (fun _ => .ok) [] []) false).2.filter (isOwn 0) =
    [Action.succ 5 0] := by decide +kernel

example : (projV 0 (.parts (fun q => if q = 1 then Pipeline.Verdict.retriable false else .ok))).toResp =
    .verdicts (fun _ => .ok) [] [] := projV_parts_toResp_eq 0 _
example : ([Action.drop 0, .succ 5 0, .abandon] : List Action).filter isOut = [.succ 5 0] := by decide

end Props.C02sys
