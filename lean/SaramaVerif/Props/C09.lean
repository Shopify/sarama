import SaramaVerif.Model.CodecMachine
import SaramaVerif.Lemmas.C09Records
import SaramaVerif.Lemmas.C09Machine
/-
  C09 — wire encoding round-trips for every message type and version.

  Everything here is about the model (Model/Codec*.lean); the tie to /repo is the bridge (Bridge/C09.lean,
  constants) and the differential correspondence of cmd/c09 (every primitive, every protocol body × version as
  the call sequence its real encode/decode makes, records / batches / message sets).

  The statements hold for every schema, every version, every well-typed value and whatever bytes follow the encoding.
-/
namespace Props.C09
open Model.Codec Lemmas.C09

/-- the big-endian `putIntN` / `getIntN` (N = 8·n) for every `x` of the Go type -/
theorem int_roundtrip (n : Nat) (x : Int) (rest : Bytes) (hn : 0 < n) (h : InInt n x) :
    getInt n (putInt n x ++ rest) = some (x, rest) ∧ (putInt n x).length = n :=
  ⟨getInt_putInt n x rest hn h, putInt_length n x⟩

example : getInt 4 (putInt 4 (-2) ++ [7]) = some (-2, [7]) := (int_roundtrip 4 (-2) [7] (by decide) (by decide)).1
example : putInt 4 (-2) = [0xff, 0xff, 0xff, 0xfe] := by decide +kernel
example : putInt 8 (-9223372036854775808) = [0x80, 0, 0, 0, 0, 0, 0, 0] := by decide +kernel

theorem varint_roundtrip (x : Int) (rest : Bytes) (h : InInt 8 x) :
    getVarint (putVarint x ++ rest) = some (x, rest) := getVarint_putVarint x rest h

theorem uvarint_roundtrip (x : Nat) (rest : Bytes) (h : x < 2 ^ 64) :
    getUVarint (putUVarint x ++ rest) = some (x, rest) := getUVarint_putUVarint x rest h

example : putVarint (-9223372036854775808) = [0xff, 0xff, 0xff, 0xff, 0xff, 0xff, 0xff, 0xff, 0xff, 0x01] := by decide +kernel
example : putUVarint 300 = [0xac, 0x02] := by decide +kernel

/-- the signed → unsigned map is the prescribed `(x << 1) ^ (x >> 63)` on 64 bits -/
theorem varint_zigzag_spec (x : Int) (h : InInt 8 x) :
    zigzag x = ((BitVec.ofInt 64 x <<< 1) ^^^ (BitVec.ofInt 64 x).sshiftRight 63).toNat ∧ unzigzag (zigzag x) = x :=
  ⟨zigzag_bits 63 x h.1 h.2, unzigzag_zigzag x⟩

example : zigzag (-1) = 1 ∧ zigzag 1 = 2 ∧ zigzag (-2) = 3 := by decide +kernel

/-- base-128 little-endian groups whose value is x, continuation bit on all groups but the
    last, no superfluous trailing zero group, at most 10 groups -/
theorem uvarint_spec (x : Nat) (h : x < 2 ^ 64) :
    uvarintVal (putUVarint x) = x ∧ Canonical (putUVarint x) ∧ (putUVarint x).length ≤ 10 := by
  have hx : x < 2 * 128 ^ 9 := by simpa using h
  exact ⟨uvarintF_val 9 x hx, uvarintF_canonical 9 x hx, uvarintF_length_bound 9 x hx⟩

/-- every primitive of packet_encoder.go / packet_decoder.go (strings, nullable and compact strings, bytes,
    varint bytes, int32/int64/string arrays, compact arrays, bool, empty tagged fields, raw bytes):
    the getter inverts the putter on well-typed values … -/
theorem prim_dec_enc (p : Prim) (v : Val) (rest : Bytes) (h : wtP p v = true) :
    decP p (encP p v ++ rest) = some (v, rest) := decP_encP p v rest h

/-- … and the prep encoder adds exactly what the real encoder writes (for every value) -/
theorem prim_size_eq (p : Prim) (v : Val) : sizeP p v = (encP p v).length := sizeP_eq p v

example : decP .nstr (encP .nstr .null ++ [9]) = some (.null, [9]) := prim_dec_enc .nstr .null [9] (by decide +kernel)
example : encP .nstr .null = [0xff, 0xff] ∧ encP .ncstr .null = [0] ∧ encP .cstr (.bytes []) = [1] := by decide +kernel
example : decP .i32arr (encP .i32arr (.list [.int 1, .int (-1)])) = some (.list [.int 1, .int (-1)], []) := by
  have := prim_dec_enc .i32arr (.list [.int 1, .int (-1)]) [] (by decide +kernel)
  rwa [List.append_nil] at this

/-- array lengths: `getArrayLength` gives the count back when the count does not exceed the bytes that follow
    nor 2·MaxUint16 (its own plausibility guards); compact lengths when they do not exceed the bytes that follow -/
theorem array_length_roundtrip (n : Int) (rest : Bytes) (h : InInt 4 n) (hr : n ≤ rest.length) (hm : n ≤ 131070)
    (hneg : -1 ≤ n) : getArrayLength (putArrayLength n ++ rest) = some (n, rest) := getArrayLength_put n rest h hr hm hneg

theorem compact_array_length_roundtrip (n : Nat) (rest : Bytes) (h : n + 1 < 2 ^ 64) (hr : n ≤ rest.length) :
    getCompactArrayLength (putCompactArrayLength n ++ rest) = some (n, rest) := getCompactArrayLength_put n rest h hr

/-- prepEncoder pass = realEncoder pass, for every schema, version and value
    (including the varint length field, whose prep size comes out of reserve + adjust) -/
theorem size_eq_enc_length (f : Fmt) (ver : Nat) (v : Val) : size f ver v = (enc f ver v).length :=
  Lemmas.C09.size_eq_enc_length f ver v

/-- the varint length field's push + adjustLength add `len(varint(body)) + body`, whatever stale length the
    field held before (0 for a fresh Record, the old size for a re-encoded one) -/
theorem varlen_adjust_exact (stale : Int) (body : Nat) :
    prepVarLen stale body = ((prepVarint body + body : Nat) : Int) := prepVarLen_exact stale body

theorem dec_enc (f : Fmt) (ver : Nat) (v : Val) (rest : Bytes) (h : WT f ver v = true) :
    dec f ver (enc f ver v ++ rest) = some (v, rest) := Lemmas.C09.dec_enc f ver v rest h

/-- the re-encode form in which the oracle checks the round trip on the real bodies: what `enc v` decodes to
    encodes to the same bytes and decodes to itself.  In the model the decoded value is `v` (`dec_enc`), so this
    says no more than `dec_enc`. -/
theorem reencode_same_bytes (f : Fmt) (ver : Nat) (v : Val) (h : WT f ver v = true) :
    ∃ v', dec f ver (enc f ver v) = some (v', []) ∧ enc f ver v' = enc f ver v ∧
          dec f ver (enc f ver v') = some (v', []) := by
  have := dec_enc f ver v [] h
  rw [List.append_nil] at this
  exact ⟨v, this, rfl, this⟩

theorem gate_spec (lo : Nat) (f : Fmt) (ver : Nat) (v : Val) :
    enc (Fmt.gate lo f) ver v = (if lo ≤ ver ∧ ver ≤ 1000000 then enc f ver v else []) :=
  rfl

/-- a small body in the style of OffsetFetchRequest: string / compact string by `isFlexible`, an int32 array
    per topic, a bool from v7, tagged fields on flexible versions -/
def exampleBody : Fmt :=
  .seq (.ite 6 100 (.prim .cstr) (.prim .str))
    (.seq (.ite 6 100 (.arr .compact (.seq (.prim .cstr) (.seq (.prim .ci32arr) (.prim .tagged))))
                      (.arr .i32null (.seq (.prim .str) (.prim .i32arr))))
      (.seq (Fmt.gate 7 (.prim .bool)) (.ite 6 100 (.prim .tagged) .unit)))

def exampleV5 : Val :=
  .pair (.bytes [103]) (.pair (.list [.pair (.bytes [116]) (.list [.int 0, .int 7])]) (.pair .unit .unit))
def exampleV7 : Val :=
  .pair (.bytes [103]) (.pair (.list [.pair (.bytes [116]) (.pair (.list [.int 0, .int 7]) .unit)]) (.pair (.int 1) .unit))

example : dec exampleBody 5 (enc exampleBody 5 exampleV5 ++ [1]) = some (exampleV5, [1]) :=
  dec_enc exampleBody 5 exampleV5 [1] (by decide +kernel)
example : dec exampleBody 7 (enc exampleBody 7 exampleV7) = some (exampleV7, []) := by
  have := dec_enc exampleBody 7 exampleV7 [] (by decide +kernel)
  rwa [List.append_nil] at this
example : enc exampleBody 7 exampleV7 = [2, 103, 2, 2, 116, 3, 0, 0, 0, 0, 0, 0, 0, 7, 0, 1, 0] := by decide +kernel
example : enc exampleBody 5 exampleV5 = [0, 1, 103, 0, 0, 0, 1, 0, 1, 116, 0, 0, 0, 2, 0, 0, 0, 0, 0, 0, 0, 7] := by decide +kernel
example : WT exampleBody 5 exampleV7 = false := by decide +kernel

/-- the int32 prefix written by a lengthField is the number of bytes between push and pop -/
theorem len32_covers (f : Fmt) (ver : Nat) (v : Val) (h : (enc f ver v).length < 2 ^ 31) :
    enc (.len32 f) ver v = putInt 4 (enc f ver v).length ++ enc f ver v ∧
    getInt 4 (enc (.len32 f) ver v) = some (((enc f ver v).length : Int), enc f ver v) :=
  ⟨rfl, getInt_putInt 4 _ _ (by decide) (inInt_len 4 _ h)⟩

/-- the 4 bytes written by a crc32Field are the CRC-32 (of the field's polynomial) of exactly
    the bytes between the field and pop -/
theorem crc_covers (p : Poly) (f : Fmt) (ver : Nat) (v : Val) :
    enc (.crc p f) ver v = be 4 (crc32 p (enc f ver v)) ++ enc f ver v ∧
    getUInt 4 (enc (.crc p f) ver v) = some (crc32 p (enc f ver v), enc f ver v) :=
  ⟨rfl, getUInt_be 4 _ _ (crc32_lt p _)⟩

/-- the two polynomials are the standard ones: check value of "123456789" -/
example : crc32 .ieee [49, 50, 51, 52, 53, 54, 55, 56, 57] = 0xCBF43926 := by decide +kernel
example : crc32 .castagnoli [49, 50, 51, 52, 53, 54, 55, 56, 57] = 0xE3069283 := by decide +kernel

/-- a record with a null key, a null header value and a null header key (the same as `exampleRecord`) -/
def exampleRecord' : Record :=
  { attributes := 0, timestampDelta := 5, offsetDelta := 1, key := none, value := some [97, 98],
    headers := [(some [1], none), (none, some [])] }

/-- Running the model of `encode()` (prep pass, then real pass with every push/pop done on
    the buffer: reserve, then patch the length / CRC / varint at pop) over the call sequence of a schema gives
    `(size, enc)`.  The harness compares exactly this machine with the real prepEncoder/realEncoder on the call
    sequences recorded from the real encode of every protocol body. -/
theorem machine_encode (f : Fmt) (ver : Nat) (v : Val) :
    runEncode (toks false f ver v) = (((size f ver v : Nat) : Int), enc f ver v) := by
  unfold runEncode runPrep runReal
  rw [prep_toks false f ver v {}, real_toks f ver v {}]
  exact congrArg (·, enc f ver v) (Int.zero_add _)

/-- the first prep pass over a fresh value (varint length fields still 0) computes the same size -/
theorem machine_prep_fresh (f : Fmt) (ver : Nat) (v : Val) :
    (runPrep (toks true f ver v)).length = (size f ver v : Nat) := by
  unfold runPrep
  rw [prep_toks true f ver v {}]
  exact Int.zero_add _

example : runEncode (toks false recordFmt 0 exampleRecord'.toVal) =
    ((14 : Int), [26, 0, 10, 2, 1, 4, 97, 98, 4, 2, 1, 1, 1, 0]) := by decide +kernel

/-- a record is the zig-zag varint of its body length followed by the body; the prep
    pass computes that total -/
theorem record_varlen_spec (r : Record) :
    encRecord r = putVarint ((enc recordBodyFmt 0 r.toVal).length : Int) ++ enc recordBodyFmt 0 r.toVal ∧
    sizeRecord r = (encRecord r).length :=
  ⟨congrArg (fun n : Nat => putVarint n ++ enc recordBodyFmt 0 r.toVal)
      (Lemmas.C09.size_eq_enc_length recordBodyFmt 0 r.toVal),
    Lemmas.C09.size_eq_enc_length recordFmt 0 r.toVal⟩

theorem record_roundtrip (r : Record) (rest : Bytes) (h : r.WT = true) :
    decRecord (encRecord r ++ rest) = some (r, rest) := record_dec_enc r rest h

def exampleRecord : Record :=
  { attributes := 0, timestampDelta := 5, offsetDelta := 1, key := none, value := some [97, 98],
    headers := [(some [1], none), (none, some [])] }

example : decRecord (encRecord exampleRecord ++ [3]) = some (exampleRecord, [3]) :=
  record_roundtrip exampleRecord [3] (by decide +kernel)
example : encRecord exampleRecord = [26, 0, 10, 2, 1, 4, 97, 98, 4, 2, 1, 1, 1, 0] := by decide +kernel

/-- the length prefix of a record batch is recordBatchOverhead (49) + the size of
    the (compressed) records -/
theorem batch_length_overhead (comp : Int → Bytes → Bytes) (b : Batch) :
    (b.lenBody comp).length = 49 + (comp b.codec (encRecords b.records)).length ∧
    encBatch comp b = putInt 8 b.firstOffset ++ putInt 4 ((b.lenBody comp).length : Int) ++ b.lenBody comp ∧
    sizeBatch comp b = (encBatch comp b).length := by
  have h : (b.lenBody comp).length = 49 + (comp b.codec (encRecords b.records)).length := by
    simp only [Batch.lenBody, putCrc, Batch.crcBody, List.length_append, putInt_length, be_length, putArrayLength]
    omega
  refine ⟨h, by simp only [encBatch, putLen32, List.append_assoc], ?_⟩
  simp only [sizeBatch, encBatch, putLen32, List.length_append, putInt_length, h]
  omega

/-- the batch CRC is Castagnoli over the batch from the attributes on (the IEEE one of a legacy message covers
    the message from the magic byte on, `message_crc_covers`) -/
theorem batch_crc_covers (comp : Int → Bytes → Bytes) (b : Batch) :
    b.lenBody comp = putInt 4 b.partitionLeaderEpoch ++ putInt 1 b.magic ++
      (be 4 (crc32 .castagnoli (b.crcBody comp)) ++ b.crcBody comp) := rfl

theorem message_crc_covers (comp : Int → Bytes → Bytes) (m : Msg) :
    encMessage comp m = be 4 (crc32 .ieee (m.crcBody comp)) ++ m.crcBody comp := rfl

/-- the record batch round trip: all codecs as a parameter with the law `decomp ∘ comp = id` on this payload; no
    condition on how well the records compress (the record count is compared with the decompressed records) -/
theorem recordbatch_roundtrip (comp : Int → Bytes → Bytes) (decomp : Int → Bytes → Option Bytes) (b : Batch)
    (rest : Bytes) (hlaw : decomp b.codec (comp b.codec (encRecords b.records)) = some (encRecords b.records))
    (hwt : b.WTP comp) :
    decBatch decomp (encBatch comp b ++ rest) = some (b, rest) := by
  obtain ⟨hfo, hple, hmagic, hcodec, hlod, hfts, hmts, hpid, hpe, hfs, hrecs, hpart, hn, hsize⟩ := hwt
  obtain ⟨a1, a2, a3, a4, a5⟩ := batch_attrs b hcodec.1 hcodec.2
  have hl := (batch_length_overhead comp b).1
  have hlen : ((b.lenBody comp).length : Int) = ((comp b.codec (encRecords b.records)).length : Int) + 49 := by
    rw [hl, Int.natCast_add, Int.add_comm]; rfl
  rw [encBatch_form, crcBody_form]
  unfold decBatch
  rw [getFields_putFields [8, 4, 4, 1] (by decide) [_, _, _, _] _
    ⟨hfo, inInt_len 4 _ (by rw [hl, Nat.add_comm]; exact hsize), hple, hmagic, trivial⟩]
  dsimp only
  rw [getUInt_be 4 _ _ (crc32_lt _ _)]
  dsimp only
  rw [getFields_putFields [2, 4, 8, 8, 8, 2, 4] (by decide) [_, _, _, _, _, _, _] _
    ⟨a5, hlod, hfts.1, hmts.1, hpid, hpe, hfs, trivial⟩]
  dsimp only
  rw [getInt_putInt 4 _ _ (by decide) (inInt_len 4 _ hn)]
  dsimp only
  rw [if_neg (by omega), decBatchTail_ok decomp _ (b.crcBody comp) _ (encRecords b.records) rest _ b.records _ _ hlen
    (crcBody_form comp b rest).symm (a1.symm ▸ hlaw) (Int.ofNat_le.mpr (records_length_le b.records))
    (by rw [Int.toNat_natCast]; exact List.append_nil (encRecords b.records) ▸ records_dec_enc b.records [] hrecs)]
  refine congrArg (fun x => some (x, rest)) ?_
  cases b
  simp only [batchHdr, Batch.mk.injEq, true_and]
  exact ⟨a1, a2, a3, a4, normTs_id _ hfts.2, normTs_id _ hmts.2, hpart.symm⟩

/-- with the code's own compress/decompress switch: codec 0 needs no library -/
theorem recordbatch_roundtrip_uncompressed (clib : Int → Bytes → Bytes) (dlib : Int → Bytes → Option Bytes)
    (b : Batch) (rest : Bytes) (hc : b.codec = 0) (hwt : b.WTP (compress clib)) :
    decBatch (decompress dlib) (encBatch (compress clib) b ++ rest) = some (b, rest) := by
  apply recordbatch_roundtrip (compress clib) (decompress dlib) b rest
  · exact decompress_compress clib dlib b.codec _ (by omega) (fun h => absurd hc h)
  · exact hwt

def exampleBatch : Batch :=
  { firstOffset := 100, partitionLeaderEpoch := -1, magic := 2, codec := 0, control := false, logAppendTime := true,
    isTransactional := true, lastOffsetDelta := 0, firstTimestamp := 1600000000000, maxTimestamp := -1,
    producerID := 7, producerEpoch := 1, firstSequence := 0, records := [exampleRecord] }

private theorem exampleBatch_wt (lib : Int → Bytes → Bytes) : exampleBatch.WTP (compress lib) := by
  unfold Batch.WTP
  -- codec 0: `compress` hands the records through, and what is left is a closed statement
  rw [show compress lib exampleBatch.codec (encRecords exampleBatch.records) = encRecords exampleBatch.records from
    if_pos rfl]
  decide +kernel

example (clib : Int → Bytes → Bytes) (dlib : Int → Bytes → Option Bytes) :
    decBatch (decompress dlib) (encBatch (compress clib) exampleBatch ++ [1, 2]) = some (exampleBatch, [1, 2]) :=
  recordbatch_roundtrip_uncompressed clib dlib exampleBatch [1, 2] rfl (exampleBatch_wt clib)

/-- a (degenerate but lawful on this payload) library that compresses the one record to nothing: the batch still
    round-trips, whatever follows it -/
example : decBatch (fun _ _ => some (encRecords [exampleRecord]))
    (encBatch (fun _ _ => []) { exampleBatch with codec := 4 }) = some ({ exampleBatch with codec := 4 }, []) := by
  have := recordbatch_roundtrip (fun _ _ => []) (fun _ _ => some (encRecords [exampleRecord]))
    { exampleBatch with codec := 4 } [] rfl (by unfold Batch.WTP; decide +kernel)
  rwa [List.append_nil] at this

/-- legacy message (magic 0/1): CRC, magic, attributes, timestamp from magic 1 on, key, value;
    `innerOK` stands for `Message.decodeSet` on the decompressed value of a wrapper -/
theorem message_roundtrip (comp : Int → Bytes → Bytes) (decomp : Int → Bytes → Option Bytes) (innerOK : Bytes → Bool)
    (m : Msg) (rest : Bytes) (hwt : m.WTP comp)
    (hnone : ∀ v, m.value = some v → m.codec = 0 → comp m.codec v = v)
    (hlaw : ∀ v, m.value = some v → m.codec ≠ 0 → decomp m.codec (comp m.codec v) = some v ∧ innerOK v = true) :
    decMessage decomp innerOK (encMessage comp m ++ rest) = some (m, rest) :=
  message_dec_enc comp decomp innerOK m rest hwt hnone hlaw

/-- message sets (v0/v1): a set is the concatenation of (offset, length-prefixed message) blocks and
    decodes back to exactly those blocks, nothing partial, nothing left -/
theorem messageset_roundtrip (comp : Int → Bytes → Bytes) (decomp : Int → Bytes → Option Bytes) (innerOK : Bytes → Bool)
    (bs : List Block) (fuel : Nat) (hf : bs.length ≤ fuel) (h : ∀ b ∈ bs, BlockOK comp decomp innerOK b) :
    decSet decomp innerOK fuel (encSet comp bs) = some ⟨bs, false, false, []⟩ := by
  induction bs generalizing fuel with
  | nil => cases fuel <;> rfl
  | cons b bs ih =>
    cases fuel with
    | zero => exact absurd hf (Nat.not_succ_le_zero _)
    | succ fuel =>
      have hb := h b List.mem_cons_self
      have hlen := encBlock_length_ge comp b
      have hne : (encBlock comp b ++ encSet comp bs).isEmpty = false := by
        cases hh : encBlock comp b with
        | nil => rw [hh] at hlen; exact absurd hlen (by decide)
        | cons x xs => rfl
      show decSet decomp innerOK (fuel + 1) (encBlock comp b ++ encSet comp bs) = _
      rw [decSet, hne, if_neg Bool.false_ne_true, if_neg (by rw [List.length_append]; omega),
        block_magic comp b _ (magic_legacy hb.2.1.1).1, if_neg (magic_legacy hb.2.1.1).2,
        block_dec_enc comp decomp innerOK b _ hb]
      dsimp only
      rw [ih fuel (Nat.le_of_succ_le_succ hf) fun x hx => h x (List.mem_cons_of_mem _ hx)]

/-- wrappers: a compressed message whose value is an encoded inner set passes `decodeSet` one nesting level up -/
theorem messageset_wrapper_inner (comp : Int → Bytes → Bytes) (decomp : Int → Bytes → Option Bytes) (d : Nat)
    (bs : List Block) (h : ∀ b ∈ bs, BlockOK comp decomp (innerOKd decomp d) b) :
    innerOKd decomp (d + 1) (encSet comp bs) = true := by
  -- every block takes at least 17 bytes, so the fuel `decodeSet` gets (the length of its input) suffices
  have hlen : bs.length ≤ (encSet comp bs).length :=
    Nat.le_trans (Nat.le_mul_of_pos_left _ (by decide))
      (length_le_flatten_map (encBlock comp) 17 bs (encBlock_length_ge comp))
  rw [innerOKd, messageset_roundtrip comp decomp _ bs _ hlen h]
  rfl

def exampleMsg : Msg :=
  { magic := 1, codec := 0, logAppendTime := false, timestamp := 1600000000000, key := none, value := some [104, 105] }

private theorem exampleBlock_ok (lib : Int → Bytes → Bytes) (dlib : Int → Bytes → Option Bytes) (ok : Bytes → Bool) :
    BlockOK (compress lib) (decompress dlib) ok (42, exampleMsg) := by
  refine ⟨by decide, ⟨by decide, by decide, by decide, by decide, by decide, ?_⟩, ?_, ?_, ?_⟩
  · intro v hv
    simp only [exampleMsg, Option.some.injEq] at hv
    subst hv; simp only [compress, exampleMsg, ↓reduceIte]; decide
  · simp only [encMessage, putCrc, Msg.crcBody, exampleMsg, List.length_append, be_length, putInt_length,
      Option.map_some, compress, ↓reduceIte]
    decide
  · intro v _ _; simp only [compress, exampleMsg, ↓reduceIte]
  · intro v _ hc; exact absurd rfl hc

example (lib : Int → Bytes → Bytes) (dlib : Int → Bytes → Option Bytes) :
    decSet (decompress dlib) (fun _ => false) 5 (encSet (compress lib) [(42, exampleMsg), (43, exampleMsg)]) =
      some ⟨[(42, exampleMsg), (43, exampleMsg)], false, false, []⟩ := by
  apply messageset_roundtrip
  · decide
  · intro b hb
    simp only [List.mem_cons, List.mem_nil_iff, or_false] at hb
    rcases hb with hb | hb <;> subst hb
    · exact exampleBlock_ok lib dlib _
    · have := exampleBlock_ok lib dlib (fun _ => false)
      exact ⟨by decide +kernel, this.2.1, this.2.2.1, this.2.2.2.1, this.2.2.2.2⟩

/-- byte 16 of both formats is the magic byte, so `Records.decode` sends what
    `RecordBatch.encode` wrote (magic 2) to the batch decoder and what `MessageSet.encode` wrote (magic 0/1) to
    the legacy decoder -/
theorem records_magic_dispatch (comp : Int → Bytes → Bytes) :
    (∀ (b : Batch) (rest : Bytes), b.magic = 2 → recordsKind (encBatch comp b ++ rest) = some .default) ∧
    (∀ (b : Block) (bs : List Block), (b.2.magic = 0 ∨ b.2.magic = 1) →
        recordsKind (encSet comp (b :: bs)) = some .legacy) := by
  constructor
  · intro b rest hm
    rw [recordsKind_batch comp b rest (by rw [hm]; decide), hm]; rfl
  · intro b bs hm
    rw [recordsKind_set comp b bs (magic_legacy hm).1]
    rcases hm with h | h <;> rw [h] <;> rfl

end Props.C09
