import SaramaVerif.Model.ProduceSet
import SaramaVerif.Lemmas.C16Sets
import SaramaVerif.Lemmas.C16Wire
/-
  C16 — produce requests respect the configured size and count limits, and flush on time.
  The sets `brokerProducer` can hold are the inductive `Grown`; the limits are the invariant `GInv` that the overflow
  test keeps along it, the encoded size is compared with the running estimate under `SInv`, and the flush statements
  come from the invariant `BPInv` of the run loop, which holds after every event sequence.
-/
namespace Props.C16
open Model.ProduceSet Lemmas.C16

/-- every way `brokerProducer` (run, waitForSpace, handleSuccess, retryBatch) makes or changes a produce set:
    a fresh set; the first message after a roll-over is added without a second overflow test; any further
    message only when `wouldOverflow` said no; a response may drop a partition; retryBatch wraps one
    partition set of a sent request. -/
inductive Grown (c : Conf) : State → Prop
  | empty : Grown c State.empty
  | first (now : Int) (m : Msg) : Grown c (add c State.empty now m)
  | step {s : State} (now : Int) (m : Msg) : Grown c s → wouldOverflow c s m = false → Grown c (add c s now m)
  | drop {s : State} (tp : Nat × Nat) : Grown c s → Grown c (dropPartition s tp)
  | ofPartition {s : State} {p : PSet} : Grown c s → p ∈ s.parts → Grown c (State.single p)

/-- what the overflow discipline buys, on top of `SInv`.  The byte limits start at two messages: the first message
    after a roll-over is added without an overflow test (`Grown.first`), so a set or a partition batch of one message
    is bounded by the dispatcher's check alone (`single_batch_bound`). -/
structure GInv (c : Conf) (s : State) : Prop where
  count : c.maxMessages > 0 → s.bufferCount ≤ c.maxMessages
  part : ∀ p ∈ s.parts, 2 ≤ p.msgs.length → p.bufferBytes < c.maxMessageBytes
  total : 2 ≤ s.bufferCount →
    s.bufferBytes < c.maxRequestSize - safetyMargin + (if c.v2 = true then recordBatchOverhead else 0)

private theorem add_empty (c : Conf) (now : Int) (m : Msg) :
    add c State.empty now m = ⟨[newPSet c now m], addSize c true m, 1⟩ := by
  simp [add, addOk, State.empty, lookup, addTo]

private theorem not_overflow {c : Conf} {s : State} {m : Msg} (h : wouldOverflow c s m = false) :
    s.bufferBytes + byteSize (sizeVersion c) m < c.maxRequestSize - safetyMargin ∧
    (∀ p, lookup m.tp s.parts = some p → p.bufferBytes + byteSize (sizeVersion c) m < c.maxMessageBytes) ∧
    (c.maxMessages > 0 → s.bufferCount < c.maxMessages) := by
  unfold wouldOverflow at h
  by_cases h1 : s.bufferBytes + byteSize (sizeVersion c) m ≥ c.maxRequestSize - safetyMargin
  · simp [h1] at h
  · simp only [h1, ↓reduceIte] at h
    by_cases h3 : c.maxMessages > 0 ∧ s.bufferCount ≥ c.maxMessages
    · simp [h3] at h
    · simp only [h3, ↓reduceIte] at h
      refine ⟨Int.not_le.mp h1, ?_, fun hm => Int.not_le.mp fun hge => h3 ⟨hm, hge⟩⟩
      intro p hp
      simp [partBytes, hp] at h
      omega

theorem grown_inv {c : Conf} {s : State} (h : Grown c s) : SInv c s ∧ GInv c s := by
  induction h with
  | empty =>
    refine ⟨sinv_empty c, ?_, ?_, ?_⟩
    · exact fun h => Int.le_of_lt h
    · simp [State.empty]
    · simp [State.empty]
  | first now m =>
    refine ⟨sinv_add now m (sinv_empty c), ?_, ?_, ?_⟩
    · intro h; rw [add_empty]; exact Int.add_one_le_of_lt h
    · rw [add_empty]; intro p hp h2
      simp only [List.mem_singleton] at hp
      subst hp
      simp [newPSet] at h2
    · rw [add_empty]; simp
  | @step s now m hg hwo ih =>
    obtain ⟨hs, hgi⟩ := ih
    obtain ⟨h1, h2, h3⟩ := not_overflow hwo
    refine ⟨sinv_add now m hs, ?_⟩
    unfold add
    split
    · refine ⟨?_, ?_, ?_⟩
      · exact fun h => Int.add_one_le_of_lt (h3 h)
      · intro p' hp' hlen
        simp only at hp'
        rcases mem_addTo hp' with hm | ⟨_, hm⟩ | ⟨p, hl, hm⟩
        · exact hgi.part p' hm hlen
        · subst hm; simp [newPSet] at hlen
        · subst hm
          show p.bufferBytes + addSize c false m < c.maxMessageBytes
          rw [addSize_false]; exact h2 p hl
      · intro _
        refine Int.lt_of_le_of_lt (Int.add_le_add_left (addSize_le c (lookup m.tp s.parts).isNone m) _) ?_
        rw [← Int.add_assoc]
        exact Int.add_lt_add_right h1 _
    · exact hgi
  | @drop s tp hg ih =>
    obtain ⟨hs, hgi⟩ := ih
    refine ⟨sinv_drop tp hs, ?_⟩
    unfold dropPartition
    split
    · exact hgi
    · rename_i p hl
      have hp := lookup_some hl
      have hpos := (hs.parts p hp.1).bytes_pos
      refine ⟨?_, ?_, ?_⟩
      · exact fun h => Int.le_trans (Int.sub_le_self _ (Int.natCast_nonneg _)) (hgi.count h)
      · intro q hq; exact hgi.part q (mem_removeTp hq)
      · exact fun h2 => Int.lt_of_le_of_lt (Int.sub_le_self _ (Int.le_trans (by decide) hpos))
          (hgi.total (Int.le_trans h2 (Int.sub_le_self _ (Int.natCast_nonneg _))))
  | @ofPartition s p hg hp ih =>
    obtain ⟨hs, hgi⟩ := ih
    have hb : p.bufferBytes ≤ s.bufferBytes ∧ (p.msgs.length : Int) ≤ s.bufferCount := by
      rw [hs.bytes, hs.count]; exact member_le_sums hs.parts hp
    refine ⟨sinv_single hs hp, ?_, ?_, ?_⟩
    · exact fun h => Int.le_trans hb.2 (hgi.count h)
    · intro q hq
      simp only [State.single, List.mem_singleton] at hq
      subst hq; exact hgi.part q hp
    · exact fun h2 => Int.lt_of_le_of_lt hb.1 (hgi.total (Int.le_trans h2 hb.2))

/-- No set the broker producer ever holds or hands over carries more messages than
    Flush.MaxMessages (when set). -/
theorem count_limit {c : Conf} {s : State} (h : Grown c s) (hm : c.maxMessages > 0) :
    s.bufferCount ≤ c.maxMessages := (grown_inv h).2.count hm

/-- A partition batch with at least two messages carries fewer key+value bytes than
    MaxMessageBytes (even with the per-message overhead estimate added). -/
theorem batch_bytes_limit {c : Conf} {s : State} (h : Grown c s) {p : PSet} (hp : p ∈ s.parts)
    (h2 : 2 ≤ p.msgs.length) :
    payload p.msgs + 26 * (p.msgs.length : Int) ≤ p.bufferBytes ∧ p.bufferBytes < c.maxMessageBytes := by
  obtain ⟨hs, hg⟩ := grown_inv h
  have := estimate_ge c p.msgs
  exact ⟨by rw [(hs.parts p hp).bytes]; exact this, hg.part p hp h2⟩

/-- … hence the key and value bytes alone, which is what property C16 bounds -/
theorem batch_payload_below_max {c : Conf} {s : State} (h : Grown c s) {p : PSet} (hp : p ∈ s.parts)
    (h2 : 2 ≤ p.msgs.length) : payload p.msgs < c.maxMessageBytes := by
  have := batch_bytes_limit h hp h2
  have : 0 ≤ (p.msgs.length : Int) := by omega
  omega

/-- With two or more messages the running estimate of a set stays below
    MaxRequestSize − 10 KiB (+ the 49 bytes batch overhead that the overflow test does not count). -/
theorem request_estimate_limit {c : Conf} {s : State} (h : Grown c s) (h2 : 2 ≤ s.bufferCount) :
    s.bufferBytes < c.maxRequestSize - safetyMargin + (if c.v2 = true then recordBatchOverhead else 0) :=
  (grown_inv h).2.total h2

/-- The dispatcher forwards a message only if its size estimate (which is at least
    key+value+26) is within MaxMessageBytes; a message whose key+value bytes alone exceed the limit is
    answered with an error. -/
theorem oversize_rejected (c : Conf) (hnn : Bool) (m : Msg) :
    (dispatch c hnn m = .forward → byteSize (sizeVersion c) m ≤ c.maxMessageBytes) ∧
    (byteSize (sizeVersion c) m > c.maxMessageBytes → dispatch c hnn m ≠ .forward) ∧
    ((m.keyLen : Int) + (m.valLen : Int) > c.maxMessageBytes → dispatch c hnn m ≠ .forward) := by
  have hb := byteSize_ge (sizeVersion c) m
  unfold dispatch
  by_cases h1 : (!c.v2 && hnn) = true
  · simp [h1]
  · by_cases h2 : byteSize (sizeVersion c) m > c.maxMessageBytes
    · simp [h1, h2]
    · simp only [h1, h2, ↓reduceIte]
      refine ⟨fun _ => by omega, fun h => absurd h (by simp), fun h => by omega⟩

/-- a single-message batch is bounded by the dispatcher's check instead -/
theorem single_batch_bound (c : Conf) (hnn : Bool) (m : Msg) (h : dispatch c hnn m = .forward) :
    payload [m] + 26 ≤ c.maxMessageBytes := by
  have := (oversize_rejected c hnn m).1 h
  have := byteSize_ge (sizeVersion c) m
  simp only [payload]; omega

theorem dispatch_table (c : Conf) (hnn : Bool) (m : Msg) :
    dispatch c hnn m =
      if c.v2 = false ∧ hnn = true then .errHeadersNeedV011
      else if byteSize (sizeVersion c) m > c.maxMessageBytes then .errMessageSizeTooLarge else .forward := by
  unfold dispatch
  cases c.v2 <;> cases hnn <;> simp

private theorem topicsWire_nonneg (f : Nat → Nat) (s : State) : 0 ≤ topicsWire f s := by
  unfold topicsWire
  exact sumMap_nonneg _ _ (fun t _ => by omega)

/-- The encoded size of an uncompressed request exceeds the running estimate by at
    most `slack`: request header and fixed fields, topic names, 8 bytes per partition, and what the estimate
    leaves out per batch (12 bytes of a record batch header) resp. per message (8 bytes timestamp of format 1). -/
theorem request_size_margin {c : Conf} {s : State} (cid : Nat) (f : Nat → Nat) (h : SInv c s)
    (hc : c.codec = 0) (hsm : SmallSet s) :
    0 ≤ wireSize c cid f s ∧ wireSize c cid f s ≤ s.bufferBytes + slack c cid f s := by
  have hb := fun p hp => batchWire_le hc (h.parts p hp) (hsm p hp)
  have h0 := sumMap_nonneg (fun p => 8 + batchWire (buildBatch c p)) s.parts fun p hp => by have := (hb p hp).1; omega
  have hp := sumMap_le_sumMap s.parts fun p hp => Int.add_le_add_left (hb p hp).2 8
  have ht := topicsWire_nonneg f s
  have hf : 0 ≤ reqFixed c cid := by unfold reqFixed; split <;> omega
  unfold wireSize slack
  rw [sum_estimates, ← h.bytes, ← h.count] at hp
  omega

/-- for message sets (formats 0 and 1) the bound is an equality: the estimate undercounts format 1 by exactly
    8 bytes per message; no assumption on sizes is involved -/
theorem request_size_exact {c : Conf} {s : State} (cid : Nat) (f : Nat → Nat) (h : SInv c s)
    (hc : c.codec = 0) (hv : c.v2 = false) : wireSize c cid f s = s.bufferBytes + slack c cid f s := by
  unfold wireSize slack
  rw [sumMap_congr s.parts fun p hp => congrArg (8 + ·) (batchWire_legacy hc (h.parts p hp) hv), sum_estimates,
    ← h.bytes, ← h.count]
  omega

set_option linter.unusedVariables false in
/-- `request_size_exact` with the hypotheses of `request_size_margin`: the statement carries `hsm`, which its proof does
    not use (only record batches need the int32 sizes). -/
theorem request_size_exact_legacy {c : Conf} {s : State} (cid : Nat) (f : Nat → Nat) (h : SInv c s)
    (hc : c.codec = 0) (hv : c.v2 = false) (hsm : SmallSet s) :
    wireSize c cid f s = s.bufferBytes + slack c cid f s :=
  request_size_exact cid f h hc hv

/-- A request is written only if `encode` accepted it, i.e. it is not longer than
    MaxRequestSize … -/
theorem request_size_limit (c : Conf) (size : Int) (h : encodeAccepts c size = true) : size ≤ c.maxRequestSize := by
  unfold encodeAccepts at h; simp at h; exact h.2

/-- … and a set grown under the overflow discipline is accepted whenever its slack fits into the 10 KiB margin -/
theorem request_within_margin_accepted {c : Conf} {s : State} (cid : Nat) (f : Nat → Nat) (h : Grown c s)
    (hc : c.codec = 0) (hsm : SmallSet s) (h2 : 2 ≤ s.bufferCount)
    (hslack : slack c cid f s + (if c.v2 = true then recordBatchOverhead else 0) ≤ safetyMargin) :
    encodeAccepts c (wireSize c cid f s) = true := by
  have hm := request_size_margin cid f (grown_inv h).1 hc hsm
  have he := request_estimate_limit h h2
  unfold encodeAccepts
  simp only [decide_eq_true_eq]
  omega

theorem ready_to_flush_table (c : Conf) (s : State) :
    readyToFlush c s = true ↔
      s.bufferCount ≠ 0 ∧
        ((c.flushFrequency = 0 ∧ c.flushBytes = 0 ∧ c.flushMessages = 0) ∨
         (c.flushMessages > 0 ∧ s.bufferCount ≥ c.flushMessages) ∨
         (c.flushBytes > 0 ∧ s.bufferBytes ≥ c.flushBytes)) := by
  unfold readyToFlush isEmpty
  by_cases h0 : s.bufferCount = 0
  · simp [h0]
  · simp only [h0, decide_false, Bool.false_eq_true, ↓reduceIte, ne_eq, not_false_eq_true, true_and]
    by_cases h1 : c.flushFrequency = 0 ∧ c.flushBytes = 0 ∧ c.flushMessages = 0
    · simp [h1]
    · simp only [h1, ↓reduceIte, false_or]
      by_cases h2 : c.flushMessages > 0 ∧ s.bufferCount ≥ c.flushMessages
      · simp [h2]
      · simp only [h2, ↓reduceIte, false_or]
        by_cases h3 : c.flushBytes > 0 ∧ s.bufferBytes ≥ c.flushBytes
        · simp [h3]
        · simp [h3]

theorem ready_when_unconfigured (c : Conf) (s : State)
    (h : c.flushFrequency = 0 ∧ c.flushBytes = 0 ∧ c.flushMessages = 0) :
    readyToFlush c s = !isEmpty s := by
  unfold readyToFlush
  cases he : isEmpty s <;> simp [h]

theorem never_ready_when_empty (c : Conf) (s : State) (h : isEmpty s = true) : readyToFlush c s = false := by
  unfold readyToFlush; simp [h]

/-- invariant of `brokerProducer.run` at the top of its loop -/
structure BPInv (c : Conf) (b : BP) : Prop where
  enabled : b.outputEnabled = (b.timerFired || readyToFlush c b.buffer)
  armed : isEmpty b.buffer = false → c.flushFrequency > 0 → b.timerArmed = true
  fired : b.timerFired = true → b.timerArmed = true
  grown : Grown c b.buffer

theorem bpinv_init (c : Conf) : BPInv c BP.init where
  enabled := by simp [BP.init, readyToFlush, isEmpty, State.empty]
  armed := by simp [BP.init, isEmpty, State.empty]
  fired := by simp [BP.init]
  grown := Grown.empty

private theorem isEmpty_add_ok {c : Conf} {s : State} (now : Int) (m : Msg) (hs : SInv c s)
    (hok : addOk c s m = true) : isEmpty (add c s now m) = false := by
  have := sums_nonneg hs.parts
  have hc := hs.count
  unfold add isEmpty
  simp only [hok, ↓reduceIte, decide_eq_false_iff_not]
  omega

/-- the loop tail recomputes `outputEnabled` and touches nothing else: the other three clauses are about the state before it -/
theorem bpinv_tail {c : Conf} {x : BP} (ha : isEmpty x.buffer = false → c.flushFrequency > 0 → x.timerArmed = true)
    (hf : x.timerFired = true → x.timerArmed = true) (hg : Grown c x.buffer) : BPInv c (BP.tail c x) :=
  ⟨rfl, ha, hf, hg⟩

theorem bp_step_inv {c : Conf} {b : BP} (e : Ev) (h : BPInv c b) :
    BPInv c (BP.step c b e).1 ∧ ∀ s ∈ (BP.step c b e).2, Grown c s := by
  have hout : ∀ s ∈ [b.buffer], Grown c s := fun s hs => List.mem_singleton.mp hs ▸ h.grown
  have hnone : ∀ s ∈ ([] : List State), Grown c s := fun _ hs => nomatch hs
  cases e with
  | msg now m =>
    simp only [BP.step]
    by_cases hwo : wouldOverflow c b.buffer m = true
    · rw [if_pos hwo]
      exact ⟨bpinv_tail (fun _ hf => decide_eq_true hf) (fun hf => nomatch hf) (Grown.first now m), hout⟩
    · rw [if_neg hwo]
      by_cases hok : addOk c b.buffer m = true
      · rw [if_pos hok]
        exact ⟨bpinv_tail (fun _ hf => by simp [hf]) (fun hf => by simp [h.fired hf])
          (Grown.step now m h.grown (Bool.eq_false_iff.mpr hwo)), hnone⟩
      · rw [if_neg hok]; exact ⟨h, hnone⟩
  | timer =>
    simp only [BP.step]
    by_cases ht : (b.timerArmed && !b.timerFired) = true
    · rw [if_pos ht]
      exact ⟨bpinv_tail h.armed (fun _ => (Bool.and_eq_true_iff.mp ht).1) h.grown, hnone⟩
    · rw [if_neg ht]; exact ⟨h, hnone⟩
  | take =>
    simp only [BP.step]
    by_cases ho : b.outputEnabled = true
    · rw [if_pos ho]
      exact ⟨bpinv_tail (fun he => nomatch he) (fun hf => nomatch hf) Grown.empty, hout⟩
    · rw [if_neg ho]; exact ⟨h, hnone⟩
  | drop tp =>
    simp only [BP.step]
    by_cases hne : isEmpty (dropPartition b.buffer tp) = true
    · rw [if_pos hne]
      exact ⟨bpinv_tail (fun he => nomatch he) (fun hf => nomatch hf) Grown.empty, hnone⟩
    · rw [if_neg hne]
      refine ⟨bpinv_tail (fun _ hf => h.armed ?_ hf) h.fired (Grown.drop tp h.grown), hnone⟩
      -- the buffer was not empty before the drop either
      cases hb : isEmpty b.buffer with
      | false => rfl
      | true =>
        have hnil := parts_nil_of_count_zero (grown_inv h.grown).1 (of_decide_eq_true hb)
        have : dropPartition b.buffer tp = b.buffer := by simp [dropPartition, hnil, lookup]
        exact absurd (this.symm ▸ hb) hne

theorem bp_run_inv {c : Conf} (evs : List Ev) {b : BP} (h : BPInv c b) :
    BPInv c (BP.run c b evs).1 ∧ ∀ s ∈ (BP.run c b evs).2, Grown c s := by
  induction evs generalizing b with
  | nil => exact ⟨h, by simp [BP.run]⟩
  | cons e es ih =>
    have h1 := bp_step_inv e h
    have h2 := ih h1.1
    refine ⟨h2.1, ?_⟩
    intro s hs
    simp only [BP.run, List.mem_append] at hs
    rcases hs with hs | hs
    · exact h1.2 s hs
    · exact h2.2 s hs

/-- After every sequence of run-loop events the output towards the bridge is enabled
    exactly when the timer has fired or the buffer is ready to flush. -/
theorem flush_enabled_iff (c : Conf) (evs : List Ev) :
    (BP.run c BP.init evs).1.outputEnabled =
      ((BP.run c BP.init evs).1.timerFired || readyToFlush c (BP.run c BP.init evs).1.buffer) :=
  (bp_run_inv evs (bpinv_init c)).1.enabled

/-- a non-empty buffer with a flush frequency has its timer running (or fired): the flush cannot be forgotten -/
theorem flush_timer_armed (c : Conf) (evs : List Ev) (hf : c.flushFrequency > 0)
    (hne : isEmpty (BP.run c BP.init evs).1.buffer = false) :
    (BP.run c BP.init evs).1.timerArmed = true :=
  (bp_run_inv evs (bpinv_init c)).1.armed hne hf

/-- once the armed timer fires, the very next loop tail enables the output -/
theorem timer_fire_enables (c : Conf) (b : BP) (ha : b.timerArmed = true) :
    (BP.step c b .timer).1.outputEnabled = true ∨ b.timerFired = true := by
  cases hf : b.timerFired
  · left; simp [BP.step, ha, hf, BP.tail]
  · right; rfl

/-- no trigger configured: whenever something is buffered the output is enabled (no waiting for more input) -/
theorem flush_immediate_when_unconfigured (c : Conf) (evs : List Ev)
    (h : c.flushFrequency = 0 ∧ c.flushBytes = 0 ∧ c.flushMessages = 0)
    (hne : isEmpty (BP.run c BP.init evs).1.buffer = false) :
    (BP.run c BP.init evs).1.outputEnabled = true := by
  rw [flush_enabled_iff, ready_when_unconfigured c _ h, hne]; simp

theorem trigger_enables (c : Conf) (evs : List Ev)
    (hne : isEmpty (BP.run c BP.init evs).1.buffer = false)
    (h : (c.flushMessages > 0 ∧ (BP.run c BP.init evs).1.buffer.bufferCount ≥ c.flushMessages) ∨
         (c.flushBytes > 0 ∧ (BP.run c BP.init evs).1.buffer.bufferBytes ≥ c.flushBytes)) :
    (BP.run c BP.init evs).1.outputEnabled = true := by
  rw [flush_enabled_iff]
  have : readyToFlush c (BP.run c BP.init evs).1.buffer = true := by
    rw [ready_to_flush_table]
    refine ⟨by simpa [isEmpty] using hne, Or.inr h⟩
  simp [this]

/-- Whatever the event sequence, every set the run loop passes to
    the bridge satisfies count_limit, batch_payload_below_max and request_estimate_limit. -/
theorem handed_over_within_limits (c : Conf) (evs : List Ev) :
    ∀ s ∈ (BP.run c BP.init evs).2,
      (c.maxMessages > 0 → s.bufferCount ≤ c.maxMessages) ∧
      (∀ p ∈ s.parts, 2 ≤ p.msgs.length → payload p.msgs < c.maxMessageBytes) ∧
      (2 ≤ s.bufferCount →
        s.bufferBytes < c.maxRequestSize - safetyMargin + (if c.v2 = true then recordBatchOverhead else 0)) := by
  intro s hs
  have hg := (bp_run_inv evs (bpinv_init c)).2 s hs
  exact ⟨count_limit hg, fun p hp h2 => batch_payload_below_max hg hp h2, request_estimate_limit hg⟩

-- 0.11 without 2.1, no compression, not idempotent; then MaxRequestSize, MaxMessageBytes = 200, Flush.Messages = 2,
-- Flush.Bytes = 0, Flush.Frequency = 0, Flush.MaxMessages = 2 (the order of the fields of `Conf`)
def exConf : Conf := ⟨true, true, false, 0, false, 104857600, 200, 2, 0, 0, 2⟩
def exMsg (id k v : Nat) : Msg := ⟨id, (0, 0), k, v, [], some 5, 0⟩

/-- two messages fit, the third would overflow (MaxMessages = 2) and is preceded by a hand-over -/
example : wouldOverflow exConf (add exConf (add exConf State.empty 0 (exMsg 1 3 10)) 0 (exMsg 2 3 10)) (exMsg 3 1 1) = true := by decide +kernel
example : wouldOverflow exConf (add exConf State.empty 0 (exMsg 1 3 10)) (exMsg 2 3 10) = false := by decide +kernel
example : Grown exConf (add exConf (add exConf State.empty 0 (exMsg 1 3 10)) 0 (exMsg 2 3 10)) :=
  Grown.step 0 _ (Grown.first 0 _) (by decide +kernel)
/-- the partition clause: 98+49 ≥ 200 is false (above, the second message `exMsg 2 3 10` does not overflow), 98+102 ≥ 200 is true -/
example : wouldOverflow exConf (add exConf State.empty 0 (exMsg 1 3 10)) (exMsg 2 3 63) = true := by decide +kernel
/-- oversize: 36+165 > 200 -/
example : dispatch exConf false (exMsg 1 100 65) = .errMessageSizeTooLarge := by decide +kernel
example : dispatch exConf false (exMsg 1 100 64) = .forward := by decide +kernel
/-- run loop: two messages reach the count trigger (Flush.Messages = 2), the bridge takes them, a third starts a new buffer -/
example : ((BP.run exConf BP.init [.msg 0 (exMsg 1 3 10), .msg 0 (exMsg 2 3 10), .take, .msg 0 (exMsg 3 1 1)]).2.map (·.bufferCount)) = [2] := by decide +kernel
example : (BP.run exConf BP.init [.msg 0 (exMsg 1 3 10)]).1.outputEnabled = false := by decide +kernel
example : (BP.run exConf BP.init [.msg 0 (exMsg 1 3 10), .msg 0 (exMsg 2 3 10)]).1.outputEnabled = true := by decide +kernel
/-- with a frequency the timer is armed by the first message and its firing enables the output -/
example : (BP.run { exConf with flushFrequency := 1000 } BP.init [.msg 0 (exMsg 1 3 10), .timer]).1.outputEnabled = true := by decide +kernel

/-- the arithmetic of the known finding (known_findings.d/C16.json; format 1, MaxRequestSize 60000): 1913 empty messages
    are estimated at 26 bytes each, 49738 < 60000 − 10240, so the overflow test lets them into one request, and they take
    34 bytes each on the wire, 65042 > 60000 before the request header is counted -/
example : (26 : Int) * 1913 = 49738 ∧ (34 : Int) * 1913 = 65042 := by decide +kernel
/-- the encoded size of the two-message request of the examples above, client id of 5 and topic names of 3 bytes -/
example : wireSize exConf 5 (fun _ => 3)
    (add exConf (add exConf State.empty 0 (exMsg 1 3 10)) 0 (exMsg 2 3 10)) = 149 := by decide +kernel

end Props.C16
