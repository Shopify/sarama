import SaramaVerif.Lemmas.C06
import SaramaVerif.Lemmas.C06Sys
/-
  C06 — committed offsets are marked offsets, and no mark is lost.

  The theorems about one partition hold for ALL sequences of partition-level operations (`POp`): any
  interleaving of application calls (MarkOffset / ResetOffset / AsyncClose / ManagePartition) with the
  committer's visits (snapshot by constructRequest, end of the attempt with any verdict, releasePOMs).
  The system (`Sys`, all partitions, cached coordinator, one committer at a time) adds nothing a partition could
  observe: every partition of every system run is such a partition-level run (`sys_partition_trace`), and the
  blocks of every commit request are the partition logs' newest entries. On these rests the theorem about
  `Close`. The initial fetch of ManagePartition (`fetchInitial`) stands apart, at the end.
-/
namespace Props.C06
open Model.OffsetMgr Lemmas.C06

theorem reach_inv (st : Option Pair) (ops : List POp) : PInv (prun (pinit st) ops) :=
  pinv_run (pinv_init st) ops

/-- Every pair in the position log is the pair fetched initially or the argument of an earlier accepted
    MarkOffset / ResetOffset; commit requests and the coordinator's store hold only pairs of that log
    (`PInv.commits_hist`, `PInv.store_hist`). -/
theorem hist_was_marked (st : Option Pair) (ops : List POp) :
    ∀ c ∈ (prun (pinit st) ops).hist,
      c = fetched st ∨
      ∃ pre op post, ops = pre ++ op :: post ∧ Accepts (prun (pinit st) pre) op c :=
  fun c hc => (hist_run (pinv_init st) ops c hc).imp_left List.mem_singleton.mp

/-- Every (offset, metadata) pair ever put into a commit request for the partition is the pair fetched
    initially or the argument of an EARLIER MarkOffset / ResetOffset that was accepted (it moved the
    position: `Accepts`), for every operation sequence. -/
theorem committed_was_marked (st : Option Pair) (ops : List POp) :
    ∀ c ∈ (prun (pinit st) ops).commits,
      c = fetched st ∨
      ∃ pre op post, ops = pre ++ op :: post ∧ Accepts (prun (pinit st) pre) op c :=
  fun c hc => hist_was_marked st ops c ((reach_inv st ops).commits_hist c hc)

/-- … and so is what the coordinator stores -/
theorem stored_was_marked (st : Option Pair) (ops : List POp) :
    fetched (prun (pinit st) ops).store = fetched st ∨
    ∃ pre op post, ops = pre ++ op :: post ∧
      Accepts (prun (pinit st) pre) op (fetched (prun (pinit st) ops).store) :=
  hist_was_marked st ops _ (reach_inv st ops).store_hist

/-- ghost-free reading: the pair occurs as the argument of a mark / reset of the sequence -/
theorem committed_was_marked_args (st : Option Pair) (ops : List POp) :
    ∀ c ∈ (prun (pinit st) ops).commits,
      c = fetched st ∨ POp.mark c.1 c.2 ∈ ops ∨ POp.reset c.1 c.2 ∈ ops := by
  intro c hc
  rcases committed_was_marked st ops c hc with h | ⟨pre, op, post, he, _, ha⟩
  · exact Or.inl h
  · right
    rcases ha with ⟨rfl, _⟩ | ⟨rfl, _⟩
    · left; rw [he]; simp
    · right; rw [he]; simp

-- a run in which two different pairs are committed, one of them marked inside a commit window
example :
    (prun (pinit (some (5, 1)))
      [.manage, .mark 7 2, .snap, .mark 9 3, .verdict .ok, .snap, .verdict .ok]).commits = [(9, 3), (7, 2)] := by
  decide +kernel

theorem mark_monotone (p : PState) (o m : Int) : p.offset ≤ (pstep p (.mark o m)).offset := by
  simp only [pstep]
  split
  · rename_i h; exact Int.le_of_lt h.2
  · exact Int.le_refl _

theorem reset_antitone (p : PState) (o m : Int) : (pstep p (.reset o m)).offset ≤ p.offset := by
  simp only [pstep]
  split
  · rename_i h; exact h.2
  · exact Int.le_refl _

/-- a mark that does not move the position forward changes nothing (in particular not the metadata) -/
theorem mark_rejected (p : PState) (o m : Int) (h : o ≤ p.offset) : pstep p (.mark o m) = p := by
  simp only [pstep]
  split
  · rename_i hc; exact absurd hc.2 (Int.not_lt.mpr h)
  · rfl

example : (pstep (prun (pinit none) [.manage, .mark 7 2]) (.mark 9 1)).offset = 9 ∧
          (pstep (prun (pinit none) [.manage, .mark 7 2]) (.mark 3 1)).offset = 7 ∧
          (pstep (prun (pinit none) [.manage, .mark 7 2]) (.reset 3 1)).offset = 3 ∧
          (pstep (prun (pinit none) [.manage, .mark 7 2]) (.reset 8 1)).offset = 7 := by decide +kernel

/-- NextOffset on a reachable partition with a pom object: the newest entry `c` of the position log (the
    pair fetched when the pom was created, or the last accepted mark / reset) if its offset is ≥ 0, the
    configured initial position and empty metadata otherwise -/
theorem next_offset_spec (st : Option Pair) (ops : List POp) (ini : Int)
    (hobj : (prun (pinit st) ops).obj = true) :
    ∃ c, (prun (pinit st) ops).hist.head? = some c ∧
      nextOffset (prun (pinit st) ops).offset (prun (pinit st) ops).md ini =
        if c.1 ≥ 0 then c else (ini, 0) :=
  ⟨_, (reach_inv st ops).hist_head hobj, rfl⟩

/-- a freshly created pom answers with the stored pair, or with the initial position when nothing is
    stored (the coordinator answers offset -1 then) -/
theorem next_offset_fresh (p : PState) (ini : Int) (hl : p.live = false) :
    nextOffset (pstep p .manage).offset (pstep p .manage).md ini =
      match p.store with
      | some c => if c.1 ≥ 0 then c else (ini, 0)
      | none => (ini, 0) := by
  simp only [pstep, hl, Bool.false_eq_true, ↓reduceIte, nextOffset, fetched]
  cases p.store with
  | none => simp
  | some c => simp

theorem next_offset_committer (p : PState) (op : POp) (ini : Int) (h : isCommitter op = true) :
    nextOffset (pstep p op).offset (pstep p op).md ini = nextOffset p.offset p.md ini := by
  rw [(committer_pending (p := p) h).1, (committer_pending (p := p) h).2.1]

example : nextOffset (prun (pinit none) [.manage]).offset (prun (pinit none) [.manage]).md (-2) = (-2, 0) ∧
          nextOffset (prun (pinit (some (4, 1))) [.manage]).offset (prun (pinit (some (4, 1))) [.manage]).md (-2) = (4, 1) ∧
          nextOffset (prun (pinit (some (4, 1))) [.manage, .mark 6 2, .snap, .verdict .fail]).offset
                     (prun (pinit (some (4, 1))) [.manage, .mark 6 2, .snap, .verdict .fail]).md (-2) = (6, 2) := by
  decide +kernel

/-- Whenever a partition's pom is not dirty, its pending pair is what the coordinator holds for the
    partition (what OffsetFetch would answer) — for every operation sequence. -/
theorem clean_means_stored (st : Option Pair) (ops : List POp)
    (hobj : (prun (pinit st) ops).obj = true) (hclean : (prun (pinit st) ops).dirty = false) :
    ((prun (pinit st) ops).offset, (prun (pinit st) ops).md) = fetched (prun (pinit st) ops).store :=
  (reach_inv st ops).clean_stored hobj hclean

theorem dirty_cleared_only_by_equal_commit (p : PState) (op : POp)
    (hd : p.dirty = true) (hc : (pstep p op).dirty = false) (hm : op ≠ .manage) :
    op = .verdict .ok ∧ p.inflight = some (p.offset, p.md) := by
  revert hc
  apply pstep_cases (motive := fun q => q.dirty = false → op = .verdict .ok ∧ p.inflight = some (p.offset, p.md)) p op
  case manage => exact fun e => absurd e hm
  case move => exact fun _ _ _ h => nomatch h
  case ok =>
    exact fun c e hi h => ⟨e, (updateCommitted_false_iff.mp h).elim (· ▸ hi) (fun e' => nomatch hd.symm.trans e')⟩
  all_goals intros; exact nomatch hd.symm.trans ‹_ = false›

example : (prun (pinit none) [.manage, .mark 7 2, .snap, .verdict .ok]).dirty = false ∧
          (prun (pinit none) [.manage, .mark 7 2, .snap, .verdict .ok]).store = some (7, 2) := by decide +kernel

/-- After the commit of the pending pair `(q.offset, q.md)` (the snapshot of a registered dirty partition),
    as long as no ResetOffset is accepted (and the partition is not thrown away by the forced release of
    `Close`), every later commit carries an offset that is at least the committed one, and the later commits
    are ordered among themselves (`new` is newest first) — for every operation sequence. -/
theorem commits_monotone_without_reset (q : PState) (hq : PInv q) (hlive : q.live = true)
    (hdirty : q.dirty = true) (ops : List POp)
    (hnr : NoAcceptedReset (pstep q .snap) ops) (hnf : ∀ op ∈ ops, op ≠ .release true) :
    ∃ new, (prun (pstep q .snap) ops).commits = new ++ (q.offset, q.md) :: q.commits ∧
      (∀ c ∈ new, q.offset ≤ c.1) ∧ List.Pairwise (fun a c => c.1 ≤ a.1) new := by
  have hs := snap_eq hlive hdirty
  have hanchor : Anchor q.offset (pstep q .snap) :=
    ⟨pinv_step hq _, hs ▸ hq.live_obj hlive, hs ▸ Int.le_refl _, .inl (hs ▸ hlive)⟩
  obtain ⟨new, h1, h2, h3⟩ := anchored_commits hanchor ops hnr hnf
  exact ⟨new, by rw [h1, hs], h2, h3⟩

-- the hypothesis "no forced release" is needed for the COMMIT log (not for the stored offset, see
-- `store_monotone_without_reset`): a pom thrown away dirty by `Close` and re-created from the store starts
-- again at the stored position, so its first commit can be below the failed commit of its predecessor
example : (prun (pinit none) [.manage, .mark 12 1, .snap, .verdict .fail, .aclose, .release true,
            .manage, .mark 6 2, .snap]).commits = [(6, 2), (12, 1)] := by decide +kernel

/-- The offset the coordinator stores never goes backwards along a run in which no ResetOffset is accepted,
    from every state in which the stored offset is not above what is in flight / pending (`Below`: true
    initially, `below_init`, and whenever the partition is clean, `below_of_clean`). -/
theorem store_monotone_without_reset (p : PState) (hp : PInv p) (hb : Below p) (ops : List POp)
    (hnr : NoAcceptedReset p ops) :
    (fetched p.store).1 ≤ (fetched (prun p ops).store).1 :=
  (below_run hp hb ops hnr).2

theorem store_monotone_from_start (st : Option Pair) (pre post : List POp)
    (hnr : NoAcceptedReset (pinit st) (pre ++ post)) :
    (fetched (prun (pinit st) pre).store).1 ≤ (fetched (prun (pinit st) (pre ++ post)).store).1 := by
  have h := noAcceptedReset_append hnr
  rw [prun_append]
  exact store_monotone_without_reset _ (reach_inv st pre) (below_run (pinv_init st) (below_init st) pre h.1).1 post h.2

-- the commit log is newest first; a ResetOffset above the position is not accepted (second example), an accepted
-- one takes the stored offset down (third)
example : (prun (pinit none) [.manage, .mark 7 1, .snap, .verdict .fail, .mark 9 2, .snap, .verdict .ok,
            .reset 9 3, .snap]).commits = [(9, 3), (9, 2), (7, 1)] := by decide +kernel
example : NoAcceptedReset (pstep (prun (pinit none) [.manage, .mark 7 1]) .snap)
            [.verdict .fail, .mark 9 2, .reset 12 1, .snap] :=
  ⟨nofun, nofun, fun _ _ h => by cases h; decide, nofun, trivial⟩
example : (prun (pinit none) [.manage, .mark 7 1, .snap, .verdict .ok, .reset 3 1, .snap, .verdict .ok]).store
            = some (3, 1) := by decide +kernel

/-- A MarkOffset accepted while a commit is in flight is not lost: whatever application calls `win` land
    between the snapshot and the end of the attempt, if they moved the position forward then — whatever the
    attempt's verdict, success included — the partition is still dirty afterwards and the next snapshot
    carries the pending pair (which is the last accepted mark, `PInv.hist_head`). -/
theorem no_lost_mark (q : PState) (hq : PInv q) (hlive : q.live = true)
    (win : List POp) (hwin : ∀ op ∈ win, op.isApp = true)
    (hmoved : q.offset < (prun (pstep q .snap) win).offset) (v : PVerdict) :
    (pstep (prun (pstep q .snap) win) (.verdict v)).dirty = true ∧
    (pstep (pstep (prun (pstep q .snap) win) (.verdict v)) .snap).inflight =
      some ((prun (pstep q .snap) win).offset, (prun (pstep q .snap) win).md) := by
  have hoff : (pstep q .snap).offset = q.offset := (committer_pending rfl).1
  have hf := app_run_frame (p := pstep q .snap) hwin
  -- the window moved the position, so it left the partition dirty
  have hwd : (prun (pstep q .snap) win).dirty = true :=
    hf.2.2.elim id fun e => absurd hmoved (by rw [e, hoff]; exact Int.lt_irrefl _)
  -- what is in flight is the old position, so the answer cannot clear the flag
  have hkept : (pstep (prun (pstep q .snap) win) (.verdict v)).dirty = true := by
    refine Bool.of_not_eq_false fun hc => ?_
    have : q.offset = (prun (pstep q .snap) win).offset :=
      congrArg Prod.fst (snap_pending hq hlive (hf.2.1 ▸ (dirty_cleared_only_by_equal_commit _ _ hwd hc nofun).2))
    exact Int.lt_irrefl _ (this ▸ hmoved)
  have hlive' : (pstep (prun (pstep q .snap) win) (.verdict v)).live = true := by
    rw [(verdict_frame ..).1, hf.1, snap_live, hlive]
  have hpos := committer_pending (p := prun (pstep q .snap) win) (op := .verdict v) rfl
  exact ⟨hkept, by rw [snap_eq hlive' hkept, hpos.1, hpos.2.1]⟩

/-- In every reachable state a registered partition is dirty or the coordinator holds exactly its pending pair:
    there is nothing between "will be committed again" and "is stored" (`clean_means_stored` read as a
    disjunction). -/
theorem no_lost_update (st : Option Pair) (ops : List POp) (hobj : (prun (pinit st) ops).obj = true) :
    (prun (pinit st) ops).dirty = true ∨
    ((prun (pinit st) ops).offset, (prun (pinit st) ops).md) = fetched (prun (pinit st) ops).store :=
  (Bool.eq_false_or_eq_true _).imp id (clean_means_stored st ops hobj)

-- mark 9 lands while the commit of 7 is in flight and succeeds; 9 is in the next request
example : (prun (pinit none) [.manage, .mark 7 1, .snap, .mark 9 2, .verdict .ok]).dirty = true ∧
          (prun (pinit none) [.manage, .mark 7 1, .snap, .mark 9 2, .verdict .ok]).store = some (7, 1) ∧
          (prun (pinit none) [.manage, .mark 7 1, .snap, .mark 9 2, .verdict .ok, .snap]).inflight = some (9, 2) := by
  decide +kernel

/-- The final flush of `Close` seen by one registered partition with nothing in flight: if the coordinator
    stores the block in at least one of the attempts (`ok`, or stored with the answer lost), then after
    `Close` the coordinator holds the pair that was pending when `Close` started — the last accepted mark /
    reset — and the partition is released; the position itself is untouched. -/
theorem close_flushes_latest_partition (p : PState) (hp : PInv p) (hlive : p.live = true)
    (hinfl : p.inflight = none) (vs : List PVerdict) (hacc : ∃ v ∈ vs, v ≠ PVerdict.fail) :
    fetched (closeP p vs).store = (p.offset, p.md) ∧ (closeP p vs).live = false ∧
      ((closeP p vs).offset, (closeP p vs).md) = (p.offset, p.md) := by
  have hstart := closing_start hp hlive hinfl
  have hl := closing_attempts hstart ((nonsnap_inflight nofun hinfl : (pstep p .acloseLive).inflight = none)) vs
  simp only [closeP]
  generalize vs.foldl closeAttemptP (pstep p .acloseLive) = r at hl ⊢
  obtain ⟨hfin, hi, hstored⟩ := hl
  -- the forced release: a closed partition with nothing in flight goes, position and store untouched
  have hrel : pstep r (.release true) = { r with live := false } ∨ (pstep r (.release true) = r ∧ r.live = false) := by
    simp only [pstep]
    split
    · exact .inl rfl
    · rename_i hg
      refine .inr ⟨rfl, Bool.eq_false_iff.mpr fun hrl => hg ⟨hrl, ?_, hi⟩⟩
      simp [releaseDue, hfin.done]
  rcases hrel with e | ⟨e, hrl⟩ <;> rw [e]
  · exact ⟨hstored (.inr hacc), rfl, hfin.pending⟩
  · exact ⟨hstored (.inr hacc), hrl, hfin.pending⟩

example : (closeP (prun (pinit (some (1, 0))) [.manage, .mark 7 1, .snap, .verdict .ok, .mark 9 2])
            [.fail, .ok, .fail]).store = some (9, 2) ∧
          (closeP (prun (pinit (some (1, 0))) [.manage, .mark 7 1, .snap, .verdict .ok, .mark 9 2])
            [.fail, .ok, .fail]).live = false := by decide +kernel
-- without an accepted attempt the mark does not reach the coordinator (the hypothesis is needed)
example : (closeP (prun (pinit (some (1, 0))) [.manage, .mark 7 1, .snap, .verdict .ok, .mark 9 2])
            [.fail, .fail]).store = some (7, 1) := by decide +kernel

theorem sys_reach_inv (sts : List (Option Pair)) (ops : List Op) : SInv (run (sinit sts) ops) :=
  sinv_run (sinv_init sts) ops

/-- Every partition of every system run is a partition-level run from the unmanaged state: the system adds
    no behaviour a partition could observe beyond the operation sequences the theorems about one partition quantify over. -/
theorem sys_partition_trace (sts : List (Option Pair)) (ops : List Op) (i : Nat) :
    (run (sinit sts) ops).parts[i]? =
      (sts[i]?).map (fun st => prun (pinit st) (projRun (sinit sts) i ops)) := by
  rw [run_parts]
  simp only [sinit, List.getElem?_map, Option.map_map]
  rfl

/-- committed_was_marked for the system: every pair in partition `i`'s commit log is the pair stored for it
    initially or the argument of a MarkOffset / ResetOffset call on partition `i` -/
theorem sys_committed_was_marked (sts : List (Option Pair)) (ops : List Op) (i : Nat) (p : PState)
    (hp : (run (sinit sts) ops).parts[i]? = some p) :
    ∃ st, sts[i]? = some st ∧
      ∀ c ∈ p.commits, c = fetched st ∨ Op.mark i c.1 c.2 ∈ ops ∨ Op.reset i c.1 c.2 ∈ ops := by
  rw [sys_partition_trace] at hp
  cases hst : sts[i]? with
  | none => simp [hst] at hp
  | some st =>
    simp only [hst, Option.map_some, Option.some.injEq] at hp
    refine ⟨st, rfl, fun c hc => ?_⟩
    rw [← hp] at hc
    exact (committed_was_marked_args st _ c hc).imp_right (Or.imp (projRun_app rfl) (projRun_app rfl))

/-- the blocks of the request `constructRequest` builds are the pending pairs of the registered dirty
    partitions, and each is logged as that partition's newest commit — so the theorems about the commit logs
    are theorems about the requests on the wire -/
theorem request_blocks_are_commits (s : Sys) (hs : SInv s) (hidle : s.active = false) (i : Nat) (p : PState)
    (hp : s.parts[i]? = some p) (c : Pair)
    (hb : (requestBlocks (stepSys s .construct))[i]? = some (some c)) :
    c = (p.offset, p.md) ∧ p.live = true ∧ p.dirty = true ∧
      ∃ q, (stepSys s .construct).parts[i]? = some q ∧ q.commits = c :: p.commits := by
  have hq : (stepSys s .construct).parts[i]? = some (pstep p .snap) := by
    rw [stepSys_parts, hp]; simp [proj, hidle]
  simp only [requestBlocks, List.getElem?_map, hq, Option.map_some, Option.some.injEq] at hb
  by_cases hg : p.live = true ∧ p.dirty = true
  · rw [snap_eq hg.1 hg.2] at hb hq
    cases hb
    exact ⟨rfl, hg.1, hg.2, _, hq, rfl⟩
  · -- no snapshot is taken, and nothing was in flight
    rw [snap_skip hg, hs.idle hidle p (List.mem_of_getElem? hp)] at hb
    cases hb

/-- … hence: every block of every commit request of every system run is the initially stored pair or the
    argument of a MarkOffset / ResetOffset call on that partition made before the request was built -/
theorem sys_request_blocks_marked (sts : List (Option Pair)) (ops : List Op)
    (hidle : (run (sinit sts) ops).active = false) (i : Nat) (c : Pair)
    (hb : (requestBlocks (stepSys (run (sinit sts) ops) .construct))[i]? = some (some c)) :
    ∃ st, sts[i]? = some st ∧ (c = fetched st ∨ Op.mark i c.1 c.2 ∈ ops ∨ Op.reset i c.1 c.2 ∈ ops) := by
  cases hp : (run (sinit sts) ops).parts[i]? with
  | none =>
    rw [requestBlocks, List.getElem?_map, stepSys_parts, hp] at hb
    cases hb
  | some p =>
    obtain ⟨_, _, _, q, hq, hcm⟩ := request_blocks_are_commits _ (sys_reach_inv sts ops) hidle i p hp c hb
    obtain ⟨st, hst, hall⟩ :=
      sys_committed_was_marked sts (ops ++ [.construct]) i q (by rw [run_append]; exact hq)
    have before {op : Op} (hne : op ≠ .construct) (h : op ∈ ops ++ [.construct]) : op ∈ ops :=
      (List.mem_append.mp h).elim id fun h' => absurd (List.mem_singleton.mp h') hne
    exact ⟨st, hst, (hall c (hcm ▸ List.mem_cons_self)).imp_right (Or.imp (before nofun) (before nofun))⟩

example :
    requestBlocks (run (sinit [none, some (5, 1)])
      [.manage 0, .manage 1, .mark 0 7 2, .mark 1 9 3, .reset 1 4 1, .construct]) = [some (7, 2), some (4, 1)] := by
  decide +kernel

/-- `Close()` with auto-commit on, from any reachable state with no request under way (the ticker loop has
    exited; a concurrent manual `Commit` is excluded by the property), no application call during `Close`:
    if among the `retryMax + 1` permitted final attempts there is one the coordinator accepts (lookup
    succeeds, NoError for every partition), then for every registered partition the coordinator holds, when
    `Close` returns, the pair that was pending when `Close` was called (the last accepted MarkOffset /
    ResetOffset: `PInv.hist_head`), and the partition is released. Earlier attempts may fail in any way. -/
theorem close_flushes_latest (s : Sys) (hs : SInv s) (hidle : s.active = false) (retryMax : Nat)
    (script : List Attempt) (hw : ∀ a ∈ script, a.win = [])
    (hacc : ∃ a ∈ script.take (retryMax + 1), Accepting s.parts.length a)
    (i : Nat) (p : PState) (hp : s.parts[i]? = some p) (hlive : p.live = true) :
    ∃ r, (run s (closeOps s true retryMax script)).parts[i]? = some r ∧
      fetched r.store = (p.offset, p.md) ∧ r.live = false ∧ (r.offset, r.md) = (p.offset, p.md) := by
  have hpinv := hs.parts p (List.mem_of_getElem? hp)
  have hinfl := hs.idle hidle p (List.mem_of_getElem? hp)
  -- the first step, asyncClosePOMs, puts partition `i` into `Closing`
  have hs0 : SInv (stepSys s .acloseAll) := sinv_step hs _
  have hidle0 : (stepSys s .acloseAll).active = false := hidle
  have hp0 : (stepSys s .acloseAll).parts[i]? = some (pstep p .acloseLive) := by
    rw [stepSys_parts, hp]; rfl
  have hcl0 := closing_start hpinv hlive hinfl
  have hw' : ∀ a ∈ script.take (retryMax + 1), a.win = [] := fun a ha => hw a (List.mem_of_mem_take ha)
  have hacc' : ∃ a ∈ script.take (retryMax + 1), Accepting (stepSys s .acloseAll).parts.length a := by
    rw [stepSys_length]; exact hacc
  obtain ⟨r, hr, hclr, hlr⟩ := closeLoop_flushes (pend := (p.offset, p.md)) i _ _ hs0 hidle0 hw' _ hp0 hcl0 (.inr hacc')
  refine ⟨r, ?_, (hclr.dead hlr).1, hlr, hclr.pending⟩
  -- the forced release and dropping the coordinator do not touch a released partition
  simp only [closeOps, ↓reduceIte, List.cons_append, List.nil_append, run]
  rw [run_append]
  simp only [run, stepSys_parts, hr, Option.map_some, Option.some.injEq]
  simp only [proj]
  split <;> simp [pstep, hlr]

-- two partitions: the first attempt loses the connection, second fails at lookup, third is accepted
example :
    (run (run (sinit [none, some (5, 1)]) [.manage 0, .manage 1, .mark 0 7 2, .mark 1 9 3])
      (closeOps (run (sinit [none, some (5, 1)]) [.manage 0, .manage 1, .mark 0 7 2, .mark 1 9 3]) true 2
        [⟨true, [], .connErr false⟩, ⟨false, [], .respond [.code 0, .code 0]⟩,
         ⟨true, [], .respond [.code 0, .code 0]⟩])).parts.map (·.store) = [some (7, 2), some (9, 3)] := by
  decide +kernel
-- with retryMax = 1 the accepted attempt is not reached: nothing is stored (the hypothesis is needed)
example :
    (run (run (sinit [none, some (5, 1)]) [.manage 0, .manage 1, .mark 0 7 2, .mark 1 9 3])
      (closeOps (run (sinit [none, some (5, 1)]) [.manage 0, .manage 1, .mark 0 7 2, .mark 1 9 3]) true 1
        [⟨true, [], .connErr false⟩, ⟨false, [], .respond [.code 0, .code 0]⟩,
         ⟨true, [], .respond [.code 0, .code 0]⟩])).parts.map (·.store) = [none, some (5, 1)] := by
  decide +kernel

/-- ManagePartition creates a pom (`fetchInitial = ok`) only from a fetch attempt that was answered with
    ErrNoError within the `retries + 1` permitted attempts (or after the fault script ran out, i.e. by a
    coordinator answering normally) — never from an attempt that failed. -/
theorem fetch_ok_is_answered_ok (b : Bool) (r : Nat) (script : List FetchAtt) (b' : Bool)
    (h : fetchInitial b r script = .ok b') :
    (∃ a ∈ script.take (r + 1), a.ans = .ok) ∨ script.length < r + 1 := by
  -- after a retry, what holds of the rest of the script holds of the script
  have retry {a : FetchAtt} {as : List FetchAtt} {r : Nat}
      (h : (∃ x ∈ as.take (r + 1), x.ans = .ok) ∨ as.length < r + 1) :
      (∃ x ∈ (a :: as).take (r + 1 + 1), x.ans = .ok) ∨ (a :: as).length < r + 1 + 1 :=
    h.imp (fun ⟨x, hx, hxo⟩ => ⟨x, List.mem_cons_of_mem _ hx, hxo⟩) Nat.succ_lt_succ
  -- the branches of `fetchInitial` in the order of its text: 1 the script has run out, 4 the answer is ErrNoError,
  -- 3 / 8 / 10 / 12 the retries (failed lookup, request error, not coordinator, offsets loading)
  fun_induction fetchInitial b r script
  case case1 => exact .inr (Nat.succ_pos _)
  case case4 a _ _ hans => exact .inl ⟨a, List.mem_cons_self, hans⟩
  case case3 ih | case8 ih | case10 ih | case12 ih => exact retry (ih h)
  -- the other ways out are failures
  all_goals cases h

/-- If each of the `retries + 1` permitted attempts of the initial fetch meets a retryable failure
    (coordinator moved, offsets loading, request error), ManagePartition returns an error: no pom exists, so
    no position other than a fetched one can ever be reported or committed. -/
theorem fetch_budget_exhausted_fails (b : Bool) (r : Nat) (script : List FetchAtt)
    (hlen : r + 1 ≤ script.length)
    (hall : ∀ a ∈ script.take (r + 1), a.ans = .notCoord ∨ a.ans = .loading ∨ a.ans = .reqErr) :
    ∃ e b', fetchInitial b r script = .fail e b' := by
  cases h : fetchInitial b r script with
  | fail e b' => exact ⟨e, b', rfl⟩
  | ok b' =>
    exfalso
    rcases fetch_ok_is_answered_ok b r script b' h with ⟨a, ha, hok⟩ | hl
    · rcases hall a ha with h1 | h1 | h1 <;> rw [hok] at h1 <;> exact absurd h1 (by decide)
    · omega

example : fetchInitial false 2 [⟨true, .loading⟩, ⟨true, .notCoord⟩, ⟨false, .ok⟩] = .fail .lookup false ∧
          fetchInitial false 2 [⟨true, .loading⟩, ⟨true, .notCoord⟩, ⟨true, .ok⟩] = .ok true ∧
          fetchInitial true 1 [⟨true, .loading⟩, ⟨true, .reqErr⟩, ⟨true, .ok⟩] = .fail .io true := by decide +kernel

end Props.C06
