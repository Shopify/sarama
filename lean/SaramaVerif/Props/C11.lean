import SaramaVerif.Lemmas.C11Resp
/-
  C11 — read-committed consumers never see aborted or control records.

  `L : List LUnit` is an arbitrary transactional partition log (several producers, overlapping transactions,
  the same producer aborting and committing in turn, non-transactional batches and legacy messages in between),
  well-formed (`LogWF`, `BaseWF`).  Ground truth (`Model.Txn.keepRC`): a transactional data batch is hidden
  from a read-committed consumer iff the first control batch of its producer after it is an abort marker;
  control batches are never visible.  A response is `FaithfulTxnData`: a run of consecutive units of the log that
  begins with the first unit reaching the asked offset (any fetch boundary, any start offset – also inside a
  transaction), with an aborted-transaction index that is `FaithfulIndex` for the fetched range: membership
  only, i.e. in ANY order (every permutation), with or without duplicates or later transactions.
-/
namespace Props.C11
open Model.ConsumerParse Model.Txn Lemmas.C03 Lemmas.C11

/-- the index hypothesis of the theorems below is satisfiable for all inputs -/
theorem faithful_index_exists (L : List LUnit) (o hiEnd : Int) : ∃ idx, FaithfulIndex L o hiEnd idx :=
  ⟨brokerIndex L o hiEnd, brokerIndex_faithful L o hiEnd⟩

theorem faithfulIndex_perm {L : List LUnit} {o hiEnd : Int} {idx idx' : List (Int × Int)} (hp : idx.Perm idx')
    (h : FaithfulIndex L o hiEnd idx) : FaithfulIndex L o hiEnd idx' :=
  ⟨fun p f m a b c => hp.mem_iff.1 (h.1 p f m a b c), fun p f hin hle => h.2 p f (hp.mem_iff.2 hin) hle⟩

theorem visibleIso_mem (rc tsw : Bool) (m : SRec) (L : List LUnit) : m ∈ visibleIso rc tsw L ↔
    ∃ A u S, L = A ++ u :: S ∧ keepIso rc u S = true ∧ m ∈ unitRecs tsw u := by
  induction L with
  | nil => exact ⟨fun h => absurd h List.not_mem_nil, fun ⟨A, _, _, h, _⟩ => by cases A <;> cases h⟩
  | cons u us ih =>
    rw [visibleIso, annot, List.flatMap_cons, List.mem_append, ← visibleIso, ih]
    constructor
    · rintro (h | ⟨A, v, S, hL, hk, hm⟩)
      · split at h
        · exact ⟨[], u, us, rfl, ‹_›, h⟩
        · cases h
      · exact ⟨u :: A, v, S, congrArg (u :: ·) hL, hk, hm⟩
    · rintro ⟨A, v, S, hL, hk, hm⟩
      cases A with
      | nil =>
        cases hL
        exact .inl (by rw [if_pos hk]; exact hm)
      | cons a A' => exact .inr ⟨A', v, S, (List.cons.inj hL).2, hk, hm⟩

theorem visibleIso_uncommitted (tsw : Bool) : ∀ (L : List LUnit), visibleIso false tsw L = visible tsw L :=
  Lemmas.C03.visibleIso_uncommitted tsw

/-- One response: for every well-formed transactional log, every asked offset (also
    inside a transaction), every fetch boundary and every faithful aborted-transaction index in any order: the
    messages handed over are exactly the read-committed-visible records of the log between the asked and the next
    offset – every record of committed transactions and of non-transactional batches, no record of an aborted
    transaction, no control record – the next offset is strictly larger and the verdict is ok.  (That the next offset
    has passed every record of the response is in `resp_iso`.) -/
theorem read_committed_exact (cfg : Cfg) (hrc : cfg.readCommitted = true) (L : List LUnit) (b0 : Int) (st : PState)
    (es : List Entry) (pt : Bool) (idx : List (Int × Int))
    (hwf : LogWF cfg.tsFromWrapper b0 L) (hbase : BaseWF L) (hf : FaithfulTxnData L st.offset es idx)
    (hn : nRecs es ≠ 0) :
    (parseBlock cfg st (.data es pt idx)).1 =
      window st.offset (parseBlock cfg st (.data es pt idx)).2.1.offset (visibleIso true cfg.tsFromWrapper L) ∧
    st.offset < (parseBlock cfg st (.data es pt idx)).2.1.offset ∧
    (parseBlock cfg st (.data es pt idx)).2.2 = .ok :=
  have ⟨r1, r2, r3, _, _⟩ := resp_rc cfg hrc L b0 st es pt idx hwf hbase hf hn
  ⟨r1, r2, r3⟩

theorem read_committed_exact_perm (cfg : Cfg) (hrc : cfg.readCommitted = true) (L : List LUnit) (b0 : Int) (st : PState)
    (es : List Entry) (pt : Bool) (idx idx' : List (Int × Int)) (hperm : idx.Perm idx')
    (hwf : LogWF cfg.tsFromWrapper b0 L) (hbase : BaseWF L) (hf : FaithfulTxnData L st.offset es idx)
    (hn : nRecs es ≠ 0) :
    (parseBlock cfg st (.data es pt idx')).1 = (parseBlock cfg st (.data es pt idx)).1 ∧
    (parseBlock cfg st (.data es pt idx')).2.1 = (parseBlock cfg st (.data es pt idx)).2.1 := by
  have hf' : FaithfulTxnData L st.offset es idx' :=
    ⟨hf.1, hf.2.1, hf.2.2.imp fun _ h => ⟨h.1, faithfulIndex_perm hperm h.2⟩⟩
  have ⟨a1, _⟩ := resp_rc cfg hrc L b0 st es pt idx hwf hbase hf hn
  have ⟨b1, _⟩ := resp_rc cfg hrc L b0 st es pt idx' hwf hbase hf' hn
  -- both are the window [asked, next) of the same list, and the next offset does not depend on the index
  -- (`parseBlock_snd` at the configured level: `{ cfg with readCommitted := cfg.readCommitted }` is `cfg`)
  have hsnd : (parseBlock cfg st (.data es pt idx')).2 = (parseBlock cfg st (.data es pt idx)).2 :=
    parseBlock_snd cfg cfg.readCommitted st es pt idx' idx
  exact ⟨by rw [a1, b1, hsnd], congrArg (·.1) hsnd⟩

theorem step_window_iso (cfg : Cfg) (L : List LUnit) (b0 : Int) (hwf : LogWF cfg.tsFromWrapper b0 L) (hbase : BaseWF L)
    (st : PState) (b : Block) (hf : FaithfulTxnResp cfg L st b) :
    (parseBlock cfg st b).1 =
      window st.offset (parseBlock cfg st b).2.1.offset (visibleIso cfg.readCommitted cfg.tsFromWrapper L) ∧
    st.offset ≤ (parseBlock cfg st b).2.1.offset := by
  refine step_window_of cfg _ st b (fun es ab e => ?_) fun hp => ?_
  · subst e; exact hf.2 rfl
  · cases b with
    | data es pt idx =>
      have ⟨r1, r2, _⟩ := resp_iso cfg L b0 st es pt idx hwf hbase hf.1 (of_decide_eq_true hp)
      exact ⟨r1, r2⟩
    | _ => cases hp

/-- `read_committed_exact` along whole histories: for every well-formed transactional log, every start offset `S`
    and every history of faithful responses (errors, throttled, partial data, any fetch boundaries, any faithful
    index order), everything delivered is exactly the part of the log visible under the configured isolation
    level between `S` and the next offset: with ReadCommitted all records of committed transactions and of
    non-transactional batches, none of an aborted transaction; never a control record -/
theorem read_committed_exact_history (cfg : Cfg) (L : List LUnit) (b0 S fs : Int) (bs : List Block)
    (hwf : LogWF cfg.tsFromWrapper b0 L) (hbase : BaseWF L) (hf : FaithfulTxnHist cfg L ⟨S, fs⟩ bs) :
    (run cfg ⟨S, fs⟩ bs).1 =
      window S (run cfg ⟨S, fs⟩ bs).2.offset (visibleIso cfg.readCommitted cfg.tsFromWrapper L) ∧
    S ≤ (run cfg ⟨S, fs⟩ bs).2.offset :=
  hist_window cfg _ b0 (visibleIso_asc _ _ hwf) (FaithfulTxnHist cfg L)
    (fun st b _ h => ⟨step_window_iso cfg L b0 hwf hbase st b h.1, h.2⟩) bs ⟨S, fs⟩ hf

/-- At either isolation level no delivered message stems from a control
    batch (every delivered message is a record of a non-control unit of the log), yet the next offset lies
    beyond every record of the response – the commit / abort markers included -/
theorem control_never_delivered_but_advances (cfg : Cfg) (L : List LUnit) (b0 : Int) (st : PState)
    (es : List Entry) (pt : Bool) (idx : List (Int × Int))
    (hwf : LogWF cfg.tsFromWrapper b0 L) (hbase : BaseWF L) (hf : FaithfulTxnData L st.offset es idx)
    (hn : nRecs es ≠ 0) :
    (∀ m ∈ (parseBlock cfg st (.data es pt idx)).1,
       ∃ u ∈ L, unitIsControl u = false ∧ m ∈ unitRecs cfg.tsFromWrapper u) ∧
    (∀ b, Entry.batch b ∈ es → b.control = true → ∀ r ∈ batchRecs b,
       r.off < (parseBlock cfg st (.data es pt idx)).2.1.offset) := by
  have ⟨hwin, _, _, _, hpass⟩ := resp_iso cfg L b0 st es pt idx hwf hbase hf hn
  refine ⟨fun m hm => ?_, fun b hb _ => hpass (.batch b) hb⟩
  rw [hwin] at hm
  obtain ⟨A, u, S, hL, hk, hmu⟩ := (visibleIso_mem _ _ m L).1 (List.mem_filter.1 hm).1
  refine ⟨u, by rw [hL]; simp, ?_, hmu⟩
  -- a control batch is kept at neither isolation level
  cases u with
  | blk _ => rfl
  | bat b =>
    cases hrc : cfg.readCommitted <;> simp only [hrc, keepIso, keepRC, unitIsControl] at hk ⊢
    · simpa using hk
    · cases hc : b.control
      · rfl
      · simp [hc] at hk

/-- A transactional batch of the response whose transaction is not aborted
    (the first control batch of its producer after it is not an abort marker) has all its records from the asked
    offset on delivered – also when the same producer id aborted an earlier transaction that is listed in the index -/
theorem pid_reuse_after_abort (cfg : Cfg) (hrc : cfg.readCommitted = true) (L : List LUnit) (b0 : Int) (st : PState)
    (es : List Entry) (pt : Bool) (idx : List (Int × Int))
    (hwf : LogWF cfg.tsFromWrapper b0 L) (hbase : BaseWF L) (hf : FaithfulTxnData L st.offset es idx)
    (hn : nRecs es ≠ 0) (A S : List LUnit) (b : Batch) (hL : L = A ++ LUnit.bat b :: S) (hb : Entry.batch b ∈ es)
    (hkeep : keepRC (LUnit.bat b) S = true) :
    ∀ m ∈ batchRecs b, st.offset ≤ m.off → m ∈ (parseBlock cfg st (.data es pt idx)).1 := by
  intro m hm hge
  have ⟨r1, _, _, _, r5⟩ := resp_rc cfg hrc L b0 st es pt idx hwf hbase hf hn
  rw [r1]
  simp only [window, List.mem_filter, decide_eq_true_eq]
  refine ⟨(visibleIso_mem true _ m L).2 ⟨A, LUnit.bat b, S, hL, by simpa [keepIso] using hkeep, hm⟩, hge, ?_⟩
  exact r5 (.batch b) hb m hm

/-- With ReadUncommitted every data record of the fetched range is delivered, whatever
    the outcome of its transaction and whatever the index says; control records are not -/
theorem read_uncommitted_all_data (cfg : Cfg) (hru : cfg.readCommitted = false) (L : List LUnit) (b0 : Int) (st : PState)
    (es : List Entry) (pt : Bool) (idx : List (Int × Int))
    (hwf : LogWF cfg.tsFromWrapper b0 L) (hf : FaithfulData L st.offset es) (hn : nRecs es ≠ 0) :
    (parseBlock cfg st (.data es pt idx)).1 =
      window st.offset (parseBlock cfg st (.data es pt idx)).2.1.offset (visible cfg.tsFromWrapper L) ∧
    st.offset < (parseBlock cfg st (.data es pt idx)).2.1.offset :=
  have ⟨r1, r2, _⟩ := resp_static cfg L b0 st es pt idx hwf hf (.inl hru) hn
  ⟨r1, r2⟩

section Examples
private def r (d : Int) : Rec := ⟨d, "k", "v", "-", 0⟩
private def dat (base ld pid : Int) (txn : Bool) (recs : List Rec) : Batch :=
  ⟨base, ld, recs, false, .unknown, txn, pid, false, 1000, 1000⟩
private def mk (base pid : Int) (c : Ctl) : Batch := ⟨base, 0, [r 0], true, c, true, pid, false, 1000, 1000⟩
private def d7a := dat 0 1 7 true [r 0, r 1]
private def d8 := dat 2 0 8 true [r 0]
private def ab7 := mk 3 7 .abort
private def d7b := dat 4 0 7 true [r 0]
private def c8 := mk 5 8 .commit
private def c7 := mk 6 7 .commit
private def pl := dat 7 0 (-1) false [r 0]
/-- producer 7 aborts a transaction (offsets 0-1, marker 3) and then commits another one (offset 4, marker 6);
    producer 8's transaction (offset 2, marker 5) overlaps both; a non-transactional batch follows -/
private def exL : List LUnit := [.bat d7a, .bat d8, .bat ab7, .bat d7b, .bat c8, .bat c7, .bat pl]
private def cfgRC : Cfg := ⟨100, 0, true, false⟩

example : LogWF cfgRC.tsFromWrapper (-1) exL := by decide +kernel
example : BaseWF exL := baseWF_of_batches (by decide +kernel) (by decide +kernel)
/-- the broker's index for the three fetches of `hist` below: at 1 ending at 2, at 3 ending at 5, at 6 ending at 7 -/
example : brokerIndex exL 1 2 = [(7, 0)] ∧ brokerIndex exL 3 5 = [(7, 0)] ∧ brokerIndex exL 6 7 = [] := by decide +kernel
/-- three fetches, the first one starting inside the aborted transaction, boundaries inside transactions -/
private def hist : List Block :=
  [.data [.batch d7a, .batch d8] false (brokerIndex exL 1 2),
   .data [.batch ab7, .batch d7b, .batch c8] false (brokerIndex exL 3 5),
   .data [.batch c7, .batch pl] true (brokerIndex exL 6 7)]
private theorem txnData_of {L : List LUnit} {o : Int} {es : List Entry} {idx : List (Int × Int)} (hiEnd : Int)
    (hf : FaithfulData L o es) (hes : ∀ b ∈ batches (es.flatMap entryUnits), b.recs ≠ [] ∧ batchLast b ≤ hiEnd)
    (hidx : FaithfulIndex L o hiEnd idx) : FaithfulTxnData L o es idx :=
  have hb {b} (h : Entry.batch b ∈ es) := hes b (mem_batches.2 (mem_units_bat.2 h))
  ⟨hf, fun _ h => (hb h).1, hiEnd, fun _ h => (hb h).2, hidx⟩

example : FaithfulTxnHist cfgRC exL ⟨1, 100⟩ hist :=
  ⟨⟨txnData_of 2 (faithfulData_of [] [.bat ab7, .bat d7b, .bat c8, .bat c7, .bat pl] rfl (by decide) (by decide)
        (by decide)) (by decide) (brokerIndex_faithful exL 1 2), by decide⟩,
    ⟨txnData_of 5 (faithfulData_of [.bat d7a, .bat d8] [.bat c7, .bat pl] rfl (by decide) (by decide) (by decide))
        (by decide) (brokerIndex_faithful exL 3 5), by decide⟩,
    ⟨txnData_of 7 (faithfulData_of [.bat d7a, .bat d8, .bat ab7, .bat d7b, .bat c8] [] rfl (by decide) (by decide)
        (by decide)) (by decide) (brokerIndex_faithful exL 6 7), by decide⟩, trivial⟩
/-- delivered: producer 8's committed record (2), producer 7's committed record (4) – its aborted records 0-1 are
    not delivered, although the same producer id is reused – and the plain record (7); next offset 8 -/
example : ((run cfgRC ⟨1, 100⟩ hist).1.map (·.off), (run cfgRC ⟨1, 100⟩ hist).2) = ([2, 4, 7], ⟨8, 100⟩) := by decide +kernel
/-- read-uncommitted sees the aborted record 1 as well -/
example : (run ⟨100, 0, false, false⟩ ⟨1, 100⟩ hist).1.map (·.off) = [1, 2, 4, 7] := by decide +kernel
/-- the order of the index does not matter (two aborted transactions listed in either order) -/
example : (parseBlock cfgRC ⟨0, 100⟩ (.data [.batch d7a, .batch d8, .batch ab7, .batch d7b] false [(8, 2), (7, 0)])).1 =
          (parseBlock cfgRC ⟨0, 100⟩ (.data [.batch d7a, .batch d8, .batch ab7, .batch d7b] false [(7, 0), (8, 2)])).1 := by decide +kernel
end Examples

end Props.C11
