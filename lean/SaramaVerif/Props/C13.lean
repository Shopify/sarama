import SaramaVerif.Lemmas.C13Range
import SaramaVerif.Lemmas.C13RR
import SaramaVerif.Lemmas.C13Sticky
/-
  C13 — assignments are balanced, and the sticky strategy is sticky.
-/
namespace Props.C13
open Model.Balance

/-- For ANY bounds satisfying the relational spec: every slice has ⌊n/m⌋ or ⌈n/m⌉ partitions (never one less or
    one more, also when m divides n), any two slices differ by at most one, and a slice is a contiguous run of
    the topic's partition list. -/
theorem range_sizes (n m : Nat) (r : Nat → Nat) (hb : RangeBoundary n m r) (ps : List Int) (hn : ps.length = n)
    (i : Nat) (hi : i < m) :
    n / m ≤ (slice r ps i).length ∧ (slice r ps i).length ≤ (n + m - 1) / m ∧
    (∀ j, j < m → (slice r ps i).length ≤ (slice r ps j).length + 1) ∧
    isRun ps (slice r ps i) = true := by
  have hm : 0 < m := Nat.zero_lt_of_lt hi
  have hsz := hb.size_bounds hi
  rw [slice_length hb hn hi]
  refine ⟨?_, ?_, fun j hj => slice_length hb hn hj ▸ hb.size_diff hi hj, slice_isRun hb hn hi⟩
  · apply Nat.le_of_lt_succ
    rw [Nat.div_lt_iff_lt_mul hm, Nat.succ_mul]
    exact hsz.2
  · rw [Nat.le_div_iff_mul_le hm]
    exact Nat.le_sub_one_of_lt hsz.1

/-- plan level: for a topic whose subscriber list has no duplicate, the member at position k of the list holds
    exactly slice k — so the subscribers of the topic hold contiguous runs whose sizes differ by at most one —
    whatever the iteration order of the members-by-topic map and whatever the other topics do. -/
theorem range_plan_sizes (ts : Topics) (mbt : AL Member) (r : Topic → Nat → Nat) (t : Topic) (ms : List Member)
    (hk : (AL.keys mbt).Nodup) (hmem : (t, ms) ∈ mbt) (hms : ms.Nodup)
    (hb : RangeBoundary (partsOf ts t).length ms.length (r t)) :
    ∀ k (hk1 : k < ms.length),
      heldOf (rangePlan r ts mbt []) ms[k] t = slice (r t) (partsOf ts t) k ∧
      isRun (partsOf ts t) (heldOf (rangePlan r ts mbt []) ms[k] t) = true ∧
      ∀ k' (hk2 : k' < ms.length),
        (heldOf (rangePlan r ts mbt []) ms[k] t).length ≤ (heldOf (rangePlan r ts mbt []) ms[k'] t).length + 1 := by
  intro k hk1
  have hheld : ∀ k (h : k < ms.length), heldOf (rangePlan r ts mbt []) ms[k] t = slice (r t) (partsOf ts t) k := by
    intro k h
    exact (heldOf_rangePlan r ts t ms[k] ms k hms (List.getElem?_eq_getElem h) mbt [] hk hmem).trans
      (List.nil_append _)
  have hs := range_sizes _ _ (r t) hb (partsOf ts t) rfl k hk1
  refine ⟨hheld k hk1, ?_, ?_⟩
  · rw [hheld k hk1]; exact hs.2.2.2
  · intro k' hk2
    rw [hheld k hk1, hheld k' hk2]
    exact hs.2.2.1 k' hk2

/-- the divisible case (6 partitions, 3 members: all sizes exactly 2), bounds the relation rejects, and a plan at
    an exact half point -/
example : RangeBoundary 6 3 (fun i => [0, 2, 4, 6].getD i 0) := (rangeBoundaryB_iff _ _ _).mp (by decide)
example : ¬ RangeBoundary 6 3 (fun i => [0, 1, 4, 6].getD i 0) := fun h => by
  have := (rangeBoundaryB_iff _ _ _).mpr h; revert this; decide
example : rangeTopicOK [(1, [0]), (2, [0])] (rangePlan (fun _ i => [0, 3, 5].getD i 0) [(0, [0, 1, 2, 3, 4])] [(0, [2, 1])] [])
    0 [0, 1, 2, 3, 4] = true := by decide +kernel

/-- when every member has every topic that occurs, the cursor never skips: the member at position k of `ms` gets
    ⌊L/n⌋ partitions plus one if k < L mod n; so totals differ by at most one.  For every member order (the code
    sorts by memberID) and every order of the L topic partitions. -/
theorem rr_identical_subs_diff_le_one (ms : Members) (tps : List TP) (hne : ms ≠ [])
    (hids : (ms.map (·.1)).Nodup)
    (hall : ∀ e, e ∈ ms → ∀ tp, tp ∈ tps → e.2.contains tp.1 = true) :
    ∃ plan, rrPlan ms false tps = .plan plan ∧
      (∀ k (hk : k < ms.length), size plan (ms[k]).1 = rrShare ms.length tps.length k) ∧
      spreadLE1 ms plan = true := by
  have hlen : 0 < ms.length := List.length_pos_iff.mpr hne
  obtain ⟨e0, he0⟩ := List.exists_mem_of_ne_nil ms hne
  obtain ⟨plan, hl⟩ := rrLoop_some ms tps (fun tp htp => List.any_eq_true.mpr ⟨e0, he0, hall e0 he0 tp htp⟩) 0 []
  have hsize : ∀ k (hk : k < ms.length), size plan (ms[k]).1 = rrShare ms.length tps.length k := fun k hk => by
    rw [rrLoop_identical ms hne _ tps 0 [] plan hall hl, rrVisits_eq_hits hids hk, rrHits_zero hlen hk]
    exact Nat.zero_add _
  refine ⟨plan, (rrPlan_eq_plan hne tps plan).mpr hl, hsize, ?_⟩
  unfold spreadLE1
  simp only [List.all_eq_true, decide_eq_true_eq]
  intro x hx y hy
  obtain ⟨k, hk, rfl⟩ := List.getElem_of_mem hx
  obtain ⟨k', hk', rfl⟩ := List.getElem_of_mem hy
  rw [hsize k hk, hsize k' hk']
  exact rrShare_le ..

theorem identicalSubs_all (ms : Members) (tps : List TP) (hi : identicalSubs ms = true)
    (hsub : ∀ tp, tp ∈ tps → hasSubscriber ms tp.1 = true) :
    ∀ e, e ∈ ms → ∀ tp, tp ∈ tps → e.2.contains tp.1 = true := by
  intro e he tp htp
  cases ms with
  | nil => cases he
  | cons e0 rest =>
    simp only [identicalSubs, List.all_eq_true, sameSet, Bool.and_eq_true] at hi
    obtain ⟨e', he', ht⟩ := hasSubscriber_iff.mp (hsub tp htp)
    -- e' has the topic, so the head has it, so e has it
    exact (hi e he).2 tp.1 (List.contains_iff_mem.mp ((hi e' he').1 tp.1 ht))

/-- 3 members with the same two topics (listed in different orders), 7 topic partitions: 3,2,2 -/
example : rrPlan [(1, [0, 1]), (2, [1, 0]), (3, [0, 1])] false
      [(0, 0), (0, 1), (0, 2), (0, 3), (1, 0), (1, 1), (1, 2)] =
    .plan [(1, [(0, 0), (0, 3), (1, 2)]), (2, [(0, 1), (1, 0)]), (3, [(0, 2), (1, 1)])] := by decide +kernel

/-- the statement cannot be strengthened to "any two members with equal subscriptions differ by at most one":
    members 1 and 3 both have topics {1,3,5,7}, member 2 has {2,4,6}; one partition each; member 1 gets 1, member 3
    gets 3 (this is Kafka's round-robin behaviour as well, not a defect of the Go code). -/
example : rrPlan [(1, [1, 3, 5, 7]), (2, [2, 4, 6]), (3, [1, 3, 5, 7])] false
      [(1, 0), (2, 0), (3, 0), (4, 0), (5, 0), (6, 0), (7, 0)] =
    .plan [(1, [(1, 0)]), (2, [(2, 0), (4, 0), (6, 0)]), (3, [(3, 0), (5, 0), (7, 0)])] := by decide +kernel

/-- Soundness of `isBalanced` (the test that stops `performReassignments`): on a working assignment with pairwise
    disjoint duplicate-free lists in which everybody holds only what it may hold (the invariant `sticky_invariant`
    of C08 provides exactly that), a `true` answer implies Kafka's balance criterion: a member holding a partition
    another member could take has at most one partition more than that member. -/
theorem sticky_isBalanced_sound (cur pot : Asg) (hone : ∀ p, AL.countAll cur p ≤ 1)
    (hholds : PlanAll (fun m tp => tp ∈ AL.get pot m) cur) (hb : isBalanced cur pot = true) :
    ∀ a b, a ∈ AL.keys cur → b ∈ AL.keys cur → a ≠ b →
      ∀ p, p ∈ AL.get cur a → p ∈ AL.get pot b → sizeIn cur a ≤ sizeIn cur b + 1 := by
  intro a b ha hb' hab p hpa hpb
  have hma := AL.mem_of_mem_keys ha
  have hmb := AL.mem_of_mem_keys hb'
  have hha := holderIn_eq (hone p) hma hpa
  unfold sizeIn
  unfold isBalanced at hb
  rcases Bool.or_eq_true_iff.mp hb with h | h
  · exact Nat.le_trans (size_le_maxSize hma)
      (Nat.le_trans (of_decide_eq_true h) (Nat.add_le_add_right (minSize_le_size hmb) 1))
  · -- p is not held by b (lists are disjoint and a ≠ b)
    have hnb : p ∉ AL.get cur b := fun hpb' =>
      hab (Option.some.inj (hha.symm.trans (holderIn_eq (hone p) hmb hpb')))
    rcases Bool.or_eq_true_iff.mp (List.all_eq_true.mp h _ hmb) with hfull | hrest
    · -- b holds as many partitions as it may hold at all, so it holds p: contradiction
      have hbn : (AL.get cur b).Nodup :=
        List.nodup_iff_count.mpr fun x => Nat.le_trans (AL.count_le_countAll hmb) (hone x)
      exact absurd (nodup_subset_of_length_le _ _ hbn (hholds _ hmb)
        (Nat.le_of_eq (of_decide_eq_true hfull).symm) p hpb) hnb
    · rcases Bool.or_eq_true_iff.mp (List.all_eq_true.mp hrest p hpb) with hc | hsz
      · exact absurd (List.contains_iff_mem.mp hc) hnb
      · unfold holderSize at hsz
        rw [hha] at hsz
        exact Nat.le_succ_of_le (Nat.not_lt.mp (of_decide_eq_false ((Bool.not_eq_true' _).mp hsz)))

/-- sizes 3/1 with the big member holding a partition the small one could take: the test says no;
    sizes 2/2: yes -/
example : isBalanced [(1, [(0, 0), (0, 1), (0, 2)]), (2, [(0, 3)])]
    [(1, [(0, 0), (0, 1), (0, 2), (0, 3)]), (2, [(0, 0), (0, 1), (0, 2), (0, 3)])] = false := by decide +kernel
example : isBalanced [(1, [(0, 0), (0, 1)]), (2, [(0, 3), (0, 2)])]
    [(1, [(0, 0), (0, 1), (0, 2), (0, 3)]), (2, [(0, 0), (0, 1), (0, 2), (0, 3)])] = true := by decide +kernel

/-- When the "better suited consumer" branch is not enabled for a reassignable partition `p` (for no
    choice of the partition actually moved), then either the balance test passes or the holder of `p` has at most one
    partition more than every member that could take `p` — i.e. a state in which `performReassignments` makes a full
    pass without a move is locally balanced in Kafka's sense. -/
theorem sticky_fixpoint_balanced (v : Variant) (env : SEnv) (st : SState) (hs : st.snap.isSome = true)
    (hr : st.reverted = false) (p : TP) (hp : env.reassignable.contains p = true) (c new : Member)
    (hc : ownerGet st.owner p = some c) (hnew : newConsumerFor st.cur env.pot p = some new)
    (hno : ∀ q, Model.Balance.guard v env st (.moveOther p q) = false) :
    isBalanced st.cur env.pot = true ∨
      ∀ o, o ∈ consumersOf env.pot p → sizeIn st.cur c ≤ sizeIn st.cur o + 1 := by
  cases hb : isBalanced st.cur env.pot with
  | true => exact Or.inl rfl
  | false =>
    right
    intro o ho
    apply Nat.le_of_not_lt
    intro hlt
    obtain ⟨q, hq⟩ := exists_actualOK st.moves p c new
    have := hno q
    -- every conjunct of the guard is true by a hypothesis except the `any` over `consumersOf`, so that one is false
    simp only [Model.Balance.guard, hs, hr, hp, hb, hc, hnew, hq, Bool.not_false, Bool.true_and, Bool.and_true,
      List.any_eq_false, decide_eq_false_iff_not, Bool.not_eq_true] at this
    have h2 := this o ho
    simp only [gt_iff_lt] at h2
    omega

/-- while the balance test passes nothing moves (both variants); without a move nothing is reverted either:
    `Model.Balance.revert_needs_move` (Lemmas/C13Sticky) -/
theorem sticky_balanced_blocks_moves (v : Variant) (env : SEnv) (st : SState)
    (hb : isBalanced st.cur env.pot = true) (p q : TP) :
    Model.Balance.guard v env st (.movePrev p q) = false ∧ Model.Balance.guard v env st (.moveOther p q) = false :=
  balanced_blocks_moves v env st hb p q

/-- Planning again changes nothing, under explicit hypotheses: the working assignment `st0.cur` (= what the members
    report, after the filter loop of `Plan`) leaves nothing unassigned that somebody could take (`hcomplete`: the
    unassigned loop finds no takers), and once the members that cannot take part are parked (any set `ps` the guards
    allow) the balance test passes.  Then the run cannot contain any further operation — no move, no revert — and
    the plan assembled at the end gives every member exactly the list it had.  Both variants. -/
theorem replan_is_identity (v : Variant) (env : SEnv) (st0 : SState)
    (h0 : st0.fixed = []) (h0r : st0.reverted = false) (hnd : (AL.keys st0.cur).Nodup)
    (us : List TP) (hcomplete : ∀ u, u ∈ us → consumersOf env.pot u = [])
    (ps : List Member) (rest : List SOp) (st : SState)
    (hrun : runOps v env st0 (.assignAll us :: (ps.map .park ++ .snapshot :: rest)) = some st)
    (hbal : isBalanced (ps.foldl AL.erase st0.cur) env.pot = true) :
    rest = [] ∧ ∀ m, AL.get (finish v st) m = AL.get st0.cur m := by
  obtain ⟨_, hrun⟩ := runOps_cons_some hrun
  have hst1 : Model.Balance.apply v env st0 (.assignAll us) = { st0 with assigned := true } := by
    simp only [Model.Balance.apply, assignFold_noop env us (st0.cur, st0.owner) hcomplete]
  rw [hst1] at hrun
  obtain ⟨stp, hrun, hcur, hrev, hass, hmap⟩ := run_parks v env (.snapshot :: rest) ps _ st
    (by rw [h0]; exact (List.append_nil _).symm ▸ hnd) hrun
  obtain ⟨_, hrun⟩ := runOps_cons_some hrun
  cases rest with
  | cons op r =>
    have := closed_after_snapshot v env (Model.Balance.apply v env stp .snapshot) rfl hass rfl
      (hcur.symm ▸ hbal) op
    exact Bool.noConfusion ((runOps_cons_some hrun).1.symm.trans this)
  | nil =>
    cases hrun
    refine ⟨rfl, fun m => ?_⟩
    rw [finish_of_not_reverted v (st := Model.Balance.apply v env stp .snapshot) (hrev.trans h0r)]
    refine (hmap m).trans ?_
    show AL.get (addFixed st0.cur st0.fixed) m = _
    rw [h0]; rfl

/-- the hypotheses of `replan_is_identity` can be met: two members with the same topic, plan 2/2 reported back: the
    run [assignAll [], snapshot] is accepted, the balance test passes, the plan is returned as it was -/
example : (runOps .pinned
      { pot := potOf [(1, [0]), (2, [0])] [(0, [0, 1, 2, 3])], prev := [], reassignable := [(0, 0), (0, 1), (0, 2), (0, 3)],
        initializing := false, parts := allParts [(0, [0, 1, 2, 3])] }
      (initState [(1, [0]), (2, [0])] [(0, [0, 1, 2, 3])]
        [((0, 0), 1, none), ((0, 1), 1, none), ((0, 2), 2, none), ((0, 3), 2, none)])
      [.assignAll [], .snapshot]).map (fun st => finish .pinned st) =
    some [(1, [(0, 0), (0, 1)]), (2, [(0, 2), (0, 3)])] := by decide +kernel

end Props.C13
