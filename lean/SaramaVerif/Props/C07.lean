import SaramaVerif.Model.Group
import SaramaVerif.Lemmas.Acceptor
/-
  C07 — consumer-group sessions follow the documented life-cycle and resume from commits.

  The session acceptor: for EVERY accepted sequence of coordinator requests and handler callbacks
  (any coordinator behaviour, handler behaviour, cancellation or Close moment - they only decide WHICH accepted
  sequence occurs): Setup at most once per session and only after a successful join+sync; at most one ConsumeClaim
  per partition per session, only between Setup and Cleanup; Cleanup at most once and only when every started
  ConsumeClaim has returned; Consume returns only after Cleanup; every sync / heartbeat / commit / Setup carries the
  member id and generation of the latest successful join; a fenced member's next join carries the empty member id.
  `newSession` as a function over coordinator answers: retry budget, fresh identity after fencing, other
  errors returned unchanged, the session's identity is the join's.
  Resumption from commits ("claims start at the committed offset, nothing skipped across sessions") is C06's
  `next_offset_*` theorems plus the oracle of the group harness; it is not re-proved here.
-/
namespace Props.C07
open Model.Group Lemmas.Acceptor

structure GInv (s : St) : Prop where
  setups_nodup   : s.setups.Nodup
  cleanups_nodup : s.cleanups.Nodup
  clean_sub      : ∀ n ∈ s.cleanups, n ∈ s.setups
  active_setup   : ∀ a, s.active = some a → a ∈ s.setups
  active_clean   : ∀ a, s.active = some a → (s.cleaned = true ↔ a ∈ s.cleanups)
  past_cleaned   : ∀ n ∈ s.setups, s.active ≠ some n → n ∈ s.cleanups
  started_nodup  : s.started.Nodup
  ended_sub      : ∀ p ∈ s.ended, p ∈ s.started
  cleaned_all    : s.cleaned = true → s.active.isSome → ∀ p ∈ s.started, p ∈ s.ended

theorem init_inv : GInv {} := by
  constructor <;> simp

theorem step_inv (s s' : St) (e : Ev) (h : step s e = .ok s') (hi : GInv s) : GInv s' := by
  revert h
  cases e
  -- answers of the coordinator touch neither the session nor the claim bookkeeping
  case join m v im ig =>
    refine ok_of_guard fun _ => ok_of_guard fun _ h => ?_
    split at h <;> cases h <;> exact { hi with }
  case sync m g v => refine ok_of_guard fun _ h => ?_; split at h <;> cases h <;> exact { hi with }
  case heartbeat m g v => refine ok_of_guard fun _ => ok_of_guard fun _ h => ?_; cases h; exact { hi with }
  case commit m g v => refine ok_of_guard fun _ h => ?_; cases h; exact hi
  case setup n m g =>
    refine ok_of_guard fun h1 => ok_of_guard fun _ => ok_of_guard fun _ => ok_of_guard fun h4 h => ?_
    cases h
    have hnone : s.active = none := by
      cases ha : s.active with
      | none => rfl
      | some a => simp [ha] at h1
    refine ⟨?_, hi.cleanups_nodup, ?_, ?_, ?_, ?_, by simp, by simp, by simp⟩
    · exact List.nodup_cons.mpr ⟨h4, hi.setups_nodup⟩
    · intro k hk; exact List.mem_cons_of_mem _ (hi.clean_sub k hk)
    · rintro a ⟨⟩; exact List.mem_cons_self
    · rintro a ⟨⟩
      exact ⟨nofun, fun hc => absurd (hi.clean_sub _ hc) h4⟩
    · intro k hk hne
      rcases List.mem_cons.mp hk with rfl | hk
      · exact absurd rfl hne
      · exact hi.past_cleaned k hk (by simp [hnone])
  case claimStart n p =>
    refine ok_of_guard fun _ => ok_of_guard fun h2 => ok_of_guard fun h3 h => ?_
    cases h
    refine { hi with started_nodup := List.nodup_cons.mpr ⟨h3, hi.started_nodup⟩, ended_sub := ?_,
                     cleaned_all := fun hc => absurd hc h2 }
    intro q hq; exact List.mem_cons_of_mem _ (hi.ended_sub q hq)
  case claimEnd n p =>
    refine ok_of_guard fun _ => ok_of_guard fun h2 h => ?_
    cases h
    refine { hi with ended_sub := ?_, cleaned_all := ?_ }
    · intro q hq
      rcases List.mem_cons.mp hq with rfl | hq
      · exact Decidable.not_not.mp fun hm => h2 (Or.inl hm)
      · exact hi.ended_sub q hq
    · intro hc ha q hq; exact List.mem_cons_of_mem _ (hi.cleaned_all hc ha q hq)
  case cleanup n =>
    refine ok_of_guard fun h1 => ok_of_guard fun h2 => ok_of_guard fun h3 h => ?_
    cases h
    have hact : s.active = some n := Decidable.not_not.mp h1
    have hnc : n ∉ s.cleanups := fun hc => h2 ((hi.active_clean n hact).mpr hc)
    refine { hi with cleanups_nodup := List.nodup_cons.mpr ⟨hnc, hi.cleanups_nodup⟩, clean_sub := ?_, active_clean := ?_,
                     past_cleaned := ?_, cleaned_all := ?_ }
    · intro k hk
      rcases List.mem_cons.mp hk with rfl | hk
      · exact hi.active_setup _ hact
      · exact hi.clean_sub k hk
    · intro a ha
      cases hact.symm.trans ha
      exact ⟨fun _ => List.mem_cons_self, fun _ => rfl⟩
    · intro k hk hne
      exact List.mem_cons_of_mem _ (hi.past_cleaned k hk hne)
    · intro _ _ q hq
      simpa using List.all_eq_true.mp (Decidable.not_not.mp h3) q hq
  case ret n =>
    dsimp only [step]
    split
    · rintro ⟨⟩; exact { hi with }
    · rename_i a hsome
      refine ok_of_guard fun h1 => ok_of_guard fun h2 h => ?_
      cases h
      have han : a = n := Decidable.not_not.mp h1
      subst han
      have hcl : s.cleaned = true := Decidable.not_not.mp h2
      refine { hi with active_setup := nofun, active_clean := nofun, past_cleaned := ?_, cleaned_all := nofun }
      intro k hk _
      by_cases hka : k = a
      · subst hka; exact (hi.active_clean k hsome).mp hcl
      · exact hi.past_cleaned k hk (by rw [hsome]; simp; exact fun e => hka e.symm)

theorem folds : Folds step run :=
  .ofExcept (fun _ => rfl) fun s e es => by rw [run]; cases step s e <;> rfl

theorem run_inv (s s' : St) (es : List Ev) (h : run s es = .ok s') (hi : GInv s) : GInv s' :=
  folds.inv GInv step_inv es s s' h hi

/-- Setup at most once per session, Cleanup at most once and only for a
    session that was set up, and every set-up session whose Consume has returned ran Cleanup before. -/
theorem session_order (es : List Ev) (s : St) (h : run {} es = .ok s) :
    s.setups.Nodup ∧ s.cleanups.Nodup ∧ (∀ n ∈ s.cleanups, n ∈ s.setups) ∧
    (∀ n ∈ s.setups, s.active ≠ some n → n ∈ s.cleanups) := by
  have hi := run_inv {} s es h init_inv
  exact ⟨hi.setups_nodup, hi.cleanups_nodup, hi.clean_sub, hi.past_cleaned⟩

/-- Setup only after a successful join + sync carrying the issued identity, with no other session active -/
theorem setup_needs_sync (s s' : St) (n m : Nat) (g : Int) (h : step s (.setup n m g) = .ok s') :
    s.synced = true ∧ s.active = none ∧ m = s.member ∧ g = s.gen := by
  revert h
  exact ok_of_guard fun h1 => ok_of_guard fun h2 => ok_of_guard fun h3 _ =>
    ⟨Decidable.not_not.mp h2, by simpa using h1, by omega, by omega⟩

/-- at most one ConsumeClaim per partition per session, only in an active session, between Setup and Cleanup -/
theorem claim_at_most_once (s s' : St) (n p : Nat) (h : step s (.claimStart n p) = .ok s') :
    s.active = some n ∧ s.cleaned = false ∧ p ∉ s.started := by
  revert h
  exact ok_of_guard fun h1 => ok_of_guard fun h2 => ok_of_guard fun h3 _ =>
    ⟨Decidable.not_not.mp h1, eq_false_of_ne_true h2, h3⟩

/-- Cleanup runs only once every started ConsumeClaim has returned -/
theorem cleanup_after_claims (s s' : St) (n : Nat) (h : step s (.cleanup n) = .ok s') :
    s.active = some n ∧ ∀ p ∈ s.started, p ∈ s.ended := by
  revert h
  exact ok_of_guard fun h1 => ok_of_guard fun _ => ok_of_guard fun h3 _ =>
    ⟨Decidable.not_not.mp h1, fun q hq => by simpa using List.all_eq_true.mp (Decidable.not_not.mp h3) q hq⟩

/-- Consume of a session that ran Setup returns only after Cleanup -/
theorem return_after_cleanup (s s' : St) (n a : Nat) (ha : s.active = some a) (h : step s (.ret n) = .ok s') :
    a = n ∧ s.cleaned = true := by
  revert h; dsimp only [step]; rw [ha]
  exact ok_of_guard fun h1 => ok_of_guard fun h2 _ => ⟨Decidable.not_not.mp h1, Decidable.not_not.mp h2⟩

/-- every sync / heartbeat / commit the model accepts carries the member id and generation of
    the state (the pair only changes through a successful join, which installs what the coordinator issued:
    `identity_changes_only_by_join`) -/
theorem identity_carried (s s' : St) (m : Nat) (g : Int) (v : Verdict) :
    (step s (.sync m g v) = .ok s' → m = s.member ∧ g = s.gen) ∧
    (step s (.heartbeat m g v) = .ok s' → m = s.member ∧ g = s.gen) ∧
    (step s (.commit m g v) = .ok s' → m = s.member ∧ g = s.gen) := by
  -- the identity is the first guard of all three
  refine ⟨?_, ?_, ?_⟩ <;> exact ok_of_guard fun hc _ => by omega

theorem step_flags (s s' : St) (e : Ev) : step s e = .ok s' →
    ((s'.member = s.member ∧ s'.gen = s.gen) ∨ ∃ m im ig, e = .join m .ok im ig) ∧
    (s'.fenced = s.fenced ∨ (∃ m v im ig, e = .join m v im ig) ∨ ∃ m g v, e = .sync m g v) ∧
    (s.hbOver = true → s'.hbOver = true ∨ ∃ m v im ig, e = .join m v im ig) := by
  cases e
  case join m v im ig =>
    refine ok_of_guard fun _ => ok_of_guard fun _ h =>
      ⟨?_, .inr (.inl ⟨m, v, im, ig, rfl⟩), fun _ => .inr ⟨m, v, im, ig, rfl⟩⟩
    split at h <;> cases h
    · exact .inr ⟨m, im, ig, rfl⟩
    all_goals exact .inl ⟨rfl, rfl⟩
  case sync m g v =>
    refine ok_of_guard fun _ h => ?_
    split at h <;> cases h <;> exact ⟨.inl ⟨rfl, rfl⟩, .inr (.inr ⟨m, g, _, rfl⟩), .inl⟩
  case heartbeat =>
    refine ok_of_guard fun _ => ok_of_guard fun ho h => ?_
    cases h; exact ⟨.inl ⟨rfl, rfl⟩, .inl rfl, (absurd · ho)⟩
  -- the handler's callbacks and commits leave identity and flags alone
  case ret =>
    dsimp only [step]
    split <;> (repeat refine ok_of_guard fun _ => ?_) <;> rintro ⟨⟩ <;> exact ⟨.inl ⟨rfl, rfl⟩, .inl rfl, .inl⟩
  all_goals (repeat refine ok_of_guard fun _ => ?_); rintro ⟨⟩; exact ⟨.inl ⟨rfl, rfl⟩, .inl rfl, .inl⟩

theorem identity_changes_only_by_join (s s' : St) (e : Ev) (h : step s e = .ok s')
    (hne : ∀ m im ig, e ≠ .join m .ok im ig) : s'.member = s.member ∧ s'.gen = s.gen :=
  (step_flags s s' e h).1.resolve_right fun ⟨m, im, ig, he⟩ => hne m im ig he

/-- once an answer fenced the member, every join the model accepts carries the empty
    member id (the fenced flag stays up until that join: `fenced_until_join`) -/
theorem fenced_rejoins_fresh (s s' : St) (m : Nat) (v : Verdict) (im : Nat) (ig : Int)
    (hf : s.fenced = true) (h : step s (.join m v im ig) = .ok s') : m = 0 := by
  revert h
  exact ok_of_guard fun hc _ => Decidable.not_not.mp fun hm => hc ⟨hf, hm⟩

theorem fenced_until_join (s s' : St) (e : Ev) (hf : s.fenced = true) (h : step s e = .ok s')
    (hne : ∀ m v im ig, e ≠ .join m v im ig) (hns : ∀ m g v, e ≠ .sync m g v) : s'.fenced = true := by
  rcases (step_flags s s' e h).2.1 with hk | ⟨m, v, im, ig, he⟩ | ⟨m, g, v, he⟩
  · exact hk.trans hf
  · exact absurd he (hne m v im ig)
  · exact absurd he (hns m g v)

theorem fence_answer_sets_fenced (s s' : St) (m : Nat) (g : Int) (im : Nat) (ig : Int) :
    (step s (.join m .fence im ig) = .ok s' → s'.fenced = true) ∧
    (step s (.sync m g .fence) = .ok s' → s'.fenced = true) := by
  constructor <;> refine ok_of_guard fun _ => ?_
  · exact ok_of_guard fun _ h => by cases h; rfl
  · rintro ⟨⟩; rfl

/-- the number of back-off retries never exceeds the budget (Consumer.Group.Rebalance.Retry.Max) -/
theorem retry_budget (r m : Nat) (script : List Ans) : (newSession r m script).2.1 ≤ r := by
  fun_induction newSession r m script
  -- a branch that returns counts 0; one that calls again adds at most the retry it took from the budget
  all_goals first
    | exact Nat.zero_le _
    | (rename_i hx ih; rw [hx] at ih; dsimp only at ih ⊢; omega)

/-- an error that is neither a fence, a rebalance-in-progress nor a not-coordinator answer is returned to the
    caller unchanged, without another request -/
theorem other_error_returned_unchanged (r m im : Nat) (ig : Int) (rest : List Ans) :
    newSession r m (.join .other im ig :: rest) = ([.join m], 0, .failed .other) ∧
    newSession r m (.join .ok im ig :: .sync .other :: rest) = ([.join m, .sync im ig], 0, .failed .other) :=
  ⟨rfl, rfl⟩

/-- after a fencing answer (to the join or to the sync) the next join carries the empty member id -/
theorem fenced_join_is_fresh (r m im : Nat) (ig : Int) (rest : List Ans) :
    (newSession r m (.join .fence im ig :: rest)).1 = .join m :: (newSession r 0 rest).1 ∧
    (newSession r m (.join .ok im ig :: .sync .fence :: rest)).1 = .join m :: .sync im ig :: (newSession r 0 rest).1 :=
  ⟨rfl, rfl⟩

/-- the session that is created carries exactly the member id and generation of the join answer, and the sync
    request that preceded it carried them too -/
theorem session_identity_is_joins (r m im : Nat) (ig : Int) (rest : List Ans) :
    newSession r m (.join .ok im ig :: .sync .ok :: rest) = ([.join m, .sync im ig], 0, .session im ig) :=
  rfl

/-- with the budget spent, rebalance-in-progress / not-coordinator answers are returned instead of retried -/
theorem budget_spent_returns (m im : Nat) (ig : Int) (rest : List Ans) :
    newSession 0 m (.join .rebalance im ig :: rest) = ([.join m], 0, .failed .rebalance) ∧
    newSession 0 m (.join .notCoord im ig :: rest) = ([.join m], 0, .failed .notCoord) :=
  ⟨rfl, rfl⟩

example : (run {} [.join 0 .ok 1 1, .sync 1 1 .ok, .setup 0 1 1, .claimStart 0 0, .claimStart 0 1, .heartbeat 1 1 .rebalance,
                   .claimEnd 0 1, .claimEnd 0 0, .cleanup 0, .commit 1 1 .ok, .ret 0,
                   .join 1 .fence 0 0, .join 0 .ok 2 2, .sync 2 2 .ok, .setup 1 2 2, .cleanup 1, .ret 1]).toOption.map
          (fun s => (s.setups, s.cleanups, s.member)) = some ([1, 0], [1, 0], 2) := by decide +kernel
example : (run {} [.join 0 .ok 1 1, .sync 1 1 .ok, .setup 0 1 1, .claimStart 0 0, .cleanup 0]).toOption.isNone = true := by decide +kernel
example : (run {} [.join 0 .ok 1 1, .sync 1 1 .fence, .join 1 .ok 1 2]).toOption.isNone = true := by decide +kernel
example : newSession 2 7 [.join .rebalance 0 0, .join .ok 7 3, .sync .fence, .coordErr, .join .ok 8 4, .sync .ok] =
    ([.join 7, .join 7, .sync 7 3, .join 0, .sync 8 4], 2, .session 8 4) := by decide +kernel

theorem hbOver_kept (s s' : St) (e : Ev) (h : step s e = .ok s') (hne : ∀ m v im ig, e ≠ .join m v im ig)
    (ho : s.hbOver = true) : s'.hbOver = true :=
  ((step_flags s s' e h).2.2 ho).resolve_right fun ⟨m, v, im, ig, he⟩ => hne m v im ig he

theorem hbOver_kept_run (es : List Ev) (s s' : St) (h : run s es = .ok s')
    (hne : ∀ e ∈ es, ∀ m v im ig, e ≠ .join m v im ig) (ho : s.hbOver = true) : s'.hbOver = true :=
  folds.inv_on (fun e => ∀ m v im ig, e ≠ .join m v im ig) (·.hbOver = true)
    (fun s s' e hq hs => hbOver_kept s s' e hs hq) es s s' h hne ho

/-- once the coordinator has answered a heartbeat with an error code (rebalance in progress, unknown member, illegal
    generation, or any other), the model accepts no further heartbeat of that member until it has sent a new JoinGroup:
    the heartbeat loop, and with it the session, ends -/
theorem heartbeats_stop_after_announcement (s s1 s2 : St) (m : Nat) (g : Int) (v : Verdict) (es : List Ev)
    (m' : Nat) (g' : Int) (v' : Verdict)
    (h1 : step s (.heartbeat m g v) = .ok s1) (hv : endsHeartbeats v = true)
    (hne : ∀ e ∈ es, ∀ a b c d, e ≠ .join a b c d) (h2 : run s1 es = .ok s2) :
    ∃ msg, step s2 (.heartbeat m' g' v') = .error msg := by
  have ho1 : s1.hbOver = true := by
    revert h1; refine ok_of_guard fun _ => ok_of_guard fun _ h => ?_; cases h; exact hv
  have ho2 := hbOver_kept_run es s1 s2 h2 hne ho1
  dsimp only [step]
  rw [if_pos ho2]
  split <;> exact ⟨_, rfl⟩

example : (run {} [.join 0 .ok 1 1, .sync 1 1 .ok, .setup 0 1 1, .heartbeat 1 1 .ok, .heartbeat 1 1 .rebalance,
                   .heartbeat 1 1 .ok]).toOption.isNone = true := by decide +kernel

end Props.C07
