import SaramaVerif.Props.C01
/-
  C18 — interceptors run exactly once per message and cannot break the pipeline (producer side; the consumer
  side is Props/C18c.lean).
  The dispatcher events `icept id` (one interceptor applied) and `pass id r` (message handed on with retries = r)
  are part of the accounting model (Model.Producer); the statements below hold for EVERY accepted event
  sequence, i.e. for every fault script / schedule that makes messages pass the dispatcher again.
-/
namespace Props.C18
open Model.Producer Props.C01 Lemmas.Acceptor

/-- an interceptor application is accepted only for a live application message (never an internal marker,
    never something the application did not submit), on its first pass (no retry yet, not yet handed on) -/
theorem icept_only_first_pass (s s' : St) (id : Int) (h : step s (.icept id) = .ok s') :
    id ∈ s.live ∧ s.retryLog.count id = 0 ∧ s.passLog.count id = 0 ∧ s.iceptLog.count id < s.cfg.icepts := by
  revert h
  exact ok_of_guard fun h1 => ok_of_guard fun h2 => ok_of_guard fun h3 => ok_of_guard fun h4 _ =>
    ⟨Decidable.not_not.mp h1, Decidable.not_not.mp h2, Decidable.not_not.mp h3, Nat.lt_of_not_le h4⟩

/-- in every reachable state: never more applications than interceptors, and a message that has been handed
    on by the dispatcher (on any pass) has been through the whole chain exactly once -/
theorem producer_interceptors_once (cfg : Cfg) (es : List Ev) (s : St) (h : run (init cfg) es = .ok s) (id : Int) :
    s.iceptLog.count id ≤ s.cfg.icepts ∧ (0 < s.passLog.count id → s.iceptLog.count id = s.cfg.icepts) := by
  have hi := reachable_inv cfg es s h
  exact ⟨hi.icept_le id, hi.icept_full id⟩

/-- interceptors only ever see live application messages: every id in the interceptor log was accepted -/
theorem intercepted_was_submitted (cfg : Cfg) (es : List Ev) (s : St) (h : run (init cfg) es = .ok s) (id : Int)
    (hm : id ∈ s.iceptLog) : id ∈ s.accepted := by
  -- along with the accounting invariant: the log grows only by live messages, which were accepted, and
  -- `accepted` only grows
  refine (folds.inv (fun s => PInv s ∧ ∀ a ∈ s.iceptLog, a ∈ s.accepted) ?_ es _ s h
    ⟨init_inv cfg, by simp [init]⟩).2 id hm
  intro s s' e hs ⟨hi, hsub⟩
  have hl := step_logs s s' e hs
  refine ⟨step_inv s s' e hs hi, ?_⟩
  rcases hl.icept with h | ⟨id, hid, h⟩ <;> rw [h]
  · exact fun a ha => hl.accepted_mono a (hsub a ha)
  · intro a ha
    rcases List.mem_cons.mp ha with rfl | ha
    · exact hl.accepted_mono _ (hi.live_accepted hid)
    · exact hl.accepted_mono a (hsub a ha)

/-! two interceptors, a retry: chain applied on the first pass only -/
example :
    (run (init { retryMax := 2, icepts := 2, idem := false })
      [.accept 1, .icept 1, .icept 1, .pass 1 0, .retry 1 1, .pass 1 1, .retSucc 1]).toOption.map
      (fun s => (s.iceptLog, s.passLog)) = some ([1, 1], [1, 1]) := by decide
/-- … and a third application, or one on the retry pass, is rejected -/
example : (run (init { retryMax := 2, icepts := 2, idem := false })
      [.accept 1, .icept 1, .icept 1, .pass 1 0, .retry 1 1, .icept 1]).toOption.isNone = true := by decide

end Props.C18
