import SaramaVerif.Props.C12lifePC
import SaramaVerif.Props.C12lifeBC
import SaramaVerif.Props.C12lifeGrp
import SaramaVerif.Props.C12lifeOM
import SaramaVerif.Props.C12lifeConn
/-
  C12 for the consumer-side components (partition consumer, broker worker, consumer, consumer group + session,
  offset manager + POM, client, broker): theorems about EVERY event sequence accepted by the acceptors of
  Model/Lifecycle.lean - Close / AsyncClose may be interleaved anywhere, the schedule of the goroutines is arbitrary.
  One module per module of the model (Props/C12lifePC.lean on Model/LifecyclePC.lean, likewise BC, Grp, OM, Conn), over
  the shared lemmas of Props/C12lifeRun.lean.  Per component X:

    never_double_close_X, no_send_after_close_X   the two run-time panics of a channel are never accepted
    outputs_closed_after_last_event_X    the public channels are closed after the last event that feeds them
    close_order_X                        the order of the hand-shake (`Precedes a reset b`: every b is preceded by an a
                                         with no reset in between)
    no_deadlock_after_close_X            every reachable state (bc, client: every state) between the close event and
                                         the end of the close has an enabled internal step
    close_terminates_X                   (bc, om, client, broker) a measure that every such step decreases (client:
                                         every step but the close of one more broker)
    holder_finds_channels_open (PC)      the ownership discipline alone keeps the holder of a child off closed channels

  The acceptors are tied to /repo by trace validation (Driver/LifecycleTrace.lean): the hook events of the real
  goroutines, in their real order, are replayed on every run of the check.
-/
