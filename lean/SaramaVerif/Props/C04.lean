import SaramaVerif.Lemmas.C16Sets
/-
  C04 — a reported success identifies exactly where and what was written (produce-set / request-building /
  offset-arithmetic core).  `Reach` is every produce set that adds, drops and re-wrappings can build; along it the
  records of a partition stay `Aligned` with its messages; every batch format decodes to the records renumbered from
  0 (`decoded_buildBatch`), so the broker's log is `Placed` and handleSuccess's offsets are `Reported` at the same
  positions.
-/
namespace Props.C04
open Model.ProduceSet

/-- any sequence of adds (with no `wouldOverflow` test between them, unlike `Props.C16.Grown`), drops and retryBatch
    re-wrappings -/
inductive Reach (c : Conf) : State → Prop
  | empty : Reach c State.empty
  | add {s : State} (now : Int) (m : Msg) : Reach c s → Reach c (add c s now m)
  | drop {s : State} (tp : Nat × Nat) : Reach c s → Reach c (dropPartition s tp)
  | ofPartition {s : State} {p : PSet} : Reach c s → p ∈ s.parts → Reach c (State.single p)

/-- record `r` of a partition set with FirstTimestamp `fts` carries message `m`: same payload identity and
    lengths, the headers (record batches), and the timestamp if the application supplied one (formats that
    have a timestamp: message format 1 and record batches) -/
def Carries (c : Conf) (fts : Int) (m : Msg) (r : Rec) : Prop :=
  r.id = m.id ∧ r.keyLen = m.keyLen ∧ r.valLen = m.valLen ∧ (c.v2 = true → r.headers = m.headers) ∧
  (∀ t, m.ts = some t → (c.v2 = true → fts + r.tsDelta = t) ∧ (c.v2 = false → c.v1 = true → r.ts = some t))

inductive Aligned (c : Conf) (fts : Int) : List Msg → List Rec → Prop
  | nil : Aligned c fts [] []
  | cons {m : Msg} {r : Rec} {ms : List Msg} {rs : List Rec} :
      Carries c fts m r → Aligned c fts ms rs → Aligned c fts (m :: ms) (r :: rs)

private theorem aligned_append {c : Conf} {fts : Int} {ms : List Msg} {rs : List Rec} {m : Msg} {r : Rec}
    (h : Aligned c fts ms rs) (hc : Carries c fts m r) : Aligned c fts (ms ++ [m]) (rs ++ [r]) := by
  induction h with
  | nil => exact .cons hc .nil
  | cons h1 _ ih => exact .cons h1 ih

private theorem aligned_length {c : Conf} {fts : Int} {ms : List Msg} {rs : List Rec} (h : Aligned c fts ms rs) :
    rs.length = ms.length := by
  induction h with
  | nil => rfl
  | cons _ _ ih => exact congrArg (· + 1) ih

private theorem aligned_get {c : Conf} {fts : Int} {ms : List Msg} {rs : List Rec} (h : Aligned c fts ms rs)
    (i : Nat) (hi : i < ms.length) (hr : i < rs.length) : Carries c fts ms[i] rs[i] := by
  induction h generalizing i with
  | nil => exact nomatch hi
  | cons h1 _ ih =>
    cases i with
    | zero => exact h1
    | succ j => exact ih j (Nat.lt_of_succ_lt_succ hi) (Nat.lt_of_succ_lt_succ hr)

/-- only record batches look at the FirstTimestamp the record was made against (`hf`) -/
private theorem carries_mkRec (c : Conf) (now fts fts' : Int) (m : Msg) (hf : c.v2 = true → fts' = fts) :
    Carries c fts' m (mkRec c now fts m) := by
  refine ⟨rfl, rfl, rfl, ?_, ?_⟩
  · intro hv; simp [mkRec, hv]
  · intro t ht
    refine ⟨?_, ?_⟩
    · intro hv; simp [mkRec, hv, effTs, ht, hf hv]; omega
    · intro hv h1; simp [mkRec, hv, h1, effTs, ht]

private theorem lookup_some {tp : Nat × Nat} {ps : List PSet} {p : PSet} (h : lookup tp ps = some p) :
    p ∈ ps ∧ p.tp = tp := Lemmas.C16.lookup_some h

theorem reach_sinv {c : Conf} {s : State} (h : Reach c s) : Lemmas.C16.SInv c s := by
  induction h with
  | empty => exact Lemmas.C16.sinv_empty c
  | add now m _ ih => exact Lemmas.C16.sinv_add now m ih
  | drop tp _ ih => exact Lemmas.C16.sinv_drop tp ih
  | ofPartition _ hp ih => exact Lemmas.C16.sinv_single ih hp

theorem reach_ainv {c : Conf} {s : State} (h : Reach c s) : ∀ p ∈ s.parts, Aligned c p.firstTs p.msgs p.recs := by
  induction h with
  | empty => simp [State.empty]
  | @add s now m _ ih =>
    unfold Model.ProduceSet.add
    split
    · intro p' hp'
      rcases Lemmas.C16.mem_addTo hp' with h1 | ⟨_, rfl⟩ | ⟨p, h1, rfl⟩
      · exact ih p' h1
      · exact .cons (carries_mkRec c now _ _ m fun hv => by simp [newPSet, hv]) .nil
      · exact aligned_append (ih p (lookup_some h1).1) (carries_mkRec c now _ _ m fun _ => rfl)
    · exact ih
  | @drop s tp _ ih =>
    unfold dropPartition
    split
    · exact ih
    · intro p hp; exact ih p (Lemmas.C16.mem_removeTp hp)
  | @ofPartition s p _ hp ih =>
    intro q hq
    simp only [State.single, List.mem_singleton] at hq
    exact hq ▸ ih p hp

/-- In every reachable produce set (`Reach`), `msgs` and the
    records to send of each partition have equal length and record i carries key / value / headers (and the
    timestamp when supplied) of msgs[i]; all messages of a partition set belong to that topic-partition. -/
theorem msgs_records_aligned {c : Conf} {s : State} (h : Reach c s) {p : PSet} (hp : p ∈ s.parts) :
    p.recs.length = p.msgs.length ∧
    (∀ i (hi : i < p.msgs.length) (hr : i < p.recs.length), Carries c p.firstTs p.msgs[i] p.recs[i]) ∧
    (∀ m ∈ p.msgs, m.tp = p.tp) := by
  have := reach_ainv h p hp
  exact ⟨aligned_length this, fun i hi hr => aligned_get this i hi hr, ((reach_sinv h).parts p hp).tps⟩

theorem renumber_length (i : Int) (rs : List Rec) : (renumber i rs).length = rs.length := by
  induction rs generalizing i with
  | nil => rfl
  | cons a t ih => simp [renumber, ih]

/-- `for i, x := range xs { x.Offset = int64(i) }` -/
theorem renumber_get (i : Int) (rs : List Rec) (j : Nat) (hj : j < rs.length) :
    (renumber i rs)[j]'(by rw [renumber_length]; exact hj) = { rs[j] with offset := i + j } := by
  induction rs generalizing i j with
  | nil => simp at hj
  | cons a t ih =>
    cases j with
    | zero => simp [renumber]
    | succ k =>
      simp only [renumber, List.getElem_cons_succ]
      rw [ih (i + 1) k (by simpa using hj)]
      have : i + 1 + (k : Int) = i + ((k + 1 : Nat) : Int) := by push_cast; omega
      rw [this]

/-- a version gate ≥ 0.11 means record batches (given that one KafkaVersion answers the gates) -/
theorem reqVersion_ge3_iff (c : Conf) (hwf : c.WF) : reqVersion c ≥ 3 ↔ c.v2 = true :=
  Lemmas.C16.reqVersion_ge3_iff (Lemmas.C16.gates_of_wf hwf)

/-- record batches: OffsetDelta of record i is i, LastOffsetDelta is (number of records − 1) -/
theorem record_batch_offset_deltas (c : Conf) (hwf : c.WF) (hv : c.v2 = true) (p : PSet) (hne : p.recs ≠ []) :
    ∃ recs, buildBatch c p = .recordBatch p.firstTs ((p.recs.length : Int) - 1) c.codec recs ∧
      recs.length = p.recs.length ∧
      ∀ j (hj : j < p.recs.length) (hj' : j < recs.length), recs[j] = { p.recs[j] with offset := j } := by
  refine ⟨renumber 0 p.recs, ?_, renumber_length 0 p.recs, ?_⟩
  · rw [Lemmas.C16.buildBatch_eq (Lemmas.C16.gates_of_wf hwf), if_pos hv, if_pos (List.length_pos_iff.mpr hne)]
  · intro j hj hj'
    rw [renumber_get 0 p.recs j hj]; simp

/-- compressed wrapper, format 1: the inner messages carry relative offsets 0,1,2,… (KIP-31) and the
    wrapper carries the timestamp of the first inner message -/
theorem wrapper_relative_offsets (c : Conf) (hwf : c.WF) (hv : c.v2 = false) (h1 : c.v1 = true) (hc : c.codec ≠ 0)
    (p : PSet) :
    ∃ inner, buildBatch c p = .wrapper c.codec 1 (headTs p.recs) inner ∧ inner.length = p.recs.length ∧
      ∀ j (hj : j < p.recs.length) (hj' : j < inner.length), inner[j] = { p.recs[j] with offset := j } := by
  refine ⟨renumber 0 p.recs, ?_, renumber_length 0 p.recs, ?_⟩
  · rw [Lemmas.C16.buildBatch_eq (Lemmas.C16.gates_of_wf hwf), if_neg (Bool.eq_false_iff.mp hv), if_neg hc, if_pos h1]
  · intro j hj hj'
    rw [renumber_get 0 p.recs j hj]; simp

/-- compressed wrapper, format 0: offsets untouched (the broker assigns them), no timestamp -/
theorem wrapper_v0 (c : Conf) (hwf : c.WF) (h1 : c.v1 = false) (hc : c.codec ≠ 0) (p : PSet) :
    buildBatch c p = .wrapper c.codec 0 none p.recs := by
  have hv : c.v2 = false := by
    cases h : c.v2
    · rfl
    · exact absurd (h1 ▸ hwf.2 h) (by decide)
  rw [Lemmas.C16.buildBatch_eq (Lemmas.C16.gates_of_wf hwf), if_neg (Bool.eq_false_iff.mp hv), if_neg hc, h1,
    if_neg (by decide)]

theorem msgset_uncompressed (c : Conf) (hv : c.v2 = false) (hc : c.codec = 0) (p : PSet) :
    buildBatch c p = .msgSet (if c.v1 then 1 else 0) p.recs := by
  rw [Lemmas.C16.buildBatch_eq (Lemmas.C16.gates_of_uncompressed hc), if_neg (Bool.eq_false_iff.mp hv), if_pos hc]

/-- log entry `e` holds message `m`: payload identity and lengths, headers (record batches), the supplied
    timestamp where the format has one -/
def Holds (c : Conf) (m : Msg) (e : Entry) : Prop :=
  e.id = m.id ∧ e.keyLen = m.keyLen ∧ e.valLen = m.valLen ∧ (c.v2 = true → e.headers = m.headers) ∧
  (∀ t, m.ts = some t → (c.v1 = true ∨ c.v2 = true) → e.ts = some t)

/-- `log` consists of exactly one entry per message, in order, at consecutive positions from `o` -/
def Placed (c : Conf) : Int → List Msg → List (Int × Entry) → Prop
  | _, [], [] => True
  | o, m :: ms, (pos, e) :: es => pos = o ∧ Holds c m e ∧ Placed c (o + 1) ms es
  | _, _, _ => False

/-- record batches take the timestamp from FirstTimestamp + TimestampDelta, the message formats from the message -/
private theorem holds_of_carries {c : Conf} {fts : Int} {m : Msg} {r : Rec} (h : Carries c fts m r) :
    Holds c m (r.entry (if c.v2 = true then some (fts + r.tsDelta) else r.ts)) := by
  cases hv : c.v2
  · exact ⟨h.1, h.2.1, h.2.2.1, fun h2 => absurd (hv ▸ h2) (by decide),
      fun t ht h12 => (h.2.2.2.2 t ht).2 hv (h12.resolve_right fun h2 => absurd (hv ▸ h2) (by decide))⟩
  · exact ⟨h.1, h.2.1, h.2.2.1, h.2.2.2.1, fun t ht _ => congrArg some ((h.2.2.2.2 t ht).1 hv)⟩

theorem seqPlace_eq_renumber (i : Int) (rs : List Rec) :
    seqPlace i rs = (renumber i rs).map fun r => (r.offset, r.entry r.ts) := by
  induction rs generalizing i with
  | nil => rfl
  | cons a t ih => simp only [seqPlace, renumber, List.map_cons, ih]; rfl

/-- in every format and codec the broker reads record number j of a partition's batch at relative offset j, whether
    the producer wrote that offset (record batches, format-1 wrappers) or the broker counts (the other two) -/
theorem decoded_buildBatch {c : Conf} (hwf : c.WF) (p : PSet) :
    (buildBatch c p).decoded =
      (renumber 0 p.recs).map fun r => (r.offset, r.entry (if c.v2 = true then some (p.firstTs + r.tsDelta) else r.ts)) := by
  rw [Lemmas.C16.buildBatch_eq (Lemmas.C16.gates_of_wf hwf)]
  cases c.v2
  · rw [if_neg (by decide)]
    by_cases hc : c.codec = 0
    · rw [if_pos hc, Batch.decoded, seqPlace_eq_renumber]
      rfl
    · rw [if_neg hc]
      cases c.v1
      · rw [if_neg (by decide), Batch.decoded, if_neg (by decide), seqPlace_eq_renumber]
        rfl
      · rw [if_pos rfl, Batch.decoded, if_pos (by decide)]
        rfl
  · rw [if_pos rfl, Batch.decoded]
    rfl

/-- the broker's structural check passes in every format, however the gates stand (the split is on the request version
    itself): only a record batch states its offset range, count − 1 -/
theorem wellFormed_buildBatch (c : Conf) {p : PSet} (hne : p.recs ≠ []) : (buildBatch c p).wellFormed = true := by
  rw [buildBatch]
  by_cases h3 : reqVersion c ≥ 3
  · rw [if_pos h3, Batch.wellFormed, renumber_length, if_pos (List.length_pos_iff.mpr hne)]
    exact decide_eq_true rfl
  · rw [if_neg h3]
    by_cases hc : c.codec = 0
    · rw [if_pos hc]; rfl
    · rw [if_neg hc]; cases c.v1 <;> rfl

private theorem placed_of_aligned {c : Conf} {fts base : Int} {ms : List Msg} {rs : List Rec} (h : Aligned c fts ms rs) :
    ∀ i : Int, Placed c (base + i) ms
      (((renumber i rs).map fun r => (r.offset, r.entry (if c.v2 = true then some (fts + r.tsDelta) else r.ts))).map
        fun x => (base + x.1, x.2)) := by
  induction h with
  | nil => exact fun _ => trivial
  | cons h1 _ ih => exact fun i => ⟨rfl, holds_of_carries h1, Int.add_assoc base i 1 ▸ ih (i + 1)⟩

/-- what the broker writes when it appends the batch built from a partition set at `base`: exactly the
    submitted messages, in order, at base, base+1, … — for every format / codec -/
theorem broker_log_placed {c : Conf} (hwf : c.WF) {s : State} (h : Reach c s) {p : PSet} (hp : p ∈ s.parts)
    (base : Int) : Placed c base p.msgs (brokerAppend base (buildBatch c p)) := by
  have := placed_of_aligned (base := base) (reach_ainv h p hp) 0
  rwa [Int.add_zero, ← decoded_buildBatch hwf] at this

/-- handleSuccess's loop reports base, base+1, … in message order -/
def Reported : Int → List Msg → List (Nat × Int) → Prop
  | _, [], [] => True
  | o, m :: ms, (id, off) :: rest => id = m.id ∧ off = o ∧ Reported (o + 1) ms rest
  | _, _, _ => False

theorem assign_offsets_reported (base : Int) : ∀ (ms : List Msg) (i : Int), Reported (base + i) ms (assignOffsets base i ms) := by
  intro ms
  induction ms with
  | nil => intro i; trivial
  | cons m t ih =>
    intro i
    refine ⟨rfl, rfl, ?_⟩
    have := ih (i + 1)
    rw [← Int.add_assoc] at this
    exact this

private theorem placed_get {c : Conf} {o : Int} {ms : List Msg} {log : List (Int × Entry)} (hp : Placed c o ms log) :
    log.length = ms.length ∧
    ∀ i (hi : i < ms.length) (hl : i < log.length), log[i].1 = o + i ∧ Holds c ms[i] log[i].2 := by
  induction ms generalizing o log with
  | nil =>
    cases log with
    | nil => exact ⟨rfl, fun i hi => nomatch hi⟩
    | cons a t => exact hp.elim
  | cons m ms ih =>
    cases log with
    | nil => exact hp.elim
    | cons a t =>
      obtain ⟨l, hrest⟩ := ih hp.2.2
      refine ⟨congrArg (· + 1) l, fun i hi hl => ?_⟩
      cases i with
      | zero => exact ⟨hp.1.trans (Int.add_zero o).symm, hp.2.1⟩
      | succ j =>
        have := hrest j (Nat.lt_of_succ_lt_succ hi) (Nat.lt_of_succ_lt_succ hl)
        exact ⟨this.1.trans (by omega), this.2⟩

private theorem reported_get {o : Int} {ms : List Msg} {rep : List (Nat × Int)} (hr : Reported o ms rep) :
    rep.length = ms.length ∧ ∀ i (hi : i < ms.length) (hrep : i < rep.length), rep[i] = (ms[i].id, o + i) := by
  induction ms generalizing o rep with
  | nil =>
    cases rep with
    | nil => exact ⟨rfl, fun i hi => nomatch hi⟩
    | cons a t => exact hr.elim
  | cons m ms ih =>
    cases rep with
    | nil => exact hr.elim
    | cons a t =>
      obtain ⟨l, hrest⟩ := ih hr.2.2
      refine ⟨congrArg (· + 1) l, fun i hi hrep => ?_⟩
      cases i with
      | zero => exact Prod.ext hr.1 (hr.2.1.trans (Int.add_zero o).symm)
      | succ j =>
        have := hrest j (Nat.lt_of_succ_lt_succ hi) (Nat.lt_of_succ_lt_succ hrep)
        exact this.trans (by congr 1; omega)

/-- For every reachable produce set (`Reach`), every format and
    codec, and every base offset: if the broker appended the decoded batch at `base` and answered ErrNoError
    with that base offset, then handleSuccess reports for msgs[i] the offset base+i, the log holds exactly
    one entry per submitted message (nothing else), and the entry at base+i is msgs[i]'s payload (with its
    timestamp if supplied and the format has one). -/
theorem success_offset_is_log_position {c : Conf} (hwf : c.WF) {s : State} (h : Reach c s) {p : PSet}
    (hp : p ∈ s.parts) (base : Int) (retryMax : Int) (lat : Option Int) (dup : Bool) :
    ∃ offs, handleBlock c dup retryMax true (some (0, base, lat)) p.msgs = .successes offs (if c.v1 then lat else none) ∧
      (brokerAppend base (buildBatch c p)).length = p.msgs.length ∧ offs.length = p.msgs.length ∧
      (buildBatch c p).wellFormed = true ∧
      ∀ i (hi : i < p.msgs.length) (hl : i < (brokerAppend base (buildBatch c p)).length) (ho : i < offs.length),
        offs[i] = (p.msgs[i].id, base + i) ∧
        (brokerAppend base (buildBatch c p))[i].1 = base + i ∧
        Holds c p.msgs[i] (brokerAppend base (buildBatch c p))[i].2 := by
  refine ⟨assignOffsets base 0 p.msgs, by simp [handleBlock], ?_⟩
  have hpl := broker_log_placed hwf h hp base
  have hrep := assign_offsets_reported base p.msgs 0
  rw [Int.add_zero] at hrep
  obtain ⟨l1, hlog⟩ := placed_get hpl
  obtain ⟨l2, hoff⟩ := reported_get hrep
  refine ⟨l1, l2, ?_, fun i hi hl ho => ⟨hoff i hi ho, hlog i hi hl⟩⟩
  -- there is at least one record
  refine wellFormed_buildBatch c fun hnil => ((reach_sinv h).parts p hp).nonempty (List.eq_nil_of_length_eq_zero ?_)
  rw [← aligned_length (reach_ainv h p hp), hnil]; rfl

private theorem retriable_ne {err : Int} (hr : err ∈ retriable) : err ≠ 0 ∧ err ≠ errDuplicateSequenceNumber := by
  simp only [retriable, List.mem_cons, List.not_mem_nil, or_false] at hr
  rcases hr with rfl | rfl | rfl | rfl | rfl | rfl | rfl <;> decide

/-- the per-block verdict, spelled out (error codes from the `switch block.Err` of handleSuccess) -/
theorem handle_block_table (c : Conf) (dup : Bool) (retryMax : Int) (msgs : List Msg) :
    handleBlock c dup retryMax false none msgs = .successesUnassigned (msgs.map (·.id)) ∧
    handleBlock c dup retryMax true none msgs = .errors errIncompleteResponse (msgs.map (·.id)) ∧
    (∀ base lat, handleBlock c dup retryMax true (some (0, base, lat)) msgs =
      .successes (assignOffsets base 0 msgs) (if c.v1 then lat else none)) ∧
    (∀ err base lat, err ∈ retriable → retryMax > 0 →
      handleBlock c dup retryMax true (some (err, base, lat)) msgs = .retry err (msgs.map (·.id))) ∧
    (∀ err base lat, err ∈ retriable → retryMax ≤ 0 →
      handleBlock c dup retryMax true (some (err, base, lat)) msgs = .errors err (msgs.map (·.id))) ∧
    (∀ err base lat, err ≠ 0 → err ≠ errDuplicateSequenceNumber → err ∉ retriable →
      handleBlock c dup retryMax true (some (err, base, lat)) msgs = .errors err (msgs.map (·.id))) := by
  refine ⟨by simp [handleBlock], by simp [handleBlock], fun _ _ => by simp [handleBlock], ?_, ?_, ?_⟩
  · intro err base lat hr hm
    have : ¬ retryMax ≤ 0 := by omega
    simp [handleBlock, retriable_ne hr, hr, this]
  · intro err base lat hr hm
    simp [handleBlock, retriable_ne hr, hr, hm]
  · intro err base lat h0 h46 hr
    simp [handleBlock, h0, h46, hr]

/-- Full strength, for the variant with offsets assigned (`dupAssigns = true`): a success reported for a batch
    the broker answered with DuplicateSequenceNumber carries base+i for msgs[i] -/
theorem dedup_success_offset (c : Conf) (retryMax base : Int) (lat : Option Int) (msgs : List Msg) :
    handleBlock c true retryMax true (some (errDuplicateSequenceNumber, base, lat)) msgs =
      .successes (assignOffsets base 0 msgs) none := by
  simp [handleBlock, errDuplicateSequenceNumber]

/-- pinned tree: successes are reported with offsets only under the extra hypothesis that the block's error
    is ErrNoError (the duplicate branch reports success without touching Offset) -/
theorem dedup_success_offset_partial (c : Conf) (retryMax base err : Int) (lat : Option Int) (msgs : List Msg)
    (offs : List (Nat × Int)) (l : Option Int)
    (h : handleBlock c false retryMax true (some (err, base, lat)) msgs = .successes offs l) :
    err = 0 ∧ offs = assignOffsets base 0 msgs := by
  by_cases h0 : err = 0
  · rw [handleBlock, if_neg (by decide), if_pos h0] at h
    exact ⟨h0, (Verdict.successes.inj h).1.symm⟩
  · -- every other branch answers with another constructor
    rw [handleBlock, if_neg (by decide), if_neg h0] at h
    by_cases h46 : err = errDuplicateSequenceNumber
    · rw [if_pos h46, if_neg (by decide)] at h; cases h
    · rw [if_neg h46] at h
      by_cases hr : err ∈ retriable
      · rw [if_pos hr] at h
        by_cases hm : retryMax ≤ 0
        · rw [if_pos hm] at h; cases h
        · rw [if_neg hm] at h; cases h
      · rw [if_neg hr] at h; cases h

-- in the order of the fields of `Conf`: the three version gates, the codec (1 = gzip), idempotent, MaxRequestSize,
-- MaxMessageBytes, and the four flush settings
def exV2 : Conf := ⟨true, true, false, 0, false, 104857600, 1000000, 0, 0, 0, 0⟩
def exGz1 : Conf := ⟨true, false, false, 1, false, 104857600, 1000000, 0, 0, 0, 0⟩
def exGz0 : Conf := ⟨false, false, false, 1, false, 104857600, 1000000, 0, 0, 0, 0⟩
def m1 : Msg := ⟨1, (0, 0), 3, 10, [(1, 2)], some 1000, 0⟩
def m2 : Msg := ⟨2, (0, 0), 0, 5, [], none, 0⟩
def m3 : Msg := ⟨3, (0, 0), 2, 2, [], some 990, 0⟩
def three (c : Conf) : State := add c (add c (add c State.empty 7 m1) 8 m2) 9 m3

example : exV2.WF ∧ exGz1.WF ∧ exGz0.WF := by simp [Conf.WF, exV2, exGz1, exGz0]
example : Reach exV2 (three exV2) := Reach.add 9 m3 (Reach.add 8 m2 (Reach.add 7 m1 Reach.empty))
/-- record batch: deltas 0,1,2, LastOffsetDelta 2, log positions 100,101,102 hold ids 1,2,3 with timestamps 1000, clock, 990 -/
example : (buildRequest exV2 (three exV2)).map (fun x => match x.2 with
    | .recordBatch _ lod _ recs => (lod, recs.map (·.offset), recs.map (·.tsDelta)) | _ => (0, [], [])) = [(2, [0, 1, 2], [0, -992, -10])] := by decide +kernel
example : (three exV2).parts.map (fun p => (brokerAppend 100 (buildBatch exV2 p)).map (fun x => (x.1, x.2.id, x.2.ts))) =
    [[(100, 1, some 1000), (101, 2, some 8), (102, 3, some 990)]] := by decide +kernel
example : (buildRequest exGz1 (three exGz1)).map (fun x => match x.2 with
    | .wrapper codec magic ts inner => (codec, magic, ts, inner.map (·.offset)) | _ => (0, 0, none, [])) = [(1, 1, some 1000, [0, 1, 2])] := by decide +kernel
example : (buildRequest exGz0 (three exGz0)).map (fun x => match x.2 with
    | .wrapper codec magic ts inner => (codec, magic, ts, inner.map (·.offset)) | _ => (0, 0, none, [])) = [(1, 0, none, [0, 0, 0])] := by decide +kernel
example : handleBlock exV2 false 3 true (some (0, 100, none)) [m1, m2, m3] = .successes [(1, 100), (2, 101), (3, 102)] none := by decide +kernel
/-- the pinned duplicate branch: success without offsets (counter-example to the full-strength statement) -/
example : handleBlock exV2 false 3 true (some (46, 100, none)) [m1, m2] = .successesUnassigned [1, 2] := by decide +kernel
example : handleBlock exV2 true 3 true (some (46, 100, none)) [m1, m2] = .successes [(1, 100), (2, 101)] none := by decide +kernel

end Props.C04
