import SaramaVerif.Model.LifecycleBC
import SaramaVerif.Props.C12lifeRun
/-
  C12 for the broker worker of the consumer and the consumer's registry of its children (acceptors `BC`, `Cons` of
  Model/LifecycleBC.lean).
-/
namespace Props.C12life
open Model.Lifecycle Lemmas.Acceptor

namespace BC
open Model.Lifecycle.BC

local macro "acc" h:ident : tactic =>
  `(tactic| (simp only [step] at $h:ident <;> (repeat' split at $h:ident) <;>
      first | (cases $h:ident; done) | (injection $h:ident with $h:ident; subst $h:ident; simp_all)))

def isRef : Ev → Bool | .ref _ => true | _ => false
def isUnref : Ev → Bool | .unref _ => true | _ => false
attribute [local simp] isRef isUnref

structure Flags (s : St) (e : Ev) (s' : St) : Prop where
  input : s'.inputClosed = true ↔ s.inputClosed = true ∨ e = .inputClose
  wait : s'.waitClosed = true ↔ s.waitClosed = true ∨ e = .waitClose
  newsubs : s'.newsubsClosed = true ↔ s.newsubsClosed = true ∨ e = .newsubsClose
  refs : s'.refs + (if isUnref e then 1 else 0) = s.refs + (if isRef e then 1 else 0)

theorem flags {s : St} {e : Ev} {s' : St} (h : step s e = .ok s') : Flags s e s' := by
  revert h
  cases e <;> unfold step <;> accepted <;> constructor <;> simp <;> omega

theorem input_latch : Latch step (·.inputClosed) (· = .inputClose) := fun _ _ _ h => (flags h).input
theorem wait_latch : Latch step (·.waitClosed) (· = .waitClose) := fun _ _ _ h => (flags h).wait
theorem newsubs_latch : Latch step (·.newsubsClosed) (· = .newsubsClose) := fun _ _ _ h => (flags h).newsubs

/-- `input`, `wait` and `newSubscriptions` of a broker worker are closed at most once -/
theorem never_double_close_bc {evs : List Ev} {s : St} (h : run {} evs = .ok s) :
    evs.count .inputClose ≤ 1 ∧ evs.count .waitClose ≤ 1 ∧ evs.count .newsubsClose ≤ 1 :=
  ⟨input_latch.count_le_one (by intro s s'; unfold step; accepted; simp_all) h, wait_latch.count_le_one (by intro s s'; unfold step; accepted; simp_all) h,
    newsubs_latch.count_le_one (by intro s s'; unfold step; accepted; simp_all) h⟩

/-- no partition consumer sends itself on `input` after it was closed; no new reference is handed out either;
    nothing is sent on `newSubscriptions` after it was closed -/
theorem no_send_after_close_bc {pre post : List Ev} {s : St} :
    (run {} (pre ++ .inputClose :: post) = .ok s → ∀ e ∈ post, e ≠ .inputSend ∧ ∀ n, e ≠ .ref n) ∧
    (run {} (pre ++ .newsubsClose :: post) = .ok s → ∀ e ∈ post, ∀ n, e ≠ .flush n) := by
  constructor
  · intro h e he
    have := input_latch.none_after (pb := fun e => e = .inputSend ∨ ∃ n, e = .ref n)
      (by rintro s _ s' (rfl | ⟨n, rfl⟩) <;> unfold step <;> accepted <;> simp_all) h rfl e he
    exact ⟨fun hc => this (.inl hc), fun n hc => this (.inr ⟨n, hc⟩)⟩
  · intro h e he n hc
    exact newsubs_latch.none_after (pb := fun e => ∃ n, e = .flush n)
      (by rintro s _ s' ⟨n, rfl⟩; unfold step; accepted; simp_all) h rfl e he ⟨n, hc⟩

theorem refs_count {evs : List Ev} {s : St} (h : run {} evs = .ok s) : s.refs + evs.countP isUnref = evs.countP isRef := by
  simpa using runs.counts (·.refs) isRef isUnref (fun _ => False) (fun _ _ _ _ h => Flags.refs (flags h)) h (fun _ _ => id)

/-- `input` is closed only when every reference that was handed out has been returned -/
theorem input_closed_when_unreferenced {pre : List Ev} {s : St} (h : run {} (pre ++ [.inputClose]) = .ok s) :
    pre.countP isUnref = pre.countP isRef := by
  obtain ⟨s1, _, h1, h3, _⟩ := runs.mid h
  have hp : s1.refs = 0 := by revert h3; unfold step; accepted; simp_all
  simpa [hp] using refs_count h1

/-- the wind-down of a broker worker: input closed (last reference returned), then the subscription manager closes
    `wait`, then `newSubscriptions`; the worker goroutine returns only after that -/
theorem close_order_bc {evs : List Ev} {s : St} (h : run {} evs = .ok s) :
    Precedes (· = .inputClose) (fun _ => False) (· = .waitClose) evs ∧
    Precedes (· = .waitClose) (fun _ => False) (· = .newsubsClose) evs ∧
    Precedes (· = .newsubsClose) (fun _ => False) (fun e => ∃ a, e = .exit a) evs :=
  ⟨input_latch.precedes rfl (by rintro s _ s' rfl; unfold step; accepted; simp_all) h, wait_latch.precedes rfl (by rintro s _ s' rfl; unfold step; accepted; simp_all) h,
    newsubs_latch.precedes rfl (by rintro s _ s' ⟨a, rfl⟩; unfold step; accepted; simp_all) h⟩

/-- once `input` is closed the worker's goroutines can always move until the worker has returned -/
theorem no_deadlock_after_close_bc (s : St) (hc : s.inputClosed = true) (hx : s.exited = false) :
    ∃ e s', internal e = true ∧ step s e = .ok s' := by
  by_cases h1 : s.waitClosed = true
  · by_cases h2 : s.newsubsClosed = true
    · exact enabled (.exit s.aborted) rfl (by simp [step, hx, h2])
    · exact enabled .newsubsClose rfl (by simp [step, h1, h2])
  · exact enabled .waitClose rfl (by simp [step, hc, h1])

/-- each move of the worker's goroutines decreases `rank`: with `no_deadlock_after_close_bc`, the worker returns -/
theorem close_terminates_bc (s : St) (e : Ev) (s' : St) (h : step s e = .ok s') (hi : internal e = true) : rank s' < rank s := by
  revert h
  cases e with
  | waitClose | flush n | newsubsClose | exit a => unfold step <;> accepted <;> simp_all [rank] <;> omega
  | _ => cases hi

example : accepts step {} [.new, .ref 0, .inputSend, .subAdd, .ref 1, .inputSend, .unref 2, .subAdd, .unref 1, .inputClose,
    .waitClose, .newsubsClose, .exit false] = true := rfl
example : accepts step {} [.new, .ref 0, .inputSend, .subAdd, .abort, .unref 1, .inputClose, .waitClose, .flush 1, .newsubsClose, .exit true] = true := rfl
example : accepts step {} [.new, .ref 0, .unref 1, .inputClose, .inputSend] = false := rfl   -- send on closed input
example : accepts step {} [.new, .ref 0, .ref 1, .unref 2, .inputClose] = false := rfl        -- closed while referenced
end BC


namespace Cons
open Model.Lifecycle.Cons

local macro "acc" h:ident : tactic =>
  `(tactic| (simp only [step] at $h:ident <;> (repeat' split at $h:ident) <;>
      first | (cases $h:ident; done) | (injection $h:ident with $h:ident; subst $h:ident; simp_all)))

/-- the documented order: when Consumer.Close is accepted every partition consumer that was registered has been
    removed again (its dispatcher has finished) -/
theorem close_order_consumer {pre : List Ev} {s : St} (h : run {} (pre ++ [.close]) = .ok s) :
    ∀ c, pre.count (.childAdd c) = pre.count (.childRemove c) := by
  obtain ⟨s1, _, h1, h3, _⟩ := runs.mid h
  have hp : s1.live = [] := by revert h3; unfold step; accepted; simp_all
  intro c
  -- the registry counts, per child, the registrations not yet undone
  have := runs.counts (·.live.count c) (· == .childAdd c) (· == .childRemove c) (fun _ => False)
    (by
      intro s e s' _
      cases e with
      | childAdd c0 => unfold step; accepted; by_cases hc : c0 = c <;> simp [hc]
      | childRemove c0 =>
        unfold step; accepted; rename_i hin
        have := List.count_pos_iff.mpr (Decidable.not_not.mp hin)
        by_cases hc : c0 = c
        · subst hc; simp; omega
        · simp [hc, List.count_erase_of_ne (Ne.symm hc)]
      | close => unfold step; accepted; simp)
    h1 (fun _ _ => id)
  simpa [hp, List.count] using this.symm

example : accepts step {} [.childAdd 1, .childAdd 2, .childRemove 1, .childRemove 2, .close, .close] = true := rfl
example : accepts step {} [.childAdd 1, .close] = false := rfl
end Cons

end Props.C12life
