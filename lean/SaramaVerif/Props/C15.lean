import SaramaVerif.Lemmas.C15Iter
/-
  C15 — client metadata answers reflect the latest cluster metadata.

  "Newest" is spelled out with plain `List.find?` on reversed lists (last entry wins), without the model's map
  functions.  (`kget` unfolds to the same `find?`, and proofs below close by that, with a `show` or a `rfl`.)
-/
namespace Props.C15
open Model.Metadata Lemmas.C15

def lastTopic (r : Resp) (t : Topic) : Option TopicMeta := r.topics.reverse.find? (fun tm => decide (tm.name = t))
def lastPart (ps : List PartMeta) (p : Int) : Option PartMeta := ps.reverse.find? (fun pm => decide (pm.id = p))
def lastBroker (r : Resp) (id : Int) : Option (Int × Addr) := r.brokers.reverse.find? (fun b => decide (b.1 = id))

/-- does the topic's error class keep (partial) partition results: ErrNoError and ErrLeaderNotAvailable -/
def keeps (e : Int) : Bool := decide (e = 0 ∨ e = 5)

private theorem stores_eq_keeps (e : Int) : (topicClass e).stores = keeps e := by
  rcases topicClass_cases e with ⟨rfl, h⟩ | ⟨rfl, h⟩ | ⟨rfl, h⟩ | ⟨h0, h5, _, h⟩ <;> rw [h]
  · rfl
  · rfl
  · rfl
  · exact (decide_eq_false fun hk => hk.elim h0 h5).symm

/-- What a refresh does to a topic's two map entries: the form from which the theorems about `Partitions`, `Leader`,
    `Replicas` … below, and the invariant `Good`, are read off. -/
theorem topic_update (s : State) (r : Resp) (full : Bool) (t : Topic) :
    topicView (updateMetadata s r full).s t =
      match lastTopic r t with
      | some tm => if keeps tm.err then
                     (some (tm.name, buildParts tm.parts),
                      some (tm.name, (allIds (buildParts tm.parts), writableIds (buildParts tm.parts))))
                   else (none, none)
      | none => if full then (none, none) else topicView s t := by
  rw [updateMetadata, foldl_applyTopic_view]
  show (lastTopic r t).elim _ _ = _
  cases lastTopic r t with
  | some tm => exact (by rw [storedView, stores_eq_keeps] : storedView tm = _)
  | none => cases full <;> rfl

theorem cachedMetadata_update (s : State) (r : Resp) (full : Bool) (t : Topic) (p : Int) :
    cachedMetadata (updateMetadata s r full).s t p =
      match lastTopic r t with
      | some tm => if keeps tm.err then lastPart tm.parts p else none
      | none => if full then none else cachedMetadata s t p := by
  rw [cachedMetadata, show kget Prod.fst t _ = _ from congrArg Prod.fst (topic_update s r full t)]
  cases lastTopic r t with
  | some tm =>
    dsimp only
    cases keeps tm.err
    · rfl
    · exact kget_buildParts tm.parts p
  | none => cases full <;> rfl

theorem cachedPartitions_update (s : State) (r : Resp) (full : Bool) (t : Topic) (w : Bool) :
    cachedPartitions (updateMetadata s r full).s t w =
      match lastTopic r t with
      | some tm => if keeps tm.err then
                     some (if w then writableIds (buildParts tm.parts) else allIds (buildParts tm.parts))
                   else none
      | none => if full then none else cachedPartitions s t w := by
  rw [cachedPartitions, show kget Prod.fst t _ = _ from congrArg Prod.snd (topic_update s r full t)]
  cases lastTopic r t with
  | some tm =>
    dsimp only
    cases keeps tm.err <;> cases w <;> rfl
  | none => cases full <;> rfl

theorem brokers_update (s : State) (r : Resp) (full : Bool) :
    (updateMetadata s r full).s.brokers = updateBrokers s.brokers r.brokers ∧
    (updateMetadata s r full).s.controller = r.controller ∧
    (updateMetadata s r full).s.seeds = s.seeds ∧ (updateMetadata s r full).s.dead = s.dead := by
  have h := foldl_applyTopic_frame r.topics ⟨resetIfFull full (withBrokers s r), false, errNone⟩
  cases full <;> exact h

/-- After a refresh whose response lists topic `t` (last entry `tm`, class "keep"), the cached list of all
    partitions is strictly ascending and has exactly the partition ids of that entry — whatever the cache
    held before (so: for every sequence of earlier responses). -/
theorem partitions_after_refresh (s : State) (r : Resp) (full : Bool) (t : Topic) (tm : TopicMeta)
    (ht : lastTopic r t = some tm) (hk : keeps tm.err = true) :
    ∃ l, cachedPartitions (updateMetadata s r full).s t false = some l ∧ l.Pairwise (· < ·) ∧
         ∀ p, p ∈ l ↔ ∃ pm ∈ tm.parts, pm.id = p := by
  rw [cachedPartitions_update, ht]
  simp only [hk, ↓reduceIte, Bool.false_eq_true]
  have hs := allIds_spec (buildParts tm.parts) (buildParts_nodup tm.parts)
  refine ⟨_, rfl, hs.1, ?_⟩
  intro p
  rw [hs.2 p, kget_buildParts, kget_isSome]
  simp

example :
    cachedPartitions (updateMetadata (init [1]) ⟨[(1, 11)], 1,
      [⟨7, 0, [⟨2, 1, [1], [1], [], 0⟩, ⟨0, 1, [1], [1], [], 5⟩, ⟨1, 9, [1], [1], [], 0⟩, ⟨2, 1, [], [], [], 0⟩]⟩]⟩ false).s 7 false
      = some [0, 1, 2] := by decide +kernel

/-- … and the writable list is strictly ascending and has exactly the ids whose (last) entry does not carry
    ErrLeaderNotAvailable. -/
theorem writable_spec (s : State) (r : Resp) (full : Bool) (t : Topic) (tm : TopicMeta)
    (ht : lastTopic r t = some tm) (hk : keeps tm.err = true) :
    ∃ l, cachedPartitions (updateMetadata s r full).s t true = some l ∧ l.Pairwise (· < ·) ∧
         ∀ p, p ∈ l ↔ ∃ pm, lastPart tm.parts p = some pm ∧ pm.err ≠ 5 := by
  rw [cachedPartitions_update, ht]
  simp only [hk, ↓reduceIte]
  have hs := writableIds_spec (buildParts tm.parts) (buildParts_nodup tm.parts)
  refine ⟨_, rfl, hs.1, ?_⟩
  intro p
  rw [hs.2 p]
  simp only [kget_buildParts]
  rfl

example :
    cachedPartitions (updateMetadata (init [1]) ⟨[(1, 11)], 1,
      [⟨7, 0, [⟨2, 1, [1], [1], [], 0⟩, ⟨0, 1, [1], [1], [], 5⟩, ⟨1, 9, [1], [1], [], 0⟩]⟩]⟩ false).s 7 true
      = some [1, 2] := by decide +kernel

theorem metadata_after_refresh (s : State) (r : Resp) (full : Bool) (t : Topic) (tm : TopicMeta) (p : Int)
    (ht : lastTopic r t = some tm) (hk : keeps tm.err = true) :
    cachedMetadata (updateMetadata s r full).s t p = lastPart tm.parts p := by
  rw [cachedMetadata_update, ht]
  exact if_pos hk

/-- `Leader`: what the newest response says; a leader id that is not among the brokers of the newest response
    is reported as ErrLeaderNotAvailable. -/
theorem leader_spec (s : State) (r : Resp) (full : Bool) (t : Topic) (tm : TopicMeta) (p : Int)
    (ht : lastTopic r t = some tm) (hk : keeps tm.err = true) :
    cachedLeader (updateMetadata s r full).s t p =
      match lastPart tm.parts p with
      | none => .unknownTopicOrPartition
      | some pm =>
        if pm.err = 5 then .leaderNotAvailable
        else match lastBroker r pm.leader with
          | none => .leaderNotAvailable
          | some b => .broker b.1 b.2 := by
  unfold cachedLeader
  rw [metadata_after_refresh s r full t tm p ht hk, (brokers_update s r full).1]
  unfold leaderVerdict
  cases lastPart tm.parts p with
  | none => rfl
  | some pm =>
    simp only [errLeaderNotAvailable, kget_updateBrokers]
    rfl

/-- never a stale broker: whatever topic is asked (also one last refreshed long ago), a broker returned by
    `Leader` right after a refresh is an entry of THAT refresh's broker list. -/
theorem leader_never_stale (s : State) (r : Resp) (full : Bool) (t : Topic) (p : Int) (id : Int) (a : Addr)
    (h : cachedLeader (updateMetadata s r full).s t p = .broker id a) : (id, a) ∈ r.brokers := by
  unfold cachedLeader leaderVerdict at h
  rw [(brokers_update s r full).1] at h
  split at h
  · cases h
  · split at h
    · cases h
    · split at h
      · cases h
      · rename_i b hb
        rw [kget_updateBrokers] at hb
        have := (kget_some Prod.fst hb).2
        cases h
        simpa using this

example :
    cachedLeader (updateMetadata
        (updateMetadata (init [1]) ⟨[(1, 11), (2, 12)], 1, [⟨7, 0, [⟨0, 2, [2], [2], [], 0⟩]⟩]⟩ true).s
        ⟨[(1, 11)], 1, []⟩ false).s 7 0 = .leaderNotAvailable := by decide +kernel

/-- "writable = leader available": for a response that marks a partition ErrLeaderNotAvailable exactly when its
    leader is not in the broker list it sends (what Kafka brokers do), the writable list has exactly the
    partitions for which `Leader` returns a broker. -/
theorem writable_iff_leader_available (s : State) (r : Resp) (full : Bool) (t : Topic) (tm : TopicMeta)
    (ht : lastTopic r t = some tm) (hk : keeps tm.err = true)
    (hfaith : ∀ p pm, lastPart tm.parts p = some pm → (pm.err = 5 ↔ lastBroker r pm.leader = none))
    (l : List Int) (hl : cachedPartitions (updateMetadata s r full).s t true = some l) (p : Int) :
    p ∈ l ↔ leaderIsBroker (cachedLeader (updateMetadata s r full).s t p) = true := by
  rcases writable_spec s r full t tm ht hk with ⟨l', hl', _, hmem⟩
  rw [hl] at hl'
  cases hl'
  rw [hmem p, leader_spec s r full t tm p ht hk]
  cases hp : lastPart tm.parts p with
  | none => simp [leaderIsBroker]
  | some pm =>
    have hf := hfaith p pm hp
    by_cases h5 : pm.err = 5
    · simp [h5, leaderIsBroker]
    · have hb : lastBroker r pm.leader ≠ none := fun e => h5 (hf.mpr e)
      cases hlb : lastBroker r pm.leader with
      | none => exact absurd hlb hb
      | some b => simp [h5, leaderIsBroker, hlb]

/-- without that hypothesis the two can differ: an entry with ErrNoError whose leader id is in no broker entry is
    listed writable, while `Leader` answers ErrLeaderNotAvailable (the code filters on the error code only) -/
example :
    cachedPartitions (updateMetadata (init [1]) ⟨[(1, 11)], 1, [⟨7, 0, [⟨0, 9, [1], [1], [], 0⟩]⟩]⟩ false).s 7 true
      = some [0] ∧
    cachedLeader (updateMetadata (init [1]) ⟨[(1, 11)], 1, [⟨7, 0, [⟨0, 9, [1], [1], [], 0⟩]⟩]⟩ false).s 7 0
      = .leaderNotAvailable := by decide +kernel

/-- `Replicas`, `InSyncReplicas`, `OfflineReplicas`: the lists of the newest response's entry (with
    ErrReplicaNotAvailable passed on next to the list), ErrUnknownTopicOrPartition when the entry is absent. -/
theorem replicas_isr_offline_spec (s : State) (r : Resp) (full : Bool) (t : Topic) (tm : TopicMeta) (p : Int)
    (sel : PartMeta → List Int) (ht : lastTopic r t = some tm) (hk : keeps tm.err = true) :
    replicasVerdict sel (cachedMetadata (updateMetadata s r full).s t p) =
      match lastPart tm.parts p with
      | none => .err 3
      | some pm => if pm.err = 9 then .okReplicaNotAvailable (sel pm) else .ok (sel pm) := by
  rw [metadata_after_refresh s r full t tm p ht hk]
  rfl

example :
    replicasVerdict PartMeta.isr (cachedMetadata (updateMetadata (init [1]) ⟨[(1, 11)], 1,
      [⟨7, 0, [⟨0, 1, [1, 2], [2], [3], 9⟩]⟩]⟩ false).s 7 0) = .okReplicaNotAvailable [2] := by decide +kernel

/-- the classes of `switch topic.Err`: exactly ErrNoError and ErrLeaderNotAvailable keep (partial) results;
    every other error forgets the topic (metadata and both cached lists) but keeps it tracked. -/
theorem topic_error_classes (s : State) (r : Resp) (full : Bool) (t : Topic) (tm : TopicMeta)
    (ht : lastTopic r t = some tm) :
    (keeps tm.err = false →
        (∀ p, cachedMetadata (updateMetadata s r full).s t p = none) ∧
        (∀ w, cachedPartitions (updateMetadata s r full).s t w = none)) ∧
    (keeps tm.err = true →
        (∀ p, cachedMetadata (updateMetadata s r full).s t p = lastPart tm.parts p) ∧
        (∀ w, (cachedPartitions (updateMetadata s r full).s t w).isSome)) ∧
    t ∈ (updateMetadata s r full).s.tracked := by
  refine ⟨?_, ?_, ?_⟩
  · intro hk
    constructor
    · intro p; rw [cachedMetadata_update, ht]; simp [hk]
    · intro w; rw [cachedPartitions_update, ht]; simp [hk]
  · intro hk
    constructor
    · intro p; rw [cachedMetadata_update, ht]; simp [hk]
    · intro w; rw [cachedPartitions_update, ht]; simp [hk]
  · unfold updateMetadata
    rw [foldl_applyTopic_tracked]
    have h := kget_some TopicMeta.name ht
    exact .inl ⟨tm, List.mem_reverse.mp h.2, h.1⟩

def asksRetry (tm : TopicMeta) : Bool :=
  decide (tm.err = 3 ∨ tm.err = 5 ∨ (tm.err = 0 ∧ ∃ pm ∈ tm.parts, pm.err = 5))

private theorem topicRetry_eq (tm : TopicMeta) : topicRetry tm = asksRetry tm := by
  rw [topicRetry, asksRetry]
  rcases topicClass_cases tm.err with ⟨he, h⟩ | ⟨he, h⟩ | ⟨he, h⟩ | ⟨h0, h5, h3, h⟩ <;> rw [h]
  · unfold partsRetry errLeaderNotAvailable
    rw [Bool.eq_iff_iff]
    simp [he, List.any_eq_true]
  · simp [he]
  · simp [he]
  · simp [h0, h5, h3]

/-- retry is asked for ErrUnknownTopicOrPartition, ErrLeaderNotAvailable and leaderless partitions; the error
    returned is the last forgetting topic's -/
theorem retry_and_error_spec (s : State) (r : Resp) (full : Bool) :
    (updateMetadata s r full).retry = r.topics.any asksRetry ∧
    (updateMetadata s r full).err =
      match r.topics.reverse.find? (fun tm => !keeps tm.err) with
      | some tm => tm.err
      | none => 0 := by
  rw [updateMetadata, foldl_applyTopic_retry, foldl_applyTopic_err]
  constructor
  · rw [Bool.false_or, funext topicRetry_eq]
  · have : (fun tm : TopicMeta => decide ((topicClass tm.err).stores = false)) = (fun tm => !keeps tm.err) :=
      funext fun tm => by rw [stores_eq_keeps]; cases keeps tm.err <;> rfl
    rw [this]
    cases r.topics.reverse.find? (fun tm => !keeps tm.err) <;> rfl

example : (updateMetadata (init [1]) ⟨[(1, 11)], 1,
      [⟨7, 3, []⟩, ⟨8, 17, []⟩, ⟨9, 0, [⟨0, 1, [], [], [], 0⟩]⟩]⟩ false).retry = true ∧
    (updateMetadata (init [1]) ⟨[(1, 11)], 1,
      [⟨7, 3, []⟩, ⟨8, 17, []⟩, ⟨9, 0, [⟨0, 1, [], [], [], 0⟩]⟩]⟩ false).err = 17 := by decide +kernel

/-- After a refresh the broker map IS the newest response's broker list: every id answers with the last
    entry carrying it (new id → added, changed address → replaced), ids absent from the response are gone;
    ids stay unique; the controller id is the response's. -/
theorem brokers_reconciled (s : State) (r : Resp) (full : Bool) :
    (∀ id, kget Prod.fst id (updateMetadata s r full).s.brokers = lastBroker r id) ∧
    (BNodup s → BNodup (updateMetadata s r full).s) ∧
    (updateMetadata s r full).s.controller = r.controller := by
  have h := brokers_update s r full
  refine ⟨?_, ?_, h.2.1⟩
  · intro id
    rw [h.1, kget_updateBrokers]
    rfl
  · intro hn
    unfold BNodup
    rw [h.1]
    exact updateBrokers_nodup _ _ hn

example : (updateMetadata
      (updateMetadata (init [1]) ⟨[(1, 11), (2, 12), (3, 13)], 1, []⟩ true).s
      ⟨[(3, 33), (1, 11)], 3, []⟩ false).s.brokers = [(3, 33), (1, 11)] := by decide +kernel

/-- a full refresh forgets everything the response does not mention: metadata, both cached lists and the
    tracked-topics set are exactly the response's. -/
theorem full_refresh_resets (s : State) (r : Resp) (t : Topic) (ht : lastTopic r t = none) :
    (∀ p, cachedMetadata (updateMetadata s r true).s t p = none) ∧
    (∀ w, cachedPartitions (updateMetadata s r true).s t w = none) ∧
    t ∉ (updateMetadata s r true).s.tracked := by
  refine ⟨?_, ?_, ?_⟩
  · intro p; rw [cachedMetadata_update, ht]; simp
  · intro w; rw [cachedPartitions_update, ht]; simp
  · unfold updateMetadata
    rw [foldl_applyTopic_tracked]
    simp only [resetIfFull, ↓reduceIte, List.not_mem_nil, or_false]
    rintro ⟨tm, hm, e⟩
    exact (kget_none TopicMeta.name).mp ht tm (List.mem_reverse.mpr hm) e

theorem partial_refresh_keeps_others (s : State) (r : Resp) (t : Topic) (ht : lastTopic r t = none) :
    (∀ p, cachedMetadata (updateMetadata s r false).s t p = cachedMetadata s t p) ∧
    (∀ w, cachedPartitions (updateMetadata s r false).s t w = cachedPartitions s t w) := by
  constructor
  · intro p; rw [cachedMetadata_update, ht]; simp
  · intro w; rw [cachedPartitions_update, ht]; simp

example : cachedPartitions (updateMetadata
      (updateMetadata (init [1]) ⟨[(1, 11)], 1, [⟨7, 0, [⟨0, 1, [], [], [], 0⟩]⟩]⟩ false).s
      ⟨[(1, 11)], 1, [⟨8, 0, [⟨0, 1, [], [], [], 0⟩]⟩]⟩ true).s 7 false = none := by decide +kernel

/-- the state invariant readers rely on: both cached lists of every topic are what `setPartitionCache` computes
    from the metadata map of the SAME state (and a topic has cached lists iff it has metadata) -/
def SInv (s : State) : Prop := ∀ t w, cachedPartitions s t w = setPartitionCache s.metadata t w

/-- `SInv` per topic, with what makes it inductive: the cached lists are those of the topic's metadata entry, whose
    partition ids are unique (it is a `buildParts`; `lists_of_good` needs that). -/
def ViewOK (v : Option (Topic × List PartMeta) × Option (Topic × (List Int × List Int))) : Prop :=
  v.2.map Prod.snd = v.1.map (fun e => (allIds e.2, writableIds e.2)) ∧ ∀ e, v.1 = some e → (keys PartMeta.id e.2).Nodup

def Good (s : State) : Prop := ∀ t, ViewOK (topicView s t)

theorem good_init (seeds : List Addr) : Good (init seeds) := fun _ => ⟨rfl, nofun⟩

theorem good_update (s : State) (r : Resp) (full : Bool) (h : Good s) : Good (updateMetadata s r full).s := by
  intro t
  rw [topic_update]
  have hnone : ViewOK (none, none) := ⟨rfl, nofun⟩
  cases lastTopic r t with
  | some tm =>
    dsimp only
    cases keeps tm.err
    · exact hnone
    · exact ⟨rfl, fun e he => Option.some.inj he ▸ buildParts_nodup tm.parts⟩
  | none =>
    cases full
    · exact h t
    · exact hnone

theorem good_step (s : State) (op : Op) (h : Good s) : Good (step s op) := by
  cases op with
  | update r full => exact good_update s r full h
  | deregSeed =>
    have e : topicView (deregisterSeed s) = topicView s := by
      unfold deregisterSeed; split <;> rfl
    exact fun t => e ▸ h t
  | _ => exact h

theorem good_run (seeds : List Addr) (ops : List Op) : Good (run (init seeds) ops) :=
  foldl_preserves (P := Good) (fun s op h => good_step s op h) ops (good_init seeds)

theorem sinv_of_good {s : State} (h : Good s) : SInv s := by
  intro t w
  have h1 := (h t).1
  unfold cachedPartitions setPartitionCache
  simp only [topicView] at h1
  cases hm : kget Prod.fst t s.metadata <;> cases hc : kget Prod.fst t s.cached <;> rw [hm, hc] at h1
  · rfl
  · cases h1
  · cases h1
  · simp only [Option.map_some, Option.some.inj h1]

/-- invariant over EVERY operation sequence (refreshes full or per topic, brokers set aside, seeds resurrected,
    coordinators registered, RefreshBrokers): each step is atomic, so a reader between any two steps sees cached
    lists that are the function of the metadata map — never a mixture of two refreshes. -/
theorem derived_lists_consistent (seeds : List Addr) (ops : List Op) : SInv (run (init seeds) ops) :=
  sinv_of_good (good_run seeds ops)

/-- what the invariant gives a reader, in any state that has it (a reachable one, or one in the middle of a
    `tryRefresh`) -/
theorem lists_of_good {s : State} (hg : Good s) (t : Topic) :
    (∀ l, cachedPartitions s t false = some l →
        l.Pairwise (· < ·) ∧ ∀ p, p ∈ l ↔ (cachedMetadata s t p).isSome) ∧
    (∀ l, cachedPartitions s t true = some l →
        l.Pairwise (· < ·) ∧ ∀ p, p ∈ l ↔ ∃ pm, cachedMetadata s t p = some pm ∧ pm.err ≠ 5) ∧
    ((cachedPartitions s t false).isSome ↔ (cachedPartitions s t true).isSome) := by
  simp only [sinv_of_good hg t false, sinv_of_good hg t true, setPartitionCache, cachedMetadata]
  cases hm : kget Prod.fst t s.metadata with
  | none => exact ⟨fun _ h => (nomatch h), fun _ h => (nomatch h), Iff.rfl⟩
  | some e =>
    have hnd := (hg t).2 e hm
    refine ⟨fun l hl => ?_, fun l hl => ?_, Iff.rfl⟩
    · cases hl; exact allIds_spec e.2 hnd
    · cases hl; exact writableIds_spec e.2 hnd

/-- consequence for readers: in every reachable state the list `Partitions` serves is strictly ascending and
    has exactly the ids for which partition metadata is served; `WritablePartitions` exactly those whose
    metadata does not carry ErrLeaderNotAvailable. -/
theorem readers_see_consistent_lists (seeds : List Addr) (ops : List Op) (t : Topic) :
    (∀ l, cachedPartitions (run (init seeds) ops) t false = some l →
        l.Pairwise (· < ·) ∧ ∀ p, p ∈ l ↔ (cachedMetadata (run (init seeds) ops) t p).isSome) ∧
    (∀ l, cachedPartitions (run (init seeds) ops) t true = some l →
        l.Pairwise (· < ·) ∧
        ∀ p, p ∈ l ↔ ∃ pm, cachedMetadata (run (init seeds) ops) t p = some pm ∧ pm.err ≠ 5) ∧
    ((cachedPartitions (run (init seeds) ops) t false).isSome ↔
      (cachedPartitions (run (init seeds) ops) t true).isSome) :=
  lists_of_good (good_run seeds ops) t

/-! The whole history: the cache is the fold of the responses (the harness oracle's reference view). -/

/-- reference view: what response history `hist` (NEWEST FIRST; `(response, full?)`) says about partition `p`
    of topic `t`: the newest response mentioning the topic decides; a full refresh not mentioning it forgets it -/
def refPart : List (Resp × Bool) → Topic → Int → Option PartMeta
  | [], _, _ => none
  | (r, full) :: older, t, p =>
    match lastTopic r t with
    | some tm => if keeps tm.err then lastPart tm.parts p else none
    | none => if full then none else refPart older t p

def refBroker : List (Resp × Bool) → Int → Option (Int × Addr)
  | [], _ => none
  | (r, _) :: _, id => lastBroker r id

def runUpdates (s : State) (hist : List (Resp × Bool)) : State :=
  hist.foldl (fun s rf => (updateMetadata s rf.1 rf.2).s) s

/-- For EVERY sequence of metadata responses (oldest first), full or per-topic, the metadata served for every
    topic/partition and the broker served for every id are those of the reference view. -/
theorem history_view (seeds : List Addr) (hist : List (Resp × Bool)) (t : Topic) (p : Int) (id : Int) :
    cachedMetadata (runUpdates (init seeds) hist) t p = refPart hist.reverse t p ∧
    kget Prod.fst id (runUpdates (init seeds) hist).brokers = refBroker hist.reverse id := by
  have key : ∀ (l : List (Resp × Bool)),
      cachedMetadata (runUpdates (init seeds) l.reverse) t p = refPart l t p ∧
      kget Prod.fst id (runUpdates (init seeds) l.reverse).brokers = refBroker l id := by
    intro l
    induction l with
    | nil => simp [runUpdates, refPart, refBroker, cachedMetadata, init, kget_nil]
    | cons rf l ih =>
      obtain ⟨r, full⟩ := rf
      have e : runUpdates (init seeds) ((r, full) :: l).reverse =
          (updateMetadata (runUpdates (init seeds) l.reverse) r full).s := by
        simp [runUpdates, List.foldl_append]
      rw [e]
      constructor
      · rw [cachedMetadata_update, refPart, ih.1]
      · rw [(brokers_reconciled _ r full).1 id]; rfl
  have := key hist.reverse
  rwa [List.reverse_reverse] at this

example : refPart [(⟨[], 0, []⟩, false), (⟨[], 0, [⟨7, 0, [⟨0, 1, [], [], [], 0⟩]⟩]⟩, true)] 7 0
    = some ⟨0, 1, [], [], [], 0⟩ := by decide +kernel

/-! `Partitions` refreshes once on a miss. The model has `WritablePartitions`, `Replicas` … and `Leader` in the same
    pattern (`apiPartitions` / `apiReplicas` / `apiLeader`); the two theorems are stated for `Partitions` only. -/

theorem api_hit_reads_cache (refresh : State → State × Int) (s : State) (t : Topic) (l : List Int) (hl : l ≠ [])
    (h : cachedPartitions s t false = some l) :
    apiPartitions refresh s t false = (s, .ok l) := by
  unfold apiPartitions listMiss partitionsVerdict
  have : ¬ l.length = 0 := by
    intro e; exact hl (List.eq_nil_of_length_eq_zero e)
  simp [h, this]

theorem api_miss_refreshes_once (refresh : State → State × Int) (s : State) (t : Topic)
    (h : cachedPartitions s t false = none) :
    apiPartitions refresh s t false =
      if (refresh s).2 ≠ 0 then ((refresh s).1, .err (refresh s).2)
      else ((refresh s).1, partitionsVerdict (cachedPartitions (refresh s).1 t false)) := by
  unfold apiPartitions listMiss
  simp [h]

/-- One pass of `tryRefreshMetadata`: if at least one candidate (seed or known broker) answers and none
    returns one of the fatal errors, the pass ends at an answering candidate — however many others are
    unreachable and in whatever order (`pick`) the known brokers are tried. The answering candidate is the last
    one asked, no more requests are made than there are candidates, and the refresh result is
    `updateMetadata` of that answer on a state whose cache part is untouched. -/
theorem refresh_succeeds_if_any_answers (pick : List (Int × Addr) → Nat) (reach : Addr → Reach) (full : Bool)
    (s : State) (hnd : BNodup s)
    (hnf : ∀ a ∈ candidates s, ∀ e, reach a ≠ .fatal e)
    (hans : ∃ a ∈ candidates s, ∃ r, reach a = .answer r) :
    ∃ a r, a ∈ candidates s ∧ reach a = .answer r ∧
      (pass pick reach s).out = .answered r ∧
      (pass pick reach s).tried.getLast? = some a ∧
      (pass pick reach s).tried.length ≤ (candidates s).length ∧
      a ∈ candidates (pass pick reach s).s ∧
      (pass pick reach s).s.metadata = s.metadata ∧ (pass pick reach s).s.cached = s.cached ∧
      attempt pick reach full s =
        ((updateMetadata (pass pick reach s).s r full).s, (updateMetadata (pass pick reach s).s r full).retry,
         .fromUpdate (updateMetadata (pass pick reach s).s r full).err) := by
  obtain ⟨a, hac, r, hr, hout, hlast, hin⟩ := pass_answers pick reach s hnd hnf
    (hans.imp fun a h => ⟨h.1, fun hf => by obtain ⟨r, hr⟩ := h.2; cases hf.symm.trans hr⟩)
  have hfr := pass_frame pick reach s
  exact ⟨a, r, hac, hr, hout, hlast, hfr.1, hin, hfr.2.2.1, hfr.2.2.2.1, attempt_answered hout⟩

example :
    (pass (fun _ => 0) (fun a => if a = 13 then .answer ⟨[(3, 13)], 3, []⟩ else .fail)
      { init [10, 11] with brokers := [(2, 12), (3, 13)] }).tried = [10, 11, 12, 13] := by decide +kernel

set_option linter.unusedVariables false in
/-- Termination and exhaustion: a pass ends `ErrOutOfBrokers` only after EVERY candidate was asked and failed;
    then no known broker is left, all seeds sit in the dead list in order, and `resurrectDeadBrokers` makes them
    the seed list of the next attempt. The number of requests is bounded by the number of candidates (each
    failing candidate is set aside exactly once: a seed moves to the dead list, a known broker is dropped).
    The statement carries the hypothesis `hnf`, which the proof does not use: a fatal answer ends the pass at a
    candidate too (`pass_ends`). -/
theorem refresh_terminates (pick : List (Int × Addr) → Nat) (reach : Addr → Reach) (full : Bool) (s : State)
    (hnd : BNodup s) (hnf : ∀ a ∈ candidates s, ∀ e, reach a ≠ .fatal e) :
    (pass pick reach s).tried.length ≤ (candidates s).length ∧
    (∀ x ∈ (pass pick reach s).tried, x ∈ candidates s) ∧
    ((pass pick reach s).out = .outOfBrokers →
      (∀ a ∈ candidates s, reach a = .fail) ∧
      (pass pick reach s).s.brokers = [] ∧ (pass pick reach s).s.seeds = [] ∧
      (pass pick reach s).s.dead = s.dead ++ s.seeds ∧
      (attempt pick reach full s).1.seeds = s.dead ++ s.seeds ∧ (attempt pick reach full s).1.dead = [] ∧
      (attempt pick reach full s).2 = (true, .outOfBrokers)) := by
  have hfr := pass_frame pick reach s
  refine ⟨hfr.1, hfr.2.1, fun hout => ?_⟩
  rcases pass_ends pick reach s hnd with ⟨hall, _, hb, hs, hd⟩ | ⟨a, _, hne, hout', _⟩
  · rw [attempt_outOfBrokers hout]
    refine ⟨hall, hb, hs, hd, ?_, rfl, rfl⟩
    show (pass pick reach s).s.seeds ++ (pass pick reach s).s.dead = _
    rw [hs, hd]
    rfl
  · exact absurd (ended_outOfBrokers (hout'.symm.trans hout)) hne

example :
    (attempt (fun _ => 0) (fun _ => .fail) false { init [10, 11] with brokers := [(2, 12)], dead := [9] }).1.seeds
      = [9, 10, 11] := by decide +kernel

/-- Bounded retries with a seed that keeps answering: whatever the other candidates do (never fatal), every one of
    the at most `n+1` attempts of `tryRefreshMetadata` ends in `updateMetadata` of an answer — the refresh
    never reports ErrOutOfBrokers, and the answering seed is never set aside. -/
theorem refresh_with_live_seed (pick : Nat → List (Int × Addr) → Nat) (env : Nat → Addr → Reach) (full : Bool)
    (a0 : Addr) (hlive : ∀ n, ∃ r, env n a0 = .answer r) (hnf : ∀ n a e, env n a ≠ .fatal e)
    (n : Nat) (s : State) (hnd : BNodup s) (hs : a0 ∈ s.seeds) :
    (∃ e, (tryRefresh pick env full n s).2 = .fromUpdate e) ∧ a0 ∈ (tryRefresh pick env full n s).1.seeds ∧
    BNodup (tryRefresh pick env full n s).1 := by
  have one : ∀ k (s : State), BNodup s → a0 ∈ s.seeds →
      (∃ e, (attempt (pick k) (env k) full s).2.2 = .fromUpdate e) ∧ a0 ∈ (attempt (pick k) (env k) full s).1.seeds ∧
      BNodup (attempt (pick k) (env k) full s).1 := by
    intro k s hnd hs
    obtain ⟨r0, hr0⟩ := hlive k
    have hne : env k a0 ≠ .fail := fun hf => by cases hf.symm.trans hr0
    obtain ⟨a, _, r, _, hout, _⟩ := pass_answers (pick k) (env k) s hnd (fun a _ e => hnf k a e)
      ⟨a0, seed_mem_candidates hs, hne⟩
    have hfr := pass_frame (pick k) (env k) s
    rw [attempt_answered hout]
    refine ⟨⟨_, rfl⟩, ?_, (brokers_reconciled _ r full).2.1 (hfr.2.2.2.2.1 hnd)⟩
    show a0 ∈ (updateMetadata _ r full).s.seeds
    rw [(brokers_update _ r full).2.2.1]
    exact hfr.2.2.2.2.2 a0 hs hne
  induction n generalizing s with
  | zero =>
    unfold tryRefresh
    exact one 0 s hnd hs
  | succ n ih =>
    unfold tryRefresh
    have h1 := one (n + 1) s hnd hs
    split
    · exact ih _ h1.2.2 h1.2.1
    · exact h1

/-- Resurrection: when a whole pass fails (every seed and known broker unreachable) and one of the seeds, set
    aside in that pass or dead before it, answers at the next attempt, that attempt ends in `updateMetadata` of an
    answer. (That all of them are the seed list of the next attempt is in `refresh_terminates`.) -/
theorem dead_seeds_resurrected (pick : List (Int × Addr) → Nat) (env : Nat → Addr → Reach) (full : Bool)
    (n : Nat) (s : State) (hnd : BNodup s) (a0 : Addr) (hs : a0 ∈ s.seeds ++ s.dead)
    (hfail : ∀ a ∈ candidates s, env (n + 1) a = .fail)
    (hnf : ∀ a e, env n a ≠ .fatal e) (hans : ∃ r, env n a0 = .answer r) :
    ∃ r a, env n a = .answer r ∧
      (attempt pick (env n) full (attempt pick (env (n + 1)) full s).1).2.2 =
        .fromUpdate (updateMetadata (pass pick (env n) (attempt pick (env (n + 1)) full s).1).s r full).err := by
  -- the first pass is out of brokers
  rcases pass_ends pick (env (n + 1)) s hnd with ⟨_, hout, hb, hs1, hd1⟩ | ⟨a, hac, hne, _⟩
  · have hat := attempt_outOfBrokers (full := full) hout
    have hs' : a0 ∈ (attempt pick (env (n + 1)) full s).1.seeds := by
      rw [hat]
      show a0 ∈ (pass pick (env (n + 1)) s).s.seeds ++ (pass pick (env (n + 1)) s).s.dead
      rw [hs1, hd1]
      exact (List.mem_append.mp hs).elim (List.mem_append_right _) (List.mem_append_left _)
    have hnd' : BNodup (attempt pick (env (n + 1)) full s).1 := by
      rw [hat]
      exact (congrArg (fun bs => (keys Prod.fst bs).Nodup) hb).mpr List.nodup_nil
    obtain ⟨r0, hr0⟩ := hans
    obtain ⟨a, r, _, hr, _, _, _, _, _, _, hat2⟩ := refresh_succeeds_if_any_answers pick (env n) full _ hnd'
      (fun a _ e => hnf a e) ⟨a0, seed_mem_candidates hs', r0, hr0⟩
    exact ⟨r, a, hr, by rw [hat2]⟩
  · exact absurd (hfail a hac) hne

/-- `NewClient` with `Metadata.Full` (the model's `newClient` creates the client exactly when the initial full refresh
    ends with nil or one of the tolerated errors): if some seed answers (in whatever order the addresses were
    shuffled) with a response whose topic errors all keep their topics or are ErrTopicAuthorizationFailed, and asks
    for no retry, the client is created with exactly that response's view. -/
theorem new_client_created_if_seed_answers (pick : Nat → List (Int × Addr) → Nat) (env : Nat → Addr → Reach)
    (retryMax : Nat) (seeds : List Addr)
    (hnf : ∀ a e, env retryMax a ≠ .fatal e)
    (hans : ∃ a ∈ seeds, ∃ r, env retryMax a = .answer r)
    (hquiet : ∀ a r, env retryMax a = .answer r →
        r.topics.any asksRetry = false ∧ ∀ tm ∈ r.topics, keeps tm.err = true ∨ tm.err = 29) :
    ∃ a r, a ∈ seeds ∧ env retryMax a = .answer r ∧
      (newClient pick env true retryMax seeds).1 =
        some (updateMetadata (pass (pick retryMax) (env retryMax) (init seeds)).s r true).s := by
  have hc : candidates (init seeds) = seeds := List.append_nil _
  obtain ⟨a, r, hac, hr, _, _, _, _, _, _, hat⟩ := refresh_succeeds_if_any_answers (pick retryMax) (env retryMax) true
    (init seeds) List.nodup_nil (fun a _ e => hnf a e) (hc.symm ▸ hans)
  refine ⟨a, r, hc ▸ hac, hr, ?_⟩
  generalize (pass (pick retryMax) (env retryMax) (init seeds)).s = s1 at hat ⊢
  obtain ⟨hquiet, hkeep⟩ := hquiet a r hr
  obtain ⟨hretry, herr⟩ := retry_and_error_spec s1 r true
  -- the error returned is nil or that of a topic entry that is not kept, so ErrTopicAuthorizationFailed
  have htol : newClientTolerates (updateMetadata s1 r true).err = true := by
    rw [herr]
    cases hf : r.topics.reverse.find? (fun tm => !keeps tm.err) with
    | none => rfl
    | some tm =>
      have hnk : keeps tm.err ≠ true := fun h => by simpa [h] using List.find?_some hf
      show newClientTolerates tm.err = true
      rw [(hkeep tm (List.mem_reverse.mp (List.mem_of_find?_eq_some hf))).resolve_left hnk]
      rfl
  rw [newClient, if_pos rfl, tryRefresh_no_retry (by rw [hat]; exact hretry.trans hquiet), hat]
  exact congrArg Prod.fst (if_pos htol)

example : (newClient (fun _ _ => 0) (fun _ a => if a = 11 then .answer ⟨[(1, 11)], 1, [⟨7, 0, [⟨0, 1, [1], [1], [], 0⟩]⟩]⟩ else .fail)
    true 0 [10, 11, 12]).1.map (fun s => (s.seeds, s.dead, s.brokers)) = some ([11, 12], [10], [(1, 11)]) := by decide +kernel

end Props.C15
