import SaramaVerif.Model.PartProd
import SaramaVerif.Lemmas.C02pp
/-
  C02 — per-partition submission order survives retries.

  What is proved here (for EVERY arrival sequence at a partition producer, i.e. every fault script and schedule
  that produces it): the partition producer is FIFO per retry level - the data tokens of level ℓ leave it in
  exactly the order in which they arrived, and what has not left yet is exactly what is parked in the level's
  buffer (`pp_level_fifo`); a parked buffer only exists below the current high watermark
  (`parked_only_below_hwm`).  This is the component discipline the ordering argument of DESIGN.md (Appendix D,
  L3/L4) rests on; the broker worker's part (L2) is Props/C02bp.lean.  The end-to-end statement (of two messages of
  one partition submitted in this order by one goroutine the first copy of the first precedes the first copy of the
  second in the partition log, and if both succeed their offsets are in that order) is not proved here: the
  composition is `log_order_single_worker` (Props/C02sys.lean), `log_order_handover_chain` (Props/C02chain.lean) and
  `log_order_reselect` (Props/C02split.lean), under the restrictions listed there; beyond them it is decided per run
  by the oracle on the simulated partition logs.

  Tie: every pp.recv event of the real partitionProducer is replayed through `Model.PartProd.recvG`, with both
  outcomes of the leader look-up kept until the next event tells them apart (Driver/ProducerTrace.lean), and the
  actions the real code takes next (park / forward or fail / send chaser / consume chaser, with ids and levels)
  must be exactly the model's.
-/
namespace Props.C02
open Model.PartProd
open Lemmas.C02sys (recv_eq flush_ind mem_setBuf_nil)

def emitAt (l : Nat) : Action → Option Int
  | .emit id lv false => if lv = l then some id else none
  | _ => none

/-- ids of the data tokens of level `l` that left the partition producer, in order -/
def dataEmits (l : Nat) (as : List Action) : List Int := as.filterMap (emitAt l)

def dataArrivals (l : Nat) (ts : List Tok) : List Int :=
  (ts.filter (fun t => !t.fin && t.retries == l)).map (·.id)

def bufIds (s : St) (l : Nat) : List Int := (s.bufs l).map (·.id)

structure PPInv (s : St) : Prop where
  above : ∀ l, s.hwm ≤ l → s.bufs l = []
  typed : ∀ l, ∀ t ∈ s.bufs l, t.retries = l ∧ t.fin = false

theorem init_inv : PPInv {} := ⟨by intro l _; rfl, by intro l t h; simp at h⟩

private theorem dataEmits_append (l : Nat) (a b : List Action) :
    dataEmits l (a ++ b) = dataEmits l a ++ dataEmits l b := List.filterMap_append ..

private theorem dataEmits_buf (l k : Nat) (buf : List Tok) (h : ∀ t ∈ buf, t.retries = k ∧ t.fin = false) :
    dataEmits l (buf.map (fun t => Action.emit t.id t.retries t.fin)) = if k = l then buf.map (·.id) else [] := by
  induction buf with
  | nil => split <;> rfl
  | cons t ts ih =>
    have ih := ih fun x hx => h x (List.mem_cons_of_mem _ hx)
    simp only [dataEmits, List.map_cons, List.filterMap_cons, (h t List.mem_cons_self).1, (h t List.mem_cons_self).2,
      emitAt] at ih ⊢
    by_cases hk : k = l
    · simp only [hk, ↓reduceIte] at ih ⊢; rw [ih]
    · simp only [hk, ↓reduceIte] at ih ⊢; exact ih

private theorem flush_spec (h : Nat) (bufs : Nat → List Tok) (expect : Nat → Bool)
    (hty : ∀ l, ∀ t ∈ bufs l, t.retries = l ∧ t.fin = false) :
    ((∀ l, h ≤ l → bufs l = []) → ∀ l, (flush h bufs expect).1 ≤ l → (flush h bufs expect).2.1 l = []) ∧
    (∀ l, ∀ t ∈ (flush h bufs expect).2.1 l, t ∈ bufs l) ∧
    ∀ l, dataEmits l (flush h bufs expect).2.2 ++ ((flush h bufs expect).2.1 l).map (·.id) = (bufs l).map (·.id) := by
  -- one level: the buffer of `h` is emitted and emptied
  have emp : ∀ {h} {bufs : Nat → List Tok}, (∀ l, h + 1 ≤ l → bufs l = []) → ∀ l, h ≤ l → setBuf bufs h [] l = [] :=
    fun a l hl => by
      unfold setBuf; split
      · rfl
      · next hne => exact a l (Nat.lt_of_le_of_ne hl fun e => hne e.symm)
  have one : ∀ {h} {bufs : Nat → List Tok}, (∀ t ∈ bufs h, t.retries = h ∧ t.fin = false) → ∀ l,
      dataEmits l ((bufs h).map fun t => Action.emit t.id t.retries t.fin) ++ (setBuf bufs h [] l).map (·.id) =
        (bufs l).map (·.id) := fun {h bufs} hty l => by
    rw [dataEmits_buf l h (bufs h) hty, setBuf]
    by_cases hl : h = l
    · subst hl; rw [if_pos rfl, if_pos rfl]; exact List.append_nil _
    · rw [if_neg hl, if_neg (Ne.symm hl)]; rfl
  exact flush_ind expect
    (P := fun h bufs r => (∀ l, ∀ t ∈ bufs l, t.retries = l ∧ t.fin = false) →
      ((∀ l, h ≤ l → bufs l = []) → ∀ l, r.1 ≤ l → r.2.1 l = []) ∧ (∀ l, ∀ t ∈ r.2.1 l, t ∈ bufs l) ∧
      ∀ l, dataEmits l r.2.2 ++ (r.2.1 l).map (·.id) = (bufs l).map (·.id))
    (fun _ _ => ⟨fun a l _ => a l (Nat.zero_le l), fun _ _ ht => ht, fun _ => rfl⟩)
    (fun h _ _ hty => ⟨emp, fun _ _ => mem_setBuf_nil, one (hty h)⟩)
    (fun h _ _ _ ih hty =>
      have ⟨i1, i2, i3⟩ := ih fun l t ht => hty l t (mem_setBuf_nil ht)
      ⟨fun a => i1 (emp a), fun l t ht => mem_setBuf_nil (i2 l t ht), fun l => by
        rw [dataEmits_append, List.append_assoc, i3 l, one (hty h) l]⟩) h bufs hty

private theorem arrivals_single (l : Nat) (t : Tok) :
    dataArrivals l [t] = if t.fin = false ∧ t.retries = l then [t.id] else [] := by
  simp only [dataArrivals, List.filter_cons, List.filter_nil]
  cases t.fin <;> by_cases hr : t.retries = l <;> simp [hr]

/-- a token let through at a level at or above the high watermark: nothing of that level is parked, so it leaves in
    its turn -/
private theorem pass_level {s : St} (hi : PPInv s) (t : Tok) (h : s.hwm ≤ t.retries) (l : Nat) :
    dataEmits l [Action.emit t.id t.retries t.fin] ++ bufIds s l = bufIds s l ++ dataArrivals l [t] := by
  rw [arrivals_single]
  cases hf : t.fin
  · by_cases hl : t.retries = l
    · simp [dataEmits, emitAt, hl, bufIds, hi.above l (hl ▸ h)]
    · simp [dataEmits, emitAt, hl]
  · rw [if_neg fun e => nomatch e.1]; exact (List.append_nil _).symm

private theorem park_level {s : St} (hi : PPInv s) (t : Tok) (h : t.retries < s.hwm) (hf : t.fin = false) (l : Nat) :
    bufIds { s with bufs := setBuf s.bufs t.retries (s.bufs t.retries ++ [t]) } l = bufIds s l ++ dataArrivals l [t] ∧
    PPInv { s with bufs := setBuf s.bufs t.retries (s.bufs t.retries ++ [t]) } := by
  refine ⟨?_, fun k hk => ?_, fun k x hx => ?_⟩
  · show (setBuf _ _ _ l).map _ = _
    rw [arrivals_single, hf, setBuf]
    by_cases hl : l = t.retries
    · subst hl; rw [if_pos rfl, if_pos ⟨rfl, rfl⟩, List.map_append]; rfl
    · rw [if_neg hl, if_neg fun e => hl e.2.symm]; exact (List.append_nil _).symm
  · show setBuf _ _ _ k = []
    rw [setBuf, if_neg (Nat.ne_of_gt (Nat.lt_of_lt_of_le h hk))]; exact hi.above k hk
  · have hx : x ∈ setBuf _ _ _ k := hx
    unfold setBuf at hx
    split at hx
    · next hk =>
      rcases List.mem_append.1 hx with hx | hx
      · exact hi.typed _ x (hk ▸ hx)
      · cases List.mem_singleton.1 hx; exact ⟨hk.symm, hf⟩
    · exact hi.typed k x hx

theorem recv_level (s : St) (t : Tok) (hi : PPInv s) (l : Nat) :
    dataEmits l (recv s t).2 ++ bufIds (recv s t).1 l = bufIds s l ++ dataArrivals l [t] ∧ PPInv (recv s t).1 := by
  rcases recv_eq s t with ⟨h1, e⟩ | ⟨_, hf, e⟩ | ⟨h3, hf, e⟩ | ⟨_, _, hf, e⟩ | ⟨h, _, e⟩ <;> rw [e]
  · exact ⟨pass_level hi t (Nat.le_of_lt h1) l, fun k hk => hi.above k (Nat.le_trans (Nat.le_of_lt h1) hk), hi.typed⟩
  · refine ⟨?_, hi.above, hi.typed⟩
    rw [arrivals_single, hf]; exact (List.append_nil _).symm
  · exact park_level hi t h3 hf l
  · obtain ⟨f1, f2, f3⟩ := flush_spec s.hwm s.bufs (setExp s.expect s.hwm false) hi.typed
    refine ⟨?_, f1 hi.above, fun k x hx => hi.typed k x (f2 k x hx)⟩
    rw [arrivals_single, hf]
    exact (f3 l).trans (List.append_nil _).symm
  · exact ⟨pass_level hi t (Nat.le_of_eq h.symm) l, hi⟩

theorem recvG_level (s : St) (t : Tok) (a : Bool) (hi : PPInv s) (l : Nat) :
    dataEmits l (recvG s t a).2 ++ bufIds (recvG s t a).1 l = bufIds s l ++ dataArrivals l [t] ∧ PPInv (recvG s t a).1 := by
  unfold recvG
  split
  · next h => exact ⟨pass_level hi t (Nat.le_of_lt h.1) l, hi⟩
  · exact recv_level s t hi l

theorem runAll_eq_runAllG (s : St) (ts : List Tok) : runAll s ts = runAllG s (ts.map fun t => (t, true)) := by
  induction ts generalizing s with
  | nil => rfl
  | cons t ts ih =>
    have : recvG s t true = recv s t := if_neg fun h => nomatch h.2
    simp only [runAll, List.map_cons, runAllG, this, ih]

theorem runAllG_level (ts : List (Tok × Bool)) (l : Nat) (s : St) (hi : PPInv s) :
    dataEmits l (runAllG s ts).2 ++ bufIds (runAllG s ts).1 l = bufIds s l ++ dataArrivals l (ts.map (·.1)) ∧
    PPInv (runAllG s ts).1 := by
  induction ts generalizing s with
  | nil => exact ⟨(List.append_nil _).symm, hi⟩
  | cons ta ts ih =>
    obtain ⟨h1, h2⟩ := recvG_level s ta.1 ta.2 hi l
    obtain ⟨h3, h4⟩ := ih (recvG s ta.1 ta.2).1 h2
    refine ⟨?_, h4⟩
    have hsplit : dataArrivals l (ta.1 :: ts.map (·.1)) = dataArrivals l [ta.1] ++ dataArrivals l (ts.map (·.1)) := by
      simp only [dataArrivals, ← List.map_append, ← List.filter_append, List.singleton_append]
    rw [runAllG, dataEmits_append, List.map_cons, hsplit, List.append_assoc, h3, ← List.append_assoc, h1,
      List.append_assoc]

/-- Per-level FIFO under `recvG`: for every arrival sequence and every outcome of the leader look-ups. -/
theorem pp_level_fifo_G (ts : List (Tok × Bool)) (l : Nat) :
    dataEmits l (runAllG {} ts).2 ++ bufIds (runAllG {} ts).1 l = dataArrivals l (ts.map (·.1)) :=
  (runAllG_level ts l {} init_inv).1

theorem runAllG_inv (ts : List (Tok × Bool)) : ∀ (s : St), PPInv s → PPInv (runAllG s ts).1 :=
  fun s hi => (runAllG_level ts 0 s hi).2

theorem parked_only_below_hwm_G (ts : List (Tok × Bool)) (l : Nat) (h : (runAllG {} ts).1.hwm ≤ l) :
    (runAllG {} ts).1.bufs l = [] := (runAllG_inv ts {} init_inv).above l h

/-- Per-level FIFO for every arrival sequence: the data tokens of a level leave the partition producer in
    arrival order, and the ones that have not left are exactly the parked ones (a suffix of the arrivals). -/
theorem pp_level_fifo (ts : List Tok) (l : Nat) :
    dataEmits l (runAll {} ts).2 ++ bufIds (runAll {} ts).1 l = dataArrivals l ts := by
  have := pp_level_fifo_G (ts.map fun t => (t, true)) l
  rwa [← runAll_eq_runAllG, List.map_map, show ((·.1) ∘ fun t : Tok => (t, true)) = id from rfl, List.map_id] at this

theorem runAll_inv (ts : List Tok) : ∀ (s : St), PPInv s → PPInv (runAll s ts).1 :=
  fun s hi => runAll_eq_runAllG s ts ▸ runAllG_inv _ s hi

theorem parked_only_below_hwm (ts : List Tok) (l : Nat) (h : (runAll {} ts).1.hwm ≤ l) :
    (runAll {} ts).1.bufs l = [] := (runAll_inv ts {} init_inv).above l h

/-! a retry at level 1 with fresh input arriving meanwhile; the parked fresh message leaves after
    the retried one, in arrival order of its level -/
example :
    let ts := [⟨1, 0, false⟩, ⟨2, 0, false⟩, ⟨1, 1, false⟩, ⟨3, 0, false⟩, ⟨2, 1, false⟩, ⟨-1, 1, true⟩, ⟨4, 0, false⟩]
    (runAll {} ts).2 = [.emit 1 0 false, .emit 2 0 false, .finSend 0, .emit 1 1 false, .park 3, .emit 2 1 false,
                        .finDone, .emit 3 0 false, .emit 4 0 false] := by decide +kernel

end Props.C02
