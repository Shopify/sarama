/-
  C02 / C01 / C12, composition, PROGRESS of the producer pipeline (`Model.Pipeline`), for the executions the real
  producer has (handover chains, Props/C02chain.lean; `HandoverChain` is checked on every replayed run):
    * `no_stuck_state` - ENABLEDNESS: in every reachable state in which some submitted id has neither a success
      nor an error, a choice that moves a token (not `submit`, not `moveLeader`, not `closeW`) is enabled.
      (`no_stuck_state_handover_chain`: a reachable state is quiet or has such a choice;
       `no_loss_handover_chain`: every submitted id is held somewhere or has an outcome - `no_loss`: in EVERY
       run of the model, handover chain or not.)
    * `moves_bounded` / `moves_terminate` - TERMINATION: the variant `Lemmas.C02sys.vmu` (a weight per token by
      its place, 32 per retry left) falls at every token-moving choice, so after any reachable state at most
      `vmu` such choices can happen before the next submission, under EVERY scheduling (no fairness needed
      beyond "an enabled token-moving choice is eventually taken"; `moveLeader` leaves the variant unchanged).
    Together: without new submissions every maximal run decides every submitted message
    (`all_decided_when_nothing_moves`).
  The one place where a message can wait for something else is a retry buffer of the partition producer; the
  clause `Lemmas.C02sys.FinS` of the chain invariant `CInv` says that the chaser it waits for is always on its way.
  What this does NOT say about the Go code: that its goroutines are scheduled fairly, that the broker answers,
  that channel operations the model treats as one step (a token moving from one queue to the next) cannot block
  for other reasons (Flush.* timers, MaxOpenRequests, back-pressure of unread Successes/Errors channels).
  At the end, two more readings of the chain invariant, of its clause `crash = false`: `rise_finds_worker` (a token
  of a new retry level finds a worker selected, so `newHighWatermark` does not dereference nil) and `recvG_eq_recv`
  (the branch by which `PartProd.recvG`, the function of the trace replay, differs from `recv` is not taken).
-/
import SaramaVerif.Lemmas.C02termPP
import SaramaVerif.Lemmas.C02liveLoss
import SaramaVerif.Props.C02chain

namespace Props.C02sys
open Model Model.Pipeline Lemmas.C02sys

theorem no_stuck_state_handover_chain {M : Nat} (hM : 1 ≤ M) (cs : List Choice) (hc : HandoverChain cs) {s : Sys}
    (hr : run M {} cs = some s) : Enabled M s ∨ Quiet s :=
  let ⟨hb, hf, _⟩ := chain_run_seen hM cs (Fresh.of_nodup hc) (chain_init M) hr
  enabled_or_quiet hb hf

theorem no_loss {M : Nat} (cs : List Choice) {s : Sys} (hr : run M {} cs = some s) : NoLoss s :=
  (run_invariant (P := fun s => Base M s ∧ NoLoss s)
    (fun h hs => ⟨base_step h.1 hs, noLoss_step h.1.pinv h.1.ppinv hs h.2⟩) cs ⟨base_init M, noLoss_init⟩ hr).2

set_option linter.unusedVariables false in
/-- `no_loss`, with the two hypotheses `1 ≤ M` and `HandoverChain cs`, which the proof does not use -/
theorem no_loss_handover_chain {M : Nat} (hM : 1 ≤ M) (cs : List Choice) (hc : HandoverChain cs) {s : Sys}
    (hr : run M {} cs = some s) : NoLoss s := no_loss cs hr

theorem no_stuck_state {M : Nat} (hM : 1 ≤ M) (cs : List Choice) (hc : HandoverChain cs) {s : Sys}
    (hr : run M {} cs = some s) (i : Int) (h0 : 0 ≤ i) (h1 : i < (s.next : Int))
    (hs : i ∉ s.succ.map (·.1)) (he : i ∉ s.errs) : Enabled M s := by
  rcases no_stuck_state_handover_chain hM cs hc hr with h | h
  · exact h
  · rcases quiet_outcome h (no_loss cs hr i h0 h1) with e | e
    · exact absurd e hs
    · exact absurd e he

theorem all_decided_when_nothing_moves {M : Nat} (hM : 1 ≤ M) (cs : List Choice) (hc : HandoverChain cs) {s : Sys}
    (hr : run M {} cs = some s) (hn : ¬ Enabled M s) (i : Int) (h0 : 0 ≤ i) (h1 : i < (s.next : Int)) :
    i ∈ s.succ.map (·.1) ∨ i ∈ s.errs :=
  Classical.byContradiction fun h =>
    hn (no_stuck_state hM cs hc hr i h0 h1 (fun e => h (.inl e)) (fun e => h (.inr e)))

/-- after the retriable answer of `exChain` (13 choices) messages 0, 1, 2 are undecided: a step is enabled -/
example : ∀ s, run 2 {} (exChain.take 13) = some s → Enabled 2 s := by
  intro s h
  have key : (run 2 {} (exChain.take 13)).map (fun s => (s.next, s.succ, s.errs)) = some (3, [], []) := by decide +kernel
  rw [h] at key
  simp only [Option.map_some, Option.some.injEq, Prod.mk.injEq] at key
  obtain ⟨k1, k2, k3⟩ := key
  exact no_stuck_state (by decide) _ (by decide +kernel) h 0 (by decide) (by rw [k1]; decide) (by simp [k2]) (by simp [k3])

/-- at the end of `exChain` the channels in front of the partition producer and the input channels of workers 0 and 1
    are empty, the high watermark is back at 0, and each of the 4 submitted messages has an outcome -/
example : (run 2 {} exChain).map (fun s => (s.dq.length + s.pq.length + s.ret.length + (s.wk 0).inq.length +
    (s.wk 1).inq.length + s.pp.hwm, s.succ.length + s.errs.length, s.next)) = some (0, 4, 4) := by decide +kernel

/-- the high watermark is the level of a chaser on its way: within the budget in a channel of the way back, one
    above a level below the budget at a worker -/
theorem cinv_hwm {M : Nat} {seen : List Nat} {s : Sys} (h : CInv M seen s) : s.pp.hwm ≤ M + 1 := by
  obtain ⟨_, finq, _⟩ := cinv_facts h
  obtain ⟨hb, hfs, _⟩ := h
  rcases Nat.eq_zero_or_pos s.pp.hwm with e | e
  · exact e ▸ Nat.zero_le _
  · rcases hfs.onWay _ (hfs.top e) with ⟨f, hf, _, h2⟩ | ⟨w, f, hf, h1, h2⟩
    · exact h2 ▸ Nat.le_succ_of_le (hb.lvl f hf)
    · exact h2 ▸ Nat.succ_le_succ (Nat.le_of_lt (finq w f hf h1))

theorem term_run {M : Nat} (hM : 1 ≤ M) (N : Nat) (ds : List Choice) {seen : List Nat} {s s' : Sys}
    (h : CInv M seen s) (hN : ∀ w ∈ seen, w < N) (hf : Fresh seen (ds.flatMap lookupsOf))
    (hdN : ∀ w ∈ ds.flatMap lookupsOf, w < N) (hns : ∀ c ∈ ds, c ≠ .submit) (hr : run M s ds = some s') :
    (ds.filter moves).length + vmu M (M + 1) (List.range N) s' ≤ vmu M (M + 1) (List.range N) s := by
  refine (run_fresh (ok := fun c => c ≠ .submit ∧ ∀ w ∈ lookupsOf c, w < N) (h := [])
    (P := fun seen h s1 => CInv M seen s1 ∧ (∀ w ∈ seen, w < N) ∧
      (h.filter moves).length + vmu M (M + 1) (List.range N) s1 ≤ vmu M (M + 1) (List.range N) s) ?_ ds
    (fun c hc => ⟨hns c hc, fun w hw => hdN w (List.mem_flatMap.2 ⟨c, hc, hw⟩)⟩) hf
    ⟨h, hN, Nat.le_of_eq (Nat.zero_add _)⟩ hr).2.2
  intro seen h s1 s2 c ⟨hns, hcN⟩ hf ⟨hl, hN, hm⟩ hs
  refine ⟨chain_step hM c hf.2 hl hs, fun w hw => (List.mem_append.1 hw).elim (hN w) (hcN w), ?_⟩
  rw [List.filter_append, List.length_append]
  by_cases hmv : moves c = true
  · obtain ⟨f1, _, _, f4, f5⟩ := cinv_facts hl
    have := mu_step hM List.nodup_range hmv (fun c hc => List.mem_range.2 (hN c (f4 c hc)))
      (fun w hw => List.mem_range.2 (hcN w hw)) (fun w hw => f5 w fun e => hw (List.mem_range.2 (hN w e)))
      (cinv_hwm hl) f1 hl.1.pend (fun w => (P0_append.1 (hl.1.p0.w w)).2) hs
    simp only [List.filter_cons, hmv, if_true, List.filter_nil, List.length_cons, List.length_nil]
    omega
  · have hsame : vmu M (M + 1) (List.range N) s2 = vmu M (M + 1) (List.range N) s1 := by
      cases c with
      | submit => exact absurd rfl hns
      | moveLeader b => obtain rfl := Option.some.inj hs; rfl
      | closeW w => exact vmu_closeW hs
      | _ => exact absurd rfl hmv
    simp only [List.filter_cons, hmv, List.filter_nil]
    rw [hsame]; exact hm

/-- `N` is any bound on the workers named in the run; the workers beyond those named in `cs` are in their initial
    state and weigh nothing -/
theorem moves_terminate {M : Nat} (hM : 1 ≤ M) (cs ds : List Choice) (hc : HandoverChain (cs ++ ds))
    (hns : ∀ c ∈ ds, c ≠ .submit) {s s' : Sys} (hr : run M {} cs = some s) (hr' : run M s ds = some s')
    (N : Nat) (hN : ∀ w ∈ (cs ++ ds).flatMap lookupsOf, w < N) :
    (ds.filter moves).length + vmu M (M + 1) (List.range N) s' ≤ vmu M (M + 1) (List.range N) s := by
  rw [List.flatMap_append] at hN
  rw [HandoverChain, List.flatMap_append] at hc
  obtain ⟨hc1, hc2⟩ := (Fresh.of_nodup hc).split
  exact term_run hM N ds (chain_run_seen hM cs hc1 (chain_init M) hr)
    (fun w hw => hN w (List.mem_append_left _ hw)) hc2
    (fun w hw => hN w (List.mem_append_right _ hw)) hns hr'

theorem lt_foldr_max (l : List Nat) : ∀ w ∈ l, w < l.foldr max 0 + 1 := by
  induction l with
  | nil => intro w h; cases h
  | cons a r ih =>
    intro w h
    rw [List.foldr_cons]
    rcases List.mem_cons.1 h with rfl | e
    · exact Nat.lt_succ_of_le (Nat.le_max_left ..)
    · exact Nat.lt_of_lt_of_le (ih w e) (Nat.succ_le_succ (Nat.le_max_right ..))

theorem wsW_range_default (M : Nat) (f : Nat → Worker) (N0 : Nat) (hd : ∀ w, N0 ≤ w → f w = {}) (N : Nat)
    (hN : N0 ≤ N) : wsW M (List.range N) f = wsW M (List.range N0) f := by
  induction hN with
  | refl => rfl
  | @step n hn ih =>
    rw [wsW, List.range_succ, List.map_append, List.sum_append, ← wsW, ih, List.map_singleton, hd n hn, wW_default]
    rfl

/-- the bound does not depend on the continuation `ds`: `vmu` of the state reached, over the workers named in `cs` -/
theorem moves_bounded {M : Nat} (hM : 1 ≤ M) (cs ds : List Choice) (hc : HandoverChain (cs ++ ds))
    (hns : ∀ c ∈ ds, c ≠ .submit) {s s' : Sys} (hr : run M {} cs = some s) (hr' : run M s ds = some s')
    (N0 : Nat) (hN0 : ∀ w ∈ cs.flatMap lookupsOf, w < N0) :
    (ds.filter moves).length ≤ vmu M (M + 1) (List.range N0) s := by
  have hc1 : (cs.flatMap lookupsOf ++ ds.flatMap lookupsOf).Nodup := List.flatMap_append ▸ hc
  obtain ⟨_, _, _, _, unnamed_init⟩ := cinv_facts (chain_run_seen hM cs (Fresh.of_nodup hc1).split.1 (chain_init M) hr)
  have hb := lt_foldr_max (ds.flatMap lookupsOf)
  have := moves_terminate hM cs ds hc hns hr hr' (max N0 ((ds.flatMap lookupsOf).foldr max 0 + 1)) (by
    intro w hw
    rw [List.flatMap_append] at hw
    rcases List.mem_append.1 hw with e | e
    · exact Nat.lt_of_lt_of_le (hN0 w e) (Nat.le_max_left ..)
    · exact Nat.lt_of_lt_of_le (hb w e) (Nat.le_max_right ..))
  have heq : vmu M (M + 1) (List.range (max N0 ((ds.flatMap lookupsOf).foldr max 0 + 1))) s =
      vmu M (M + 1) (List.range N0) s := by
    simp only [vmu]
    rw [wsW_range_default M s.wk N0 (fun w hw => unnamed_init w (fun e => Nat.not_lt.2 hw (hN0 w e))) _ (Nat.le_max_left ..)]
  omega

/-- the variant along `exChain`: 199 after the retriable answer, 0 at the end (it grows by 87 at a submission and
    falls at every other choice of `exChain`, which has neither `moveLeader` nor `closeW`) -/
example : (run 2 {} (exChain.take 13)).map (fun s => vmu 2 3 (List.range 2) s) = some 199 := by decide +kernel
example : (run 2 {} exChain).map (fun s => vmu 2 3 (List.range 2) s) = some 0 := by decide +kernel

example : ∀ s s', run 2 {} (exChain.take 13) = some s → run 2 s ((exChain.drop 13).take 8) = some s' →
    (((exChain.drop 13).take 8).filter moves).length ≤ vmu 2 3 (List.range 2) s :=
  fun _ _ h h' => moves_bounded (by decide) _ _ (by decide +kernel)
    (by intro c hc e; subst e; simp [exChain] at hc) h h' 2 (by decide +kernel)

/-- without a broker worker selected the chaser of the level below could not be sent: the partition producer would
    crash -/
theorem cinv_rise {M : Nat} (hM : 1 ≤ M) {seen : List Nat} {s : Sys} (h : CInv M seen s) (t : Pipeline.Tok)
    (r : List Pipeline.Tok) (hq : s.pq = t :: r) (hlvl : s.pp.hwm < t.retries) : s.cur ≠ none := by
  intro hcur
  have hs := step_iff.2 (Step.ppRecv (M := M) [] hq)
  obtain ⟨_, _, hcr, _⟩ := cinv_facts (chain_step hM (.ppRecv []) (fun w hw => by cases hw) h hs)
  rw [recv_rise s.pp (toPP t) hlvl, ppActs] at hcr
  refine absurd ((ppActs_grows _ _ _).crash ?_) (by rw [hcr]; nofun)
  rw [ppAct_finSend_none (by exact hcur)]

theorem rise_finds_worker {M : Nat} (hM : 1 ≤ M) (cs : List Choice) (hc : HandoverChain cs) {s : Sys}
    (hr : run M {} cs = some s) (t : Pipeline.Tok) (r : List Pipeline.Tok) (hq : s.pq = t :: r) (hlvl : s.pp.hwm < t.retries) :
    s.cur ≠ none := by
  exact cinv_rise hM (chain_run_seen hM cs (Fresh.of_nodup hc) (chain_init M) hr) t r hq hlvl

/-- the branch by which `recvG` differs from `recv`: fail a token of a new retry level when no worker is selected and
    the look-up fails; `rise_finds_worker` excludes it -/
theorem recvG_eq_recv {M : Nat} (hM : 1 ≤ M) (cs : List Choice) (hc : HandoverChain cs) {s : Sys}
    (hr : run M {} cs = some s) (t : Pipeline.Tok) (r : List Pipeline.Tok) (hq : s.pq = t :: r) (avail : Bool)
    (hav : s.cur ≠ none → avail = true) :
    PartProd.recvG s.pp (toPP t) avail = PartProd.recv s.pp (toPP t) := by
  simp only [PartProd.recvG]
  split
  · rename_i hg
    have := rise_finds_worker hM cs hc hr t r hq (by simpa [toPP] using hg.1)
    rw [hav this] at hg; exact absurd hg.2 (by simp)
  · rfl

end Props.C02sys
