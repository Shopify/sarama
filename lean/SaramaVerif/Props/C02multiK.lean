/-
  The projection of ONE step, computed.
  `projChoice p sN s c` is the step of the one-partition model that the choice `c` of the model with several partitions
  is for `p` (`none`: no step), decided from the two states with the case split of the step lemmas.  `proj_step`: from
  related states (`WRel (BRp p)`), every step is `projChoice`, between related states, under two side conditions: a
  `broker` step for a visible set has an answer that is well-formed for `p` and, if it appends for `p`, comes from the
  leader of `p`; a `deliver` step satisfies `delOK`.  `proj_step_c` has them in decidable form (`stepOK`: computed,
  like the choice).
  `projChoice2`, `stepOK2`, `proj_step_c2` are the same with `delOK2` for `delOK`, which also admits the two hidden
  connection-error cases of Props/C02multiL.lean: a connection error for a set that holds nothing of `p`, nothing of
  `p` buffered or held, the worker already closing (no step) or `p`'s current worker in normal mode with its syn
  consumed and `p` not in retry mode (`closeW w`).  The suffix `2` marks, here and in Props/C02multiK2.lean, what is
  built on `delOK2`.
  `proj_step_partial` is `proj_step` for every choice but `deliver`, and `DeliverProj`, `DeliverVisProj`,
  `DeliverVisConnProj` state the `deliver` step as propositions (any set under `delOK`; a set that holds something of
  `p`; the same with a connection-error answer) for the run-level statements of Props/C02multiK2.lean that take one of
  them as a hypothesis.  All three hold (`deliverProj_holds`, `deliverVisProj_holds`, `deliverVisConnProj_holds`), so
  the implications from each to the one before (`deliverProj_of_vis`, `deliverVisProj_of_conn`) do not use their
  hypothesis.
-/
import SaramaVerif.Props.C02multiL
import SaramaVerif.Props.C02multiR
import SaramaVerif.Props.C02multiH

namespace Props.C02sys
open Model Model.Pipeline Model.PipelineN Model.BrokerProd Lemmas.C02sys

def projChoice (p : Int) (sN : SysN) (s : Sys) : ChoiceN → Option Choice
  | .submit q => if q = p then some .submit else none
  | .retryOut => match sN.ret with
    | t :: _ => if t.part = p then some .retryOut else none
    | [] => none
  | .dispatch => match sN.dq with
    | t :: _ => if t.part = p then some .dispatch else none
    | [] => none
  | .moveLeader q b => if q = p then some (.moveLeader b) else none
  | .ppRecv q lks => if q = p then some (.ppRecv lks) else none
  | .bpRecv w ov => match (sN.wk w).inq with
    | t :: _ => if t.part = p then some (.bpRecv w ov) else none
    | [] => none
  | .handover w =>
    if projL p (sN.wk w).bp.buffer = [] ∧ projWait p (sN.wk w).bp.wait = none then none else some (.handover w)
  | .broker w r => if (s.wk w).bp.sets = [] then none else some (.broker w (projV p r))
  | .deliver w st => if (s.wk w).bp.sets = [] then none else some (.deliver w st)

theorem proj_plain_c {M : Nat} {p : Int} {sN sN' : SysN} {s : Sys} (h : WRel (BRp p) p sN s) (c : ChoiceN)
    (hc : (∃ q, c = .submit q) ∨ c = .retryOut ∨ c = .dispatch ∨ ∃ q b, c = .moveLeader q b)
    (hs : sysStepN M sN c = some sN') : StepRes M p sN' s (projChoice p sN s c) := by
  have e : projChoice p sN s c = plainChoice p sN c := by
    rcases hc with ⟨q, rfl⟩ | rfl | rfl | ⟨q, b, rfl⟩ <;> rfl
  have := proj_plain_wrel (M := M) h c hc hs
  rw [e]
  revert this
  cases plainChoice p sN c <;> exact id

theorem proj_step {M : Nat} {p : Int} {sN sN' : SysN} {s : Sys} (h : WRel (BRp p) p sN s) (c : ChoiceN)
    (hbr : ∀ w r, c = .broker w r → (s.wk w).bp.sets ≠ [] →
      (projV p r).appends = r.appends p ∧ ¬(((projV p r).appends && !(brokerOf w == s.ldr)) = true))
    (hdl : ∀ w st, c = .deliver w st → delOK p sN w = true)
    (hs : sysStepN M sN c = some sN') : StepRes M p sN' s (projChoice p sN s c) := by
  cases c with
  | submit q => exact proj_plain_c h _ (Or.inl ⟨q, rfl⟩) hs
  | retryOut => exact proj_plain_c h _ (Or.inr (Or.inl rfl)) hs
  | dispatch => exact proj_plain_c h _ (Or.inr (Or.inr (Or.inl rfl))) hs
  | moveLeader q b => exact proj_plain_c h _ (Or.inr (Or.inr (Or.inr ⟨q, b, rfl⟩))) hs
  | ppRecv q lks =>
    by_cases hq : q = p
    · subst hq
      simp only [projChoice, if_true, StepRes]
      exact proj_ppRecv_own (innerOnly_BRp q) h hs
    · simp only [projChoice, hq, if_false, StepRes]
      exact proj_ppRecv_other (innerOnly_BRp p) hq h hs
  | bpRecv w ov =>
    cases hq : (sN.wk w).inq with
    | nil => simp [sysStepN, hq] at hs
    | cons t r =>
      by_cases ht : t.part = p
      · simp only [projChoice, hq, ht, if_true, StepRes]
        exact proj_bpRecv_own_p h hq ht hs
      · simp only [projChoice, hq, ht, if_false, StepRes]
        exact proj_bpRecv_foreign_p h hq ht hs
  | handover w =>
    by_cases hv : projL p (sN.wk w).bp.buffer = [] ∧ projWait p (sN.wk w).bp.wait = none
    · simp only [projChoice, hv, and_self, if_true, StepRes]
      exact proj_handover_hidden_p h hv.1 hv.2 hs
    · simp only [projChoice, hv, if_false, StepRes]
      exact proj_handover_visible_p h (Classical.not_and_iff_not_or_not.mp hv) hs
  | broker w r =>
    by_cases hj : (s.wk w).bp.sets = []
    · simp only [projChoice, hj, if_true, StepRes]
      exact proj_broker_hidden_p h hj hs
    · simp only [projChoice, hj, if_false, StepRes]
      exact proj_broker_visible_p h hj (hbr w r rfl hj).1 (hbr w r rfl hj).2 hs
  | deliver w st => exact proj_deliver_c h (hdl w st rfl) hs

def stepOK (p : Int) (sN : SysN) : ChoiceN → Bool
  | .broker w r => brOK p sN w r
  | .deliver w _ => delOK p sN w
  | _ => true

theorem proj_step_c {M : Nat} {p : Int} {sN sN' : SysN} {s : Sys} (h : WRel (BRp p) p sN s) (c : ChoiceN)
    (hok : stepOK p sN c = true) (hs : sysStepN M sN c = some sN') : StepRes M p sN' s (projChoice p sN s c) :=
  proj_step h c (fun _ _ e _ => brOK_spec h.q (by subst e; exact hok)) (fun _ _ e => by subst e; exact hok) hs

theorem proj_step_partial {M : Nat} {p : Int} {sN sN' : SysN} {s : Sys} (h : WRel (BRp p) p sN s) (c : ChoiceN)
    (hnd : ∀ w st, c ≠ .deliver w st)
    (hbr : ∀ w r, c = .broker w r → (s.wk w).bp.sets ≠ [] →
      (projV p r).appends = r.appends p ∧ ¬(((projV p r).appends && !(brokerOf w == s.ldr)) = true))
    (hs : sysStepN M sN c = some sN') :
    WRel (BRp p) p sN' s ∨ ∃ c' s', sysStep M s c' = some s' ∧ WRel (BRp p) p sN' s' :=
  (proj_step h c hbr (fun w st e => absurd e (hnd w st)) hs).toOr

def DeliverProj (M : Nat) (p : Int) : Prop :=
  ∀ (sN sN' : SysN) (s : Sys) (w : Nat) (st : Bool), WRel (BRp p) p sN s → delOK p sN w = true →
    sysStepN M sN (.deliver w st) = some sN' →
    WRel (BRp p) p sN' s ∨ ∃ c' s', sysStep M s c' = some s' ∧ WRel (BRp p) p sN' s'

def DeliverVisProj (M : Nat) (p : Int) : Prop :=
  ∀ (sN sN' : SysN) (s : Sys) (w : Nat) (st : Bool) (sent : List Pipeline.Tok) (rest : List (List Pipeline.Tok)),
    WRel (BRp p) p sN s → (sN.wk w).bp.sets = sent :: rest → projL p sent ≠ [] →
    sysStepN M sN (.deliver w st) = some sN' →
    WRel (BRp p) p sN' s ∨ ∃ c' s', sysStep M s c' = some s' ∧ WRel (BRp p) p sN' s'

def DeliverVisConnProj (M : Nat) (p : Int) : Prop :=
  ∀ (sN sN' : SysN) (s : Sys) (w : Nat) (st : Bool) (sent : List Pipeline.Tok) (rest : List (List Pipeline.Tok))
    (a : Bool) (base : Int → Nat),
    WRel (BRp p) p sN s → (sN.wk w).bp.sets = sent :: rest → projL p sent ≠ [] →
    (sN.wk w).pend = some (.conn a, base) → sysStepN M sN (.deliver w st) = some sN' →
    WRel (BRp p) p sN' s ∨ ∃ c' s', sysStep M s c' = some s' ∧ WRel (BRp p) p sN' s'

theorem deliverVisConnProj_holds (M : Nat) (p : Int) : DeliverVisConnProj M p :=
  fun _ _ _ _ _ _ _ _ _ h hsets hne hpd hs => Or.inr ⟨_, proj_deliver_visible_conn_p h hpd hsets hne hs⟩

theorem deliverVisProj_holds (M : Nat) (p : Int) : DeliverVisProj M p := by
  intro sN sN' s w st sent rest h hsets hne hs
  obtain ⟨_, _, r, base, _, hpd⟩ := deliver_sets h hs
  exact Or.inr ⟨_, proj_deliver_visible h hpd hsets (visible_of_ne h hsets hne) hs⟩

theorem deliverProj_holds (M : Nat) (p : Int) : DeliverProj M p :=
  fun _ _ _ _ _ h hd hs => (proj_deliver_c h hd hs).toOr

section
set_option linter.unusedVariables false

/-! The two implications between the three propositions: their conclusions hold outright. -/

theorem deliverProj_of_vis {M : Nat} {p : Int} (hv : DeliverVisProj M p) : DeliverProj M p := deliverProj_holds M p

theorem deliverVisProj_of_conn {M : Nat} {p : Int} (hc : DeliverVisConnProj M p) : DeliverVisProj M p :=
  deliverVisProj_holds M p

end

def hidConnOK (p : Int) (sN : SysN) (w : Nat) : Bool :=
  match (sN.wk w).bp.sets, (sN.wk w).pend with
  | sent :: _, some (.conn _, _) =>
    (projL p sent).isEmpty && (projL p (sN.wk w).bp.buffer).isEmpty && (projWait p (sN.wk w).bp.wait).isNone &&
      ((sN.wk w).bp.closing ||
        (decide (sN.cur p = some w) && !headSyn (projQ p (sN.wk w).inq) && !(sN.wk w).bp.cr p))
  | _, _ => false

def delOK2 (p : Int) (sN : SysN) (w : Nat) : Bool := delOK p sN w || hidConnOK p sN w

def stepOK2 (p : Int) (sN : SysN) : ChoiceN → Bool
  | .broker w r => brOK p sN w r
  | .deliver w _ => delOK2 p sN w
  | _ => true

def projChoice2 (p : Int) (sN : SysN) (s : Sys) : ChoiceN → Option Choice
  | .deliver w st =>
    if (s.wk w).bp.sets = [] then
      match (sN.wk w).bp.sets, (sN.wk w).pend with
      | _ :: _, some (.conn _, _) => if (sN.wk w).bp.closing then none else some (.closeW w)
      | _, _ => none
    else some (.deliver w st)
  | c => projChoice p sN s c

theorem proj_step_c2 {M : Nat} {p : Int} {sN sN' : SysN} {s : Sys} (h : WRel (BRp p) p sN s) (c : ChoiceN)
    (hok : stepOK2 p sN c = true) (hs : sysStepN M sN c = some sN') : StepRes M p sN' s (projChoice2 p sN s c) := by
  cases c with
  | deliver w st =>
    obtain ⟨sent, rest, r, base, hsets, hpd⟩ := deliver_sets h hs
    by_cases hj : (s.wk w).bp.sets = []
    · have he := hidden_noneOfP h hsets hj
      cases r with
      | parts v =>
        have e : projChoice2 p sN s (.deliver w st) = projChoice p sN s (.deliver w st) := by
          simp only [projChoice2, projChoice, hj, if_true, hsets, hpd]
        rw [e]
        exact proj_step_c h _ (show delOK p sN w = true by simpa [stepOK2, delOK2, hidConnOK, hsets, hpd] using hok) hs
      | conn a =>
        have hd : hidConnOK p sN w = true := by
          simpa [stepOK2, delOK2, delOK, hsets, hpd, he, isConn] using hok
        simp only [hidConnOK, hsets, hpd, Bool.and_eq_true, Bool.or_eq_true, List.isEmpty_iff,
          Option.isNone_iff_eq_none, decide_eq_true_eq, Bool.not_eq_true'] at hd
        obtain ⟨⟨⟨_, hbuf⟩, hwt⟩, hmode⟩ := hd
        cases hcl : (sN.wk w).bp.closing with
        | true =>
          simp only [projChoice2, hj, if_true, hsets, hpd, hcl, StepRes]
          exact proj_deliver_hidden_conn_closing_p h hpd hsets he hbuf hwt hj hcl hs
        | false =>
          simp only [projChoice2, hj, if_true, hsets, hpd, hcl, Bool.false_eq_true, if_false, StepRes]
          rcases hmode with e | ⟨⟨e1, e2⟩, e3⟩
          · rw [hcl] at e; cases e
          · exact proj_deliver_hidden_conn_closeW_p h hpd hsets he hbuf hwt hj e1 e2 hcl e3 hs
    · simp only [projChoice2, hj, if_false, StepRes]
      exact proj_deliver_visible h hpd hsets hj hs
  | _ => refine proj_step_c h _ ?_ hs; exact hok

example : ∀ c ∈ exTwo.take 16, ∀ w st, c ≠ ChoiceN.deliver w st := by
  intro c hc w st e; subst e; simp [exTwo] at hc
example : (runN 2 {} (exTwo.take 16)).isSome = true := by decide +kernel

end Props.C02sys
