import SaramaVerif.Model.LifecycleOM
import SaramaVerif.Props.C12lifeRun
/-
  C12 for the offset manager and its partition offset managers (acceptors `OM`, `POM` of Model/LifecycleOM.lean).
-/
namespace Props.C12life
open Model.Lifecycle Lemmas.Acceptor

namespace POM
open Model.Lifecycle.POM

local macro "acc" h:ident : tactic =>
  `(tactic| (simp only [step] at $h:ident <;> (repeat' split at $h:ident) <;>
      first | (cases $h:ident; done) | (injection $h:ident with $h:ident; subst $h:ident; simp_all)))

theorem closed_latch : Latch step (·.closed) (· = .errClose) := by
  intro s e s'; cases e <;> unfold step <;> accepted <;> simp
theorem done_latch : Latch step (·.done) (· = .done) := by
  intro s e s'; cases e <;> unfold step <;> accepted <;> simp

/-- the errors channel of a partition offset manager is closed at most once (releaseOnce) -/
theorem never_double_close_pom {evs : List Ev} {s : St} (h : run {} evs = .ok s) : evs.count .errClose ≤ 1 :=
  closed_latch.count_le_one (by intro s s'; unfold step; accepted; simp_all) h

/-- the errors channel is closed after the last handleError: no send is accepted after the close -/
theorem outputs_closed_after_last_event_pom {pre post : List Ev} {s : St} (h : run {} (pre ++ .errClose :: post) = .ok s) :
    ∀ e ∈ post, e ≠ .errSend :=
  closed_latch.none_after (by rintro s _ s' rfl; unfold step; accepted; simp_all) h rfl

/-- a POM is released only after it was closed by its owner (AsyncClose / asyncClosePOMs) -/
theorem close_order_pom {evs : List Ev} {s : St} (h : run {} evs = .ok s) :
    Precedes (· = .done) (fun _ => False) (· = .errClose) evs :=
  done_latch.precedes rfl (by rintro s _ s' rfl; unfold step; accepted; simp_all) h

example : accepts step {} [.new, .errSend, .done, .errSend, .done, .errClose] = true := rfl
example : accepts step {} [.new, .done, .errClose, .errSend] = false := rfl
example : accepts step {} [.new, .done, .errClose, .errClose] = false := rfl
end POM


namespace OM
open Model.Lifecycle.OM

local macro "acc" h:ident : tactic =>
  `(tactic| (simp only [step] at $h:ident <;> (repeat' split at $h:ident) <;>
      first | (cases $h:ident; done) | (injection $h:ident with $h:ident; subst $h:ident; simp_all)))

def isNew : Ev → Bool | .pomNew => true | _ => false
def isRelease : Ev → Bool | .pomRelease => true | _ => false
attribute [local simp] isNew isRelease

structure Flags (s : St) (e : Ev) (s' : St) : Prop where
  closing : s'.closing = true ↔ s.closing = true ∨ e = .closingClose
  loop : s'.loopExited = true ↔ s.loopExited = true ∨ e = .closedClose
  recv : s'.recv = true ↔ s.recv = true ∨ e = .closedRecv
  async : s'.asyncClosed = true ↔ s.asyncClosed = true ∨ e = .asyncClose
  final : s'.inFinal = true ↔ s.inFinal = true ∨ ∃ m, e = .finalBegin m
  forced : s'.forced = true ↔ s.forced = true ∨ e = .releaseForce
  live : s'.live + (if isRelease e then 1 else 0) = s.live + (if isNew e then 1 else 0)

theorem flags {s : St} {e : Ev} {s' : St} (h : step s e = .ok s') : Flags s e s' := by
  revert h
  cases e <;> unfold step <;> accepted <;> constructor <;> simp <;> omega

theorem closing_latch : Latch step (·.closing) (· = .closingClose) := fun _ _ _ h => (flags h).closing
theorem loop_latch : Latch step (·.loopExited) (· = .closedClose) := fun _ _ _ h => (flags h).loop
theorem recv_latch : Latch step (·.recv) (· = .closedRecv) := fun _ _ _ h => (flags h).recv
theorem async_latch : Latch step (·.asyncClosed) (· = .asyncClose) := fun _ _ _ h => (flags h).async
theorem final_latch : Latch step (·.inFinal) (fun e => ∃ m, e = .finalBegin m) := fun _ _ _ h => (flags h).final
theorem forced_latch : Latch step (·.forced) (· = .releaseForce) := fun _ _ _ h => (flags h).forced

/-- `closing` is closed at most once (closeOnce), `closed` at most once (mainLoop returns once) -/
theorem never_double_close_om {evs : List Ev} {s : St} (h : run {} evs = .ok s) :
    evs.count .closingClose ≤ 1 ∧ evs.count .closedClose ≤ 1 :=
  ⟨closing_latch.count_le_one (by intro s s'; unfold step; accepted; simp_all) h, loop_latch.count_le_one (by intro s s'; unfold step; accepted; simp_all) h⟩

/-- OffsetManager.Close: closing closed → mainLoop returns and is awaited → POMs marked closed → final flush loop
    (only after both) → forced release → done -/
theorem close_order_om {evs : List Ev} {s : St} (h : run {} evs = .ok s) :
    Precedes (· = .closingClose) (fun _ => False) (· = .closedClose) evs ∧
    Precedes (· = .closedClose) (fun _ => False) (· = .closedRecv) evs ∧
    Precedes (· = .closingClose) (fun _ => False) (· = .asyncClose) evs ∧
    Precedes (· = .asyncClose) (fun _ => False) (fun e => ∃ m, e = .finalBegin m) evs ∧
    Precedes (· = .closedRecv) (fun _ => False) (fun e => ∃ m, e = .finalBegin m) evs ∧
    Precedes (fun e => ∃ m, e = .finalBegin m) (fun _ => False) (fun e => ∃ k, e = .finalFlush k) evs ∧
    Precedes (· = .asyncClose) (fun _ => False) (· = .releaseForce) evs ∧
    Precedes (· = .releaseForce) (fun _ => False) (· = .closeDone) evs :=
  ⟨closing_latch.precedes rfl (by rintro s _ s' rfl; unfold step; accepted; simp_all) h, loop_latch.precedes rfl (by rintro s _ s' rfl; unfold step; accepted; simp_all) h,
    closing_latch.precedes rfl (by rintro s _ s' rfl; unfold step; accepted; simp_all) h,
    async_latch.precedes rfl (by rintro s _ s' ⟨m, rfl⟩; unfold step; accepted; simp_all) h, recv_latch.precedes rfl (by rintro s _ s' ⟨m, rfl⟩; unfold step; accepted; simp_all) h,
    final_latch.precedes rfl (by rintro s _ s' ⟨k, rfl⟩; unfold step; accepted; simp_all) h, async_latch.precedes rfl (by rintro s _ s' rfl; unfold step; accepted; simp_all) h,
    forced_latch.precedes rfl (by rintro s _ s' rfl; unfold step; accepted; simp_all) h⟩

def isFlush : Ev → Bool | .finalFlush _ => true | _ => false

/-- the final flush loop is bounded: at most Retry.Max + 1 flushes, whatever the coordinator answers -/
theorem final_loop_bounded {evs : List Ev} {s : St} (h : run {} evs = .ok s) :
    evs.countP isFlush = s.attempts ∧ s.attempts ≤ s.max + 1 := by
  -- the third clause is for `finalBegin`, which sets `attempts` to 0: no flush has been counted outside the loop
  have key := (runs (step := step)).hist
    (fun hst (s : St) => hst.countP isFlush = s.attempts ∧ s.attempts ≤ s.max + 1 ∧ (s.inFinal = false → s.attempts = 0))
    (by intro hst s e s' ⟨h1, h2, h3⟩
        cases e with
        | finalBegin m | finalFlush k => unfold step <;> accepted <;> simp_all [isFlush] <;> omega
        | _ => unfold step <;> accepted <;> exact ⟨by simpa [isFlush] using h1, h2, h3⟩)
    (h0 := []) h (by simp)
  simp only [List.nil_append] at key; exact ⟨key.1, key.2.1⟩

theorem live_count {evs : List Ev} {s : St} (h : run {} evs = .ok s) : s.live + evs.countP isRelease = evs.countP isNew := by
  simpa using runs.counts (·.live) isNew isRelease (fun _ => False) (fun _ _ _ _ h => Flags.live (flags h)) h (fun _ _ => id)

/-- Close is done only when every registered POM has been released (its errors channel closed) -/
theorem outputs_closed_after_last_event_om {pre : List Ev} {s : St} (h : run {} (pre ++ [.closeDone]) = .ok s) :
    pre.countP isRelease = pre.countP isNew := by
  obtain ⟨s1, _, h1, h3, _⟩ := runs.mid h
  have hp : s1.live = 0 := by revert h3; unfold step; accepted; simp_all
  simpa [hp] using live_count h1

/-- after `closing` was closed, Close (or a POM release inside it) can always move until it is done -/
theorem no_deadlock_after_close_om {evs : List Ev} {s : St} (h : run {} evs = .ok s) (hc : s.closing = true) (hd : s.done = false) :
    ∃ e s', internal e = true ∧ step s e = .ok s' := by
  have hb := (final_loop_bounded h).2
  by_cases h1 : s.asyncClosed = true
  · cases h2 : s.forced with
    | true =>
      by_cases h3 : s.live = 0
      · exact enabled .closeDone rfl (by simp [step, h2, h3, hd])
      · exact enabled .pomRelease rfl (by simp [step, h3])
    | false =>
      by_cases h3 : s.inFinal = true ∧ s.clean = false ∧ ¬ s.attempts = s.max + 1
      · have : ¬ s.max < s.attempts := by omega
        exact enabled (.finalFlush s.attempts) rfl (by simp [step, h3.1, h3.2.1, h2, this])
      · exact enabled .releaseForce rfl (by simp [step, h1, h2, h3])
  · exact enabled .asyncClose rfl (by simp [step, hc, h1])

/-- termination measure of Close: every internal move decreases (phase, Retry.Max + 1 - attempts + live POMs)
    lexicographically -/
theorem close_terminates_om (s : St) (e : Ev) (s' : St) (h : step s e = .ok s') (hi : internal e = true) :
    Prod.Lex (· < ·) (· < ·) (phase s', inner s') (phase s, inner s) := by
  revert h
  cases e with
  | pomNew | closingClose => cases hi
  | pomRelease | finalFlush k =>
    -- a POM released, one more round of the bounded loop: the phase stays
    unfold step <;> accepted <;> exact .right _ (by simp only [inner]; omega)
  | _ =>
    -- every other step of Close sets one more of the seven flags
    unfold step <;> accepted <;> refine .left _ _ ?_ <;> simp_all [phase]

theorem close_order_wf : WellFounded (Prod.Lex (· < ·) (· < ·) : Nat × Nat → Nat × Nat → Prop) :=
  (Prod.lex Nat.lt_wfRel Nat.lt_wfRel).wf

example : accepts step {} [.pomNew, .pomNew, .closingClose, .closedClose, .closedRecv, .asyncClose, .finalBegin 2, .finalFlush 0,
    .pomRelease, .finalFlush 1, .finalFlush 2, .releaseForce, .pomRelease, .closeDone] = true := rfl
example : accepts step {} [.pomNew, .closingClose, .asyncClose, .releaseForce, .pomRelease, .closeDone] = true := rfl  -- auto-commit off
example : accepts step {} [.closingClose, .closedClose, .closedRecv, .asyncClose, .finalBegin 1, .finalFlush 0, .finalFlush 1, .finalFlush 2] = false := rfl
example : accepts step {} [.closingClose, .asyncClose, .finalBegin 1] = false := rfl  -- mainLoop not awaited
end OM

end Props.C12life
