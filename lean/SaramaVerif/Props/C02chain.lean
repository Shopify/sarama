/-
  C02, composition, the executions the real producer has with retries: the partition is handed from a broker
  worker to a FRESH successor at every retry-level change while the old worker drains (bounces what is in its
  input queue, the chaser last).  `log_order_handover_chain`: LogOrder for every choice sequence of
  `Model.Pipeline` in which no leader lookup ever names a worker twice (`HandoverChain`, decidable; the trace
  replay checks it on every replayed real run).  Any number of old workers may drain concurrently with the
  current one; their steps, leader moves, lookup failures, fault verdicts are unrestricted.
  The model includes `Choice.closeW`: the current worker, holding nothing of the partition, is closed by the
  connection error of a request that carries other partitions' messages (what a partition sees of a SHARED worker;
  `goodU_closeW`, Lemmas/C02uStepW.lean) - with it the projection of a run with several partitions on one partition that
  satisfies `HandoverChain` is a run of this model (the replay counts the projections that need it as
  sys-projected-needs-spur).
  Proof: the invariant `CInv` - what holds in every run whatever the look-ups name (`Lemmas.C02sys.Base`,
  Lemmas/C02base.lean); `Lemmas.C02sys.GoodC`: the ordering invariant `GoodU` of the runs in which a look-up names a
  fresh worker or the worker bound last (Lemmas/C02uRep.lean; the view of the worker bound last with the lanes of the
  old workers, in level bands, oldest first, between the retries queue and what that worker is going to bounce), of
  which these runs are the case where the worker bound last is never named again; `Lemmas.C02sys.Strict`
  (Lemmas/C02uStrict.lean: the shape of the channels when no worker is selected twice, which `GoodU` does not need and
  `released_worker_holds_nothing` of Props/C02stays.lean states); and `Lemmas.C02sys.FinS` (Lemmas/C02liveFin.lean: the
  chasers the partition producer expects are on their way; the progress results of Props/C02live.lean read it, and it
  is kept by a step because of what the view says of the chasers).  `chain_step` is one sweep over `Step`;
  `chain_run_seen` is `run_fresh` (Lemmas/C02sysFifo.lean), `chain_run` forgets which workers were named.

  The files of the ordering invariant are Lemmas/C02uLanes.lean .. C02uChain.lean (DESIGN.md says what is where).
  Which worker the partition producer is bound to after a step (`sysStep_cur`) needs no invariant:
  Lemmas/C02sysFifo.lean.
-/
import SaramaVerif.Lemmas.C02uChain
import SaramaVerif.Lemmas.C02uStrict
import SaramaVerif.Lemmas.C02liveFin
import SaramaVerif.Props.C02sys

namespace Props.C02sys
open Model Model.Pipeline Lemmas.C02sys

/-- every leader lookup of the run names a worker that no lookup has named before: a released worker is never
    selected again (getBrokerProducer creates a new brokerProducer after unrefBrokerProducer closed the old one) -/
def HandoverChain (cs : List Choice) : Prop := (cs.flatMap lookupsOf).Nodup

instance (cs : List Choice) : Decidable (HandoverChain cs) := by unfold HandoverChain; infer_instance

/-- the executable form the trace replay evaluates on every replayed run -/
theorem chainScope_iff (cs : List Choice) : chainScope cs = true ↔ HandoverChain cs := by
  simp [chainScope, HandoverChain]

/-- `seen`: the workers named so far; a worker that is not in its initial state has been named -/
def CInv (M : Nat) (seen : List Nat) (s : Sys) : Prop :=
  Base M s ∧ FinS s ∧ Strict s ∧ ∃ olds v, GoodC M s olds v ∧ (∀ w ∈ olds, w ∈ seen) ∧ (∀ c, s.cur = some c → c ∈ seen) ∧
    ∀ w, s.wk w ≠ {} → w ∈ seen

/-- what the other invariants and Props/C02live.lean read of `CInv`: a chaser at the head of pp.input is of a level
    between 1 and the watermark; a chaser in a channel can be bounced once more; no nil dereference; the bound worker
    has been named; a worker never named is in its initial state -/
theorem cinv_facts {M : Nat} {seen : List Nat} {s : Sys} (h : CInv M seen s) :
    (∀ t r, s.pq = t :: r → t.kind = .fin → 1 ≤ t.retries ∧ t.retries ≤ s.pp.hwm) ∧
    (∀ w, ∀ t ∈ (s.wk w).inq, t.kind = .fin → t.retries < M) ∧ s.crash = false ∧
    (∀ c, s.cur = some c → c ∈ seen) ∧ (∀ w, w ∉ seen → s.wk w = {}) := by
  obtain ⟨_, _, _, olds, v, ⟨l, hg, hnp⟩, _, hcs, hns⟩ := h
  obtain ⟨gw, tl, g, _, hv, _⟩ := hg.rep
  refine ⟨fun t r hq hk => ?_, fun w t ht => hg.conc.finq w (hnp w fun e => by rw [e] at ht; cases ht) t ht,
    hg.conc.crash, hcs, fun w hw => Classical.byContradiction fun e => hw (hns w e)⟩
  have := hg.vinv.fin1 t (by rw [hv]; simp [hq]) hk
  rw [hv] at this
  exact ⟨this.1, this.2.1⟩

theorem chain_init (M : Nat) : CInv M [] {} :=
  have E {α : Type} {p : α → Prop} : ∀ x ∈ ([] : List α), p x := List.forall_mem_nil p
  have hg : GoodU M True {} [] 0 ⟨{}, [], [], true⟩ :=
    { rep := ⟨[], [], true, .normal [] [] rfl rfl rfl E (.inl rfl) (.inr ⟨rfl, rfl, rfl⟩), rfl, .nil True⟩
      vinv := .init
      conc := { finq := fun _ _ => E, nodup := .nil, lNo := nofun, cur := .inl rfl, crash := rfl, oldok := E,
                capN := fun _ => E, lend := fun _ _ => .inl rfl }
      log := { toLogCore := .init, pend := nofun } }
  ⟨base_init M, finS_init, strict_init, [], _, ⟨0, hg, fun _ h => absurd rfl h⟩, E, nofun, fun _ h => absurd rfl h⟩

theorem chain_step {M : Nat} (hM : 1 ≤ M) {seen : List Nat} {s s' : Sys} (c : Choice)
    (hfresh : ∀ w ∈ lookupsOf c, w ∉ seen) (h : CInv M seen s) (hs : sysStep M s c = some s') :
    CInv M (seen ++ lookupsOf c) s' := by
  obtain ⟨f1, f2, _, _, hun⟩ := cinv_facts h
  obtain ⟨hb, hfs, hst, olds, v, ⟨l, hg, hnp⟩, ho, hcs, hns⟩ := h
  have hbu := hb.toU olds l
  have hcur' : ∀ c', s'.cur = some c' → c' ∈ seen ++ lookupsOf c := by
    intro c' hc'
    rcases sysStep_cur hs with h1 | h1 | ⟨w, hw, h1⟩
    · exact List.mem_append_left _ (hcs c' (by rw [← h1]; exact hc'))
    · rw [h1] at hc'; cases hc'
    · rw [h1] at hc'; cases hc'; exact List.mem_append_right _ hw
  -- `FinS`: the chasers stay on their way because the step did not crash (a clause of `ConcU` after the step); of
  -- the view before the step `finS_step` reads the levels of the chaser in front of the partition producer (`f1`)
  have keep : ∀ olds' l' v', GoodU M True s' olds' l' v' → (∀ w ∈ olds', w ∈ seen ++ lookupsOf c) →
      (∀ w, s'.wk w ≠ {} → w ∈ seen ++ lookupsOf c ∧ (w = l' ∨ w ∈ olds')) →
      CInv M (seen ++ lookupsOf c) s' := fun olds' l' v' hg' ho' hnp' =>
    ⟨base_step hb hs, finS_step hfs f1 f2 hg'.conc.crash hs,
      strict_step hst hb (fun w hw => hun w (hfresh w hw)) (fun _ _ hq hgt _ hc => hg.rise_refuses hq hgt hc) f1 hs,
      olds', v', ⟨l', hg', fun w hw => (hnp' w hw).2⟩, ho', hcur', fun w hw => (hnp' w hw).1⟩
  have ho' : ∀ w ∈ olds, w ∈ seen ++ lookupsOf c := fun w hw => List.mem_append_left _ (ho w hw)
  have old : ∀ u, s.wk u ≠ {} → u ∈ seen ++ lookupsOf c ∧ (u = l ∨ u ∈ olds) := fun u hu =>
    ⟨List.mem_append_left _ (hns u hu), hnp u hu⟩
  -- a step that changes no worker but `w`, which has been named and is `l` or old
  have keepW : ∀ w, (∀ u, u ≠ w → s'.wk u = s.wk u) → (s.wk w ≠ {} ∨ s.cur = some w) →
      (w = l ∨ w ∈ olds → ∃ v', GoodU M True s' olds l v') → CInv M (seen ++ lookupsOf c) s' := fun w hoth hw hg' =>
    have hrole : w ∈ seen ∧ (w = l ∨ w ∈ olds) := hw.elim (fun e => ⟨hns w e, hnp w e⟩) fun e =>
      ⟨hcs w e, hg.conc.cur.elim (fun e' => by rw [e] at e'; cases e') fun e' => .inl (Option.some.inj (e.symm.trans e'))⟩
    (hg' hrole.2).elim fun v' hg'' => keep olds l v' hg'' ho' fun u hu => by
      by_cases e : u = w
      · exact e ▸ ⟨List.mem_append_left _ hrole.1, hrole.2⟩
      · exact old u (hoth u e ▸ hu)
  have keepQ : s'.wk = s.wk → (∃ v', GoodU M True s' olds l v') → CInv M (seen ++ lookupsOf c) s' :=
    fun hw ⟨v', hg'⟩ => keep olds l v' hg' ho' fun u hu => old u (hw ▸ hu)
  cases step_iff.1 hs with
  | submit => exact keepQ rfl (goodU_submit hbu hg)
  | retryOut hr => exact keepQ rfl ⟨v, goodU_retryOut hg _ _ hr⟩
  | dispatch hd => exact keepQ rfl ⟨v, goodU_dispatch hg _ _ hd⟩
  | moveLeader x => exact keepQ rfl ⟨v, goodU_moveLeader hg x⟩
  | ppRecv lks hq =>
    have named : ∀ w, some w ∈ lks → w ∈ seen ++ lookupsOf (.ppRecv lks) := fun w hw =>
      List.mem_append_right _ (List.mem_filterMap.2 ⟨some w, hw, rfl⟩)
    obtain ⟨olds', l', v', hg', hfrm, hlw, hrel⟩ := goodU_ppRecv hbu hg (fun w hw =>
      have hws : w ∉ seen := hfresh w (List.mem_filterMap.2 ⟨some w, hw, rfl⟩)
      .inr ⟨trivial, fun e => hws (ho w e), hun w hws⟩) hq
    -- `l` has been named if its worker is not in its initial state afterwards
    have hl' : _ ≠ ({} : Worker) → l ∈ seen ++ lookupsOf (.ppRecv lks) := fun hu => hlw.elim
      (fun e => List.mem_append_left _ (hns l (e ▸ hu)))
      (fun e => e.elim (fun e => List.mem_append_left _ (hcs l e)) (named l))
    rcases hrel with ⟨rfl, rfl⟩ | ⟨_, hn, hne, hno, hcase⟩
    · refine keep olds' l' v' hg' ho' fun u hu => ?_
      by_cases e : u = l'
      · subst e; exact ⟨hl' hu, .inl rfl⟩
      · exact old u (hfrm u e e ▸ hu)
    · have oth : ∀ u, u ≠ l → u ≠ l' → _ ≠ ({} : Worker) → u ∈ seen ++ lookupsOf (.ppRecv lks) ∧ u ∈ olds :=
        fun u e e' hu => (old u (hfrm u e e' ▸ hu)).imp_right (·.resolve_left e)
      rcases hcase with ⟨rfl, hl0⟩ | ⟨rfl, hsel⟩
      · refine keep olds' l' v' hg' ho' fun u hu => ?_
        by_cases e' : u = l'
        · subst e'; exact ⟨named u hn, .inl rfl⟩
        · have e : u ≠ l := fun e => hu (e ▸ hl0)
          exact (oth u e e' hu).imp_right .inr
      · have hls : l ∈ seen ++ lookupsOf (.ppRecv lks) :=
          List.mem_append_left _ (hsel.elim (hns l) (hcs l))
        refine keep _ l' v' hg' (fun u hu => (List.mem_append.1 hu).elim (ho' u)
          fun hu => List.mem_singleton.1 hu ▸ hls) fun u hu => ?_
        by_cases e' : u = l'
        · subst e'; exact ⟨named u hn, .inl rfl⟩
        · by_cases e : u = l
          · subst e; exact ⟨hls, .inr (by simp)⟩
          · exact (oth u e e' hu).imp_right fun h => .inr (List.mem_append_left _ h)
  | @worker w _ q pend off i hf hd =>
    have hoth : ∀ u, u ≠ w → (afterW M s w q pend off i).wk u = s.wk u := fun u hu => setW_other _ _ hu
    have hu := Feeds.used hf hd
    cases hf with
    | recv ov hq => exact keepW w hoth (.inl hu) fun hr => goodU_bpRecv hbu hg hr hs
    | handover => exact keepW w hoth (.inl hu) fun hr => goodU_handover hbu hg hr hs
    | deliver still hp => exact keepW w hoth (.inl hu) fun hr => goodU_deliver hM hbu hg hr hs
  | @broker w vd sent rest hsets =>
    exact keepW w (fun u hu => setW_other _ _ hu) (.inl fun e => by rw [e] at hsets; cases hsets)
      fun hr => goodU_broker hbu hg hr hs
  | @closeW w hc =>
    exact keepW w (fun u hu => setW_other _ _ hu) (.inr (canClose_facts hc).1) fun _ => goodU_closeW hg hs

theorem chain_run_seen {M : Nat} (hM : 1 ≤ M) (cs : List Choice) {seen : List Nat} {s s' : Sys}
    (hf : Fresh seen (cs.flatMap lookupsOf)) (h : CInv M seen s) (hr : run M s cs = some s') :
    CInv M (seen ++ cs.flatMap lookupsOf) s' :=
  run_fresh (ok := fun _ => True) (P := fun seen _ s => CInv M seen s) (h := [])
    (fun c _ hf h hs => chain_step hM c hf.2 h hs) cs (fun _ _ => trivial) hf h hr

theorem chain_run {M : Nat} (hM : 1 ≤ M) (cs : List Choice) : ∀ {seen : List Nat} {s s' : Sys},
    (cs.flatMap lookupsOf).Nodup → (∀ w ∈ cs.flatMap lookupsOf, w ∉ seen) → CInv M seen s →
    run M s cs = some s' → ∃ seen', CInv M seen' s' :=
  fun hnd hdis h hr => ⟨_, chain_run_seen hM cs ⟨hnd, hdis⟩ h hr⟩

theorem cinv_logOrder {M : Nat} {seen : List Nat} {s : Sys} (h : CInv M seen s) : LogOrder s :=
  let ⟨_, _, _, _, _, ⟨_, hg, _⟩, _⟩ := h; logOrder_of_core hg.log.toLogCore

/-- **log order, handover chain**: for every retry budget `M ≥ 1` and EVERY choice sequence in which no leader
    lookup names a worker that an earlier lookup has named - so the partition is only ever handed to a fresh
    worker, while all the workers it has left go on draining concurrently - the state reached satisfies
    `LogOrder`.  Everything else is unrestricted: interleaving of all components and of all workers, fault
    verdicts (retriable with or without append, fatal, connection errors), failed lookups, leader moves,
    overflow / flush timing, stale and empty produce sets. -/
theorem log_order_handover_chain {M : Nat} (hM : 1 ≤ M) (cs : List Choice) (hc : HandoverChain cs) {s : Sys}
    (hr : run M {} cs = some s) : LogOrder s := by
  obtain ⟨seen', h⟩ := chain_run hM cs hc (fun _ _ hm => by cases hm) (chain_init M) hr
  exact cinv_logOrder h

/-- in handover-chain runs `newHighWatermark` never finds `pp.brokerProducer == nil` -/
theorem no_nil_deref_handover_chain {M : Nat} (hM : 1 ≤ M) (cs : List Choice) (hc : HandoverChain cs) {s : Sys}
    (hr : run M {} cs = some s) : s.crash = false := by
  obtain ⟨seen', h⟩ := chain_run hM cs hc (fun _ _ hm => by cases hm) (chain_init M) hr
  obtain ⟨_, _, hcrash, _⟩ := cinv_facts h
  exact hcrash

/-! the successor worker (1) accepts, sends and gets acknowledged the retried messages 0 and 1 BEFORE the old worker
    (0) has bounced message 2 and the chaser - an interleaving the single-worker model does not have -/

def exChain : List Choice :=
  [.submit, .submit, .submit, .dispatch, .dispatch, .ppRecv [some 0], .ppRecv [],
   .bpRecv 0 false, .bpRecv 0 false, .bpRecv 0 false, .handover 0, .broker 0 (.retriable true), .deliver 0 false,
   .retryOut, .retryOut, .dispatch, .dispatch, .dispatch,
   .ppRecv [], .ppRecv [some 1], .ppRecv [],
   .submit, .dispatch, .ppRecv [],
   .bpRecv 1 false, .bpRecv 1 false, .bpRecv 1 false, .handover 1, .broker 1 .ok, .deliver 1 false,
   .bpRecv 0 false, .bpRecv 0 false,
   .retryOut, .retryOut, .dispatch, .dispatch, .ppRecv [], .ppRecv [],
   .bpRecv 1 false, .bpRecv 1 false, .handover 1, .broker 1 .ok, .deliver 1 false]

theorem exChain_chain : HandoverChain exChain := by decide

example : HandoverChain exChain := exChain_chain

example : (run 2 {} exChain).map (fun s => (s.log, s.succ, s.errs)) =
    some ([0, 1, 0, 1, 2, 3], [(0, 2), (1, 3), (2, 4), (3, 5)], []) := by decide +kernel

example : ∀ s, run 2 {} exChain = some s → LogOrder s :=
  fun _ h => log_order_handover_chain (by decide) exChain exChain_chain h

end Props.C02sys
