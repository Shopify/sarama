/-
  System level: a worker step of the model with several partitions, seen from `p`.
  `bpActsN_mixed`: applying a list of actions to the state with several partitions is, for `p`, applying the
  (relabelled) outcome-bearing actions of `p` to the one-partition state, offsets from `off p`; the other actions do
  nothing to `p` (`bpActN_proj`: one action).  `bpActsN_own`: all outcomes are of `p`, the whole relabelled list is
  applied.
  The three choices that run a worker (`bpRecv`, `handover`, `deliver`) are calls of `bpRunN`, and of `bpRun` in the
  one-partition model, so they are lifted once, for EVERY relation between the inner states: `bpRunN_lift` (the
  one-partition worker is replaced by a related one and actions that report the same on `p` are applied), with its two
  uses `bpRunN_lift_step` (the one-partition worker runs an input itself: the state is `afterW`) and `bpRunN_lift_none`
  (nothing is reported on `p`, the one-partition state does not move).
-/
import SaramaVerif.Props.C02multiS
import SaramaVerif.Props.C02multiW

namespace Props.C02sys
open Model Model.Pipeline Model.PipelineN Model.BrokerProd Lemmas.C02sys

theorem bpActN_wk_cur (s : SysN) (off : Int → Nat) (a : Action) :
    (bpActN s off a).1.wk = s.wk ∧ (bpActN s off a).1.cur = s.cur := by
  cases a <;> exact ⟨rfl, rfl⟩

theorem bpAct_wk_cur (s : Sys) (off : Nat) (a : Action) : (bpAct s off a).1.wk = s.wk ∧ (bpAct s off a).1.cur = s.cur := by
  cases a <;> exact ⟨rfl, rfl⟩

theorem bpActN_proj {p : Int} {sN : SysN} {s : Sys} (h : QRel p sN s) (off : Int → Nat) (a : Action) :
    (isOwn p a = true → QRel p (bpActN sN off a).1 (bpAct s (off p) (relabA a)).1 ∧
      (bpActN sN off a).2 p = (bpAct s (off p) (relabA a)).2) ∧
    (isOwn p a = false → QRel p (bpActN sN off a).1 s ∧ (bpActN sN off a).2 p = off p) := by
  cases a with
  | requeue id q rr f =>
    refine ⟨fun e => ?_, fun e => ?_⟩
    · obtain rfl : q = p := eq_of_beq e
      refine ⟨{ h with ret := ?_ }, rfl⟩
      dsimp only [bpActN, bpAct, relabA]
      rw [projQ_push_same q _ rfl, h.ret]; rfl
    · have hq : q ≠ p := ne_of_beq_false e
      exact ⟨{ h with ret := h.ret.trans (projQ_push_other p _ (t := ⟨id, q, rr, _⟩) hq).symm }, rfl⟩
  | succ id q =>
    refine ⟨fun e => ?_, fun e => ?_⟩
    · obtain rfl : q = p := eq_of_beq e
      exact ⟨{ h with succ := (congrArg (· ++ _) h.succ).trans (upd_same ..).symm }, upd_same ..⟩
    · have hq : q ≠ p := ne_of_beq_false e
      exact ⟨{ h with succ := h.succ.trans (upd_other _ hq _).symm }, upd_other _ hq _⟩
  | expire id q f =>
    refine ⟨fun e => ?_, fun e => ?_⟩
    · obtain rfl : q = p := eq_of_beq e
      refine ⟨{ h with errs := ?_ }, rfl⟩
      dsimp only [bpActN, bpAct, relabA]
      split
      · exact h.errs
      · rw [upd_same, h.errs]
    · have hq : q ≠ p := ne_of_beq_false e
      refine ⟨{ h with errs := ?_ }, rfl⟩
      dsimp only [bpActN]
      split
      · exact h.errs
      · exact h.errs.trans (upd_other _ hq _).symm
  | fail id q =>
    refine ⟨fun e => ?_, fun e => ?_⟩
    · obtain rfl : q = p := eq_of_beq e
      exact ⟨{ h with errs := (congrArg (· ++ _) h.errs).trans (upd_same ..).symm }, rfl⟩
    · have hq : q ≠ p := ne_of_beq_false e
      exact ⟨{ h with errs := h.errs.trans (upd_other _ hq _).symm }, rfl⟩
  | _ => exact ⟨fun e => absurd e Bool.false_ne_true, fun _ => ⟨h, rfl⟩⟩

theorem bpActsN_mixed {p : Int} (as : List Action) : ∀ {sN : SysN} {s : Sys} (off : Int → Nat), QRel p sN s →
    QRel p (bpActsN sN off as) (bpActs s (off p) ((as.filter (isOwn p)).map relabA)) ∧
    (bpActsN sN off as).wk = sN.wk ∧ (bpActsN sN off as).cur = sN.cur ∧
    (bpActs s (off p) ((as.filter (isOwn p)).map relabA)).wk = s.wk ∧
    (bpActs s (off p) ((as.filter (isOwn p)).map relabA)).cur = s.cur := by
  induction as with
  | nil => intro sN s off h; exact ⟨h, rfl, rfl, rfl, rfl⟩
  | cons a r ih =>
    intro sN s off h
    obtain ⟨n2, n3⟩ := bpActN_wk_cur sN off a
    cases ho : isOwn p a with
    | true =>
      obtain ⟨q1, hoff⟩ := (bpActN_proj h off a).1 ho
      obtain ⟨m2, m3⟩ := bpAct_wk_cur s (off p) (relabA a)
      obtain ⟨r1, r2, r3, r4, r5⟩ := ih (bpActN sN off a).2 q1
      rw [hoff] at r1 r4 r5
      simp only [List.filter_cons, ho, if_true, List.map_cons, bpActsN, bpActs]
      exact ⟨r1, r2.trans n2, r3.trans n3, r4.trans m2, r5.trans m3⟩
    | false =>
      obtain ⟨q1, hoff⟩ := (bpActN_proj h off a).2 ho
      obtain ⟨r1, r2, r3, r4, r5⟩ := ih (bpActN sN off a).2 q1
      rw [hoff] at r1 r4 r5
      simp only [List.filter_cons, ho, Bool.false_eq_true, if_false, bpActsN]
      exact ⟨r1, r2.trans n2, r3.trans n3, r4, r5⟩

theorem WRel.mixedActs {BR : WorkerN → Worker → Prop} {p : Int} {sN : SysN} {s : Sys} (h : WRel BR p sN s)
    (off : Int → Nat) (as : List Action) :
    WRel BR p (bpActsN sN off as) (bpActs s (off p) ((as.filter (isOwn p)).map relabA)) := by
  obtain ⟨r1, r2, r3, r4, r5⟩ := bpActsN_mixed as off h.q
  exact h.frame r1 (r5 ▸ r3 ▸ h.cur) r2 r4

theorem bpActs_filter_out (as : List Action) : ∀ (s : Sys) (off : Nat),
    bpActs s off (as.filter isOut) = bpActs s off as := by
  induction as with
  | nil => intro s off; rfl
  | cons a r ih =>
    intro s off
    -- both sides unfold to `bpActs` on the tail: the filter keeps an outcome-bearing action, and any other action
    -- leaves the state and the offset as they are
    cases a <;> exact ih _ _

theorem bpActs_filter_own {p : Int} {as : List Action} (ho : OwnActs p as) (s : Sys) (off : Nat) :
    bpActs s off ((as.filter (isOwn p)).map relabA) = bpActs s off (as.map relabA) := by
  rw [← ho.filter_map, bpActs_filter_out]

theorem bpActsN_own {p : Int} (as : List Action) : ∀ {sN : SysN} {s : Sys} (off : Int → Nat), QRel p sN s →
    OwnActs p as →
    QRel p (bpActsN sN off as) (bpActs s (off p) (as.map relabA)) ∧
    (bpActsN sN off as).wk = sN.wk ∧ (bpActsN sN off as).cur = sN.cur ∧
    (bpActs s (off p) (as.map relabA)).wk = s.wk ∧ (bpActs s (off p) (as.map relabA)).cur = s.cur := by
  intro sN s off h ho
  have := bpActsN_mixed as off h
  rwa [bpActs_filter_own ho] at this

section
variable {BR : WorkerN → Worker → Prop} {M : Nat} {p : Int} {sN sN' : SysN} {s : Sys} {w : Nat}
  {q : List Pipeline.Tok} {pend : Option (RespN × (Int → Nat))} {off : Int → Nat} {i : In}

theorem bpRunN_enabled (hs : bpRunN M sN w q pend off i = some sN') : (step M (sN.wk w).bp i).2 ≠ [Action.disabled] :=
  fun hd => by rw [bpRunN, if_pos hd] at hs; cases hs

theorem bpRunN_lift (h : WRel BR p sN s) (hs : bpRunN M sN w q pend off i = some sN') (j' : Worker)
    (hinq : j'.inq = projQ p q) {A1 : List Action}
    (hA : A1.filter isOut = ((step M (sN.wk w).bp i).2.filter (isOwn p)).map relabA)
    (hbr : BR ⟨q, (step M (sN.wk w).bp i).1, pend⟩ j') :
    WRel BR p sN' (bpActs { s with wk := setW s.wk w j' } (off p) A1) := by
  rw [bpRunN, if_neg (bpRunN_enabled hs)] at hs
  cases hs
  rw [← bpActs_filter_out, hA]
  exact (h.setWk w hinq hbr).mixedActs off _

theorem bpRunN_lift_step (h : WRel BR p sN s) (hs : bpRunN M sN w q pend off i = some sN') {i1 : In}
    {q1 : List Pipeline.Tok} (hinq : q1 = projQ p q) (pend1 : Option (Pipeline.Verdict × Nat))
    (hA : (step M (s.wk w).bp i1).2.filter isOut = ((step M (sN.wk w).bp i).2.filter (isOwn p)).map relabA)
    (hbr : BR ⟨q, (step M (sN.wk w).bp i).1, pend⟩ ⟨q1, (step M (s.wk w).bp i1).1, pend1⟩) :
    WRel BR p sN' (afterW M s w q1 pend1 (off p) i1) := by
  have W := bpRunN_lift h hs _ hinq hA hbr
  rwa [bpActs_closed] at W

theorem bpRunN_lift_none (h : WRel BR p sN s) (hs : bpRunN M sN w q pend off i = some sN')
    (hinq : (s.wk w).inq = projQ p q) (hA : (step M (sN.wk w).bp i).2.filter (isOwn p) = [])
    (hbr : BR ⟨q, (step M (sN.wk w).bp i).1, pend⟩ (s.wk w)) : WRel BR p sN' s := by
  have W := bpRunN_lift h hs _ hinq (A1 := []) (by rw [hA]; rfl) hbr
  rwa [bpActs, setW_self] at W

end

example : ((([Action.succ 5 1, .succ 6 0, .requeue 7 1 1 false, .fail 8 0, .drop 1] : List Action).filter
    (isOwn 0)).map relabA) = [.succ 6 0, .fail 8 0] := by decide +kernel

end Props.C02sys
