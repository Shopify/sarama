import SaramaVerif.Props.C01
/-
  C12 — shutdown always completes: no hang, no panic, channels closed (producer part, on the accounting model;
  the client, broker, offset-manager, consumer and group parts are in Props/C12life.lean, on the acceptors of
  Model/Lifecycle.lean).

  For EVERY accepted event sequence - in particular for AsyncClose/Close issued at any point of the trace, since
  the shutdown events may be interleaved anywhere - the producer's output channels are closed only after the
  shutdown marker went through the dispatcher and the in-flight counter reached zero, never while a message or an
  internal marker is still in the pipeline.  Step by step: a close is accepted only while the channels are open, and a
  step from a closed state emits no terminal event (a send on Successes or Errors).  So the two ways the shutdown
  could panic (send on a closed channel, double close) are not accepted by the model, and trace validation checks that
  the real pipeline never takes them.  (That no event of `step` resets `closed` is read off the model, not a theorem.)
-/
namespace Props.C12
open Model.Producer Props.C01 Lemmas.Acceptor

/-- a closed state has been through every stage of the shutdown handshake (shutdown started, marker consumed by the
    dispatcher, Wait returned) and has nothing in flight -/
theorem shutdown_order (cfg : Cfg) (es : List Ev) (s : St) (h : run (init cfg) es = .ok s) (hc : s.closed = true) :
    s.waited = true ∧ s.shutdownSeen = true ∧ s.shutdownStarted = true ∧ s.live = [] ∧ s.markers = 0 := by
  have hi := reachable_inv cfg es s h
  have hw := hi.closed_w hc
  have he := hi.waited_emp hw
  exact ⟨hw, he.2.2, hi.seen_start he.2.2, he.1, he.2.1⟩

/-- a close is accepted only while the channels are open, and closes them -/
theorem close_once (s s' : St) (h : step s .close = .ok s') : s.closed = false ∧ s'.closed = true := by
  revert h
  refine ok_of_guard fun _ => ok_of_guard fun h2 h => ?_
  cases h; exact ⟨eq_false_of_ne_true h2, rfl⟩

/-- a step from a closed state sends nothing on Successes/Errors and accepts no message -/
theorem no_send_after_close (s s' : St) (e : Ev) (hc : s.closed = true) (h : step s e = .ok s') :
    s'.succ = s.succ ∧ s'.errs = s.errs ∧ s'.accepted = s.accepted :=
  have := (step_logs s s' e h).frozen hc
  ⟨this.1, this.2.1, this.2.2.1⟩

/-- the channels are closed after their last event: `C01.closed_implies_exactly_one`, as C12 reads it -/
theorem outputs_closed_after_last_event (cfg : Cfg) (es : List Ev) (s : St) (h : run (init cfg) es = .ok s)
    (hc : s.closed = true) (id : Int) (hm : id ∈ s.accepted ∨ id ∈ s.rejected) :
    s.succ.count id + s.errs.count id = 1 :=
  closed_implies_exactly_one cfg es s h hc id hm

/-- once shutdown has been seen by the dispatcher no new message enters the pipeline (it is rejected with an
    error event instead), so the in-flight set can only shrink: with the retry bound `pass_bound` this is the
    measure behind "Close completes" (termination itself is observed by the harness, with a time bound) -/
theorem no_accept_after_shutdown (s s' : St) (id : Int) (hs : s.shutdownSeen = true) :
    step s (.accept id) ≠ .ok s' := by
  exact ok_of_guard fun _ => ok_of_guard fun _ => ok_of_guard fun h _ => h hs

/-! shutdown issued while a message is still being retried; close happens after its outcome -/
example :
    (run (init { retryMax := 1, icepts := 0, idem := false })
      [.accept 1, .pass 1 0, .wgAdd true, .shutdownSeen, .reject 2, .retry 1 1, .pass 1 1, .retErr 1, .waited, .close]).toOption.map
      (fun s => (s.closed, s.errs)) = some (true, [1, 2]) := by decide
/-- … and closing before the outcome is not accepted -/
example : (run (init { retryMax := 1, icepts := 0, idem := false })
      [.accept 1, .pass 1 0, .wgAdd true, .shutdownSeen, .waited]).toOption.isNone = true := by decide

end Props.C12
