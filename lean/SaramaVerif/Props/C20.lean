import SaramaVerif.Model.Mocks
/-
  C20 — mocks replay scripted expectations faithfully and report deviations.
  The theorems hold for every script, every input sequence (= every processing order of concurrent senders), every
  partitioner state machine, every checker function and every topic configuration.  The definitions at the head
  (`choices` … `CheckersPass`) are the vocabulary of their statements.
-/
namespace Props.C20
open Model.Mocks

/-- the partitioner's answers when the messages are presented, in order, to the partitioner of their topic
    with the configured partition count of that topic -/
def choices {σ : Type} (P : Part σ) (tc : TopicCfg) : (Nat → σ) → List Msg → List (Except Int Int)
  | _, [] => []
  | ps, m :: ms => (choose P ps tc m).1 :: choices P tc (upd ps m.topic (choose P ps tc m).2) ms

/-- the call ends in success: the partitioner answers, the checker passes and the expectation scripts no error.
    Exactly then the mock advances `lastOffset` (`asyncHandle_fixed`, `syncHandle_spec`). -/
def succeeds (e : Exp) (m : Msg) (c : Except Int Int) : Bool :=
  match c with
  | .error _ => false
  | .ok p => (checkVerdict e m p).isNone && e.result.isNone

theorem succeeds_ok (e : Exp) (m : Msg) (p : Int) :
    succeeds e m (.ok p) = ((checkVerdict e m p).isNone && e.result.isNone) := rfl

/-- the successes among the inputs before the `i`-th: the offset the mock hands the `i`-th input is
    `lastOffset + 1 +` this number -/
def succBefore : List Exp → List Msg → List (Except Int Int) → Nat → Nat
  | e :: es, m :: ms, c :: cs, i + 1 => (if succeeds e m c then 1 else 0) + succBefore es ms cs i
  | _, _, _, _ => 0

/-- reporter calls an input with an expectation may cause: partitioner error, failing checker – nothing else -/
def expectedReports (e : Exp) (m : Msg) (c : Except Int Int) : List Report :=
  match c with
  | .error pc => [.partitionerError pc]
  | .ok p =>
    match checkVerdict e m p with
    | some cc => [.checkerFailed cc]
    | none => []

/-- the outcome the async mock owes to a message that meets expectation `e`, when the partitioner answered `c`
    and `off` is the next offset -/
def expectedAsync (cfg : ACfg) (e : Exp) (m : Msg) (c : Except Int Int) (off : Int) : List Outcome :=
  match c with
  | .error pc => [.error m.id .partitioner pc m.part0]
  | .ok p =>
    match checkVerdict e m p with
    | some cc => [.error m.id .checker cc p]
    | none =>
      match e.result with
      | none => if cfg.retSucc then [.success m.id p off] else []
      | some rc => if cfg.retErr then [.error m.id .scripted rc p] else []

/-- what `SendMessage` owes -/
def expectedSync (e : Exp) (m : Msg) (c : Except Int Int) (off : Int) : SyncOut :=
  match c with
  | .error pc => ⟨-1, -1, some (.partitioner, pc), m.part0, 0⟩
  | .ok p =>
    match checkVerdict e m p with
    | some cc => ⟨-1, -1, some (.checker, cc), p, 0⟩
    | none =>
      match e.result with
      | none => ⟨p, off, none, p, off⟩
      | some rc => ⟨-1, -1, some (.scripted, rc), p, 0⟩

def CheckersPass (exps : List Exp) : Prop := ∀ e ∈ exps, ∀ m p, checkVerdict e m p = none

theorem setPartitionsMap_other (tc : TopicCfg) (l : List (Nat × Int)) (t : Nat) (h : t ∉ l.map (·.1)) :
    (tc.setPartitionsMap l).partitions t = tc.partitions t := by
  induction l generalizing tc with
  | nil => rfl
  | cons x l ih =>
    obtain ⟨t', n⟩ := x
    simp only [List.map_cons, List.mem_cons, not_or] at h
    simp only [TopicCfg.setPartitionsMap]
    rw [ih _ h.2]
    simp [TopicCfg.partitions, TopicCfg.setPartitions, h.1]

theorem setPartitionsMap_last (tc : TopicCfg) (l₁ l₂ : List (Nat × Int)) (t : Nat) (n : Int)
    (h : t ∉ l₂.map (·.1)) : (tc.setPartitionsMap (l₁ ++ (t, n) :: l₂)).partitions t = n := by
  induction l₁ generalizing tc with
  | nil =>
    show ((tc.setPartitions t n).setPartitionsMap l₂).partitions t = n
    rw [setPartitionsMap_other _ l₂ t h]
    simp [TopicCfg.partitions, TopicCfg.setPartitions]
  | cons x l₁ ih => exact ih _

/-- A Go map has each key once, so a mentioned topic gets exactly the count the map held at the time of the call.
    That a later change of the caller's map, or the configuration of another mock, does not reach the table is not
    a theorem: the driver (Driver/C20.lean) writes `PState.tc` only on the mock's own configuration calls, and the
    correspondence check compares that with the code. -/
theorem setPartitionsMap_snapshot (tc : TopicCfg) (l : List (Nat × Int)) (t : Nat) (n : Int)
    (hnd : (l.map (·.1)).Nodup) (h : (t, n) ∈ l) :
    (tc.setPartitionsMap l).partitions t = n := by
  obtain ⟨l₁, l₂, rfl⟩ := List.append_of_mem h
  rw [List.map_append, List.map_cons] at hnd
  exact setPartitionsMap_last tc l₁ l₂ t n (List.nodup_cons.mp (List.nodup_append.mp hnd).2.1).1

/-- What `asyncSend` and `syncSend` share: pop the first expectation, ask the topic's partitioner, and hand both
    to the mock's handler `h`, which answers the new `lastOffset` and what the caller sees; a message that finds
    no expectation is answered `d m` and changes nothing. -/
def scripted {σ β : Type} (P : Part σ) (h : Exp → Msg → Except Int Int → Int → Int × β) (d : Msg → β)
    (s : PState σ) (m : Msg) : PState σ × β :=
  match s.exps with
  | [] => (⟨[], s.lastOffset, s.ps, s.tc⟩, d m)
  | e :: rest =>
    (⟨rest, (h e m (choose P s.ps s.tc m).1 s.lastOffset).1, upd s.ps m.topic (choose P s.ps s.tc m).2, s.tc⟩,
     (h e m (choose P s.ps s.tc m).1 s.lastOffset).2)

def scriptedOuts {σ β : Type} (P : Part σ) (h : Exp → Msg → Except Int Int → Int → Int × β) (d : Msg → β) :
    PState σ → List Msg → List β
  | _, [] => []
  | s, m :: ms => (scripted P h d s m).2 :: scriptedOuts P h d (scripted P h d s m).1 ms

theorem asyncOuts_eq {σ : Type} (P : Part σ) (fx : Bool) (cfg : ACfg) (s : PState σ) (msgs : List Msg) :
    asyncOuts P fx cfg s msgs = scriptedOuts P (asyncHandle fx cfg) (fun _ => ([], [.noExpectation])) s msgs := by
  induction msgs generalizing s with
  | nil => rfl
  | cons m ms ih => exact congrArg _ (ih _)

theorem syncOuts_eq {σ : Type} (P : Part σ) (rc : Bool) (s : PState σ) (msgs : List Msg) :
    syncOuts P rc s msgs = scriptedOuts P (syncHandle rc)
      (fun m => (⟨-1, -1, some (.outOfExpectations, 0), m.part0, 0⟩, [.noExpectation])) s msgs := by
  induction msgs generalizing s with
  | nil => rfl
  | cons m ms ih => exact congrArg _ (ih _)

theorem choices_length {σ : Type} (P : Part σ) (tc : TopicCfg) (ps : Nat → σ) (msgs : List Msg) :
    (choices P tc ps msgs).length = msgs.length := by
  induction msgs generalizing ps with
  | nil => rfl
  | cons m ms ih => exact congrArg (· + 1) (ih _)

section Scripted
variable {σ β : Type} (P : Part σ) {h : Exp → Msg → Except Int Int → Int → Int × β} (d : Msg → β)

theorem scriptedOuts_length (s : PState σ) (msgs : List Msg) : (scriptedOuts P h d s msgs).length = msgs.length := by
  induction msgs generalizing s with
  | nil => rfl
  | cons m ms ih => exact congrArg (· + 1) (ih _)

/-- The one induction behind the i-th-outcome theorems of both mocks: if the handler advances the offset exactly
    on success and otherwise answers a function `g` of the next offset (`hh`), the `i`-th answer is `g` at
    `lo + 1 + succBefore .. i`. -/
theorem scriptedOuts_get {g : Exp → Msg → Except Int Int → Int → β}
    (hh : ∀ e m c lo, h e m c lo = (if succeeds e m c then lo + 1 else lo, g e m c (lo + 1)))
    (exps : List Exp) (lo : Int) (ps : Nat → σ) (tc : TopicCfg) (msgs : List Msg)
    (i : Nat) (e : Exp) (m : Msg) (c : Except Int Int)
    (he : exps[i]? = some e) (hm : msgs[i]? = some m) (hc : (choices P tc ps msgs)[i]? = some c) :
    (scriptedOuts P h d ⟨exps, lo, ps, tc⟩ msgs)[i]? =
      some (g e m c (lo + 1 + succBefore exps msgs (choices P tc ps msgs) i)) := by
  induction msgs generalizing exps lo ps i with
  | nil => cases hm
  | cons m0 ms ih =>
    obtain _ | ⟨e0, rest⟩ := exps
    · cases he
    · cases i with
      | zero =>
        cases he; cases hm; cases hc
        show some (h e m _ lo).2 = _
        rw [hh]
        exact congrArg (fun x => some (g e m _ x)) (Int.add_zero _).symm
      | succ j =>
        refine (ih rest (h e0 m0 (choose P ps tc m0).1 lo).1 (upd ps m0.topic (choose P ps tc m0).2) j he hm hc).trans
          (congrArg (fun x => some (g e m c x)) ?_)
        show _ = lo + 1 + ((_ + _ : Nat) : Int)
        rw [hh, Int.natCast_add]
        cases succeeds e0 m0 (choose P ps tc m0).1
        · exact congrArg _ (Int.zero_add _).symm
        · exact Int.add_assoc _ _ _

theorem scriptedOuts_get_any (s : PState σ) (msgs : List Msg) (i : Nat) (e : Exp) (m : Msg) (c : Except Int Int)
    (he : s.exps[i]? = some e) (hm : msgs[i]? = some m) (hc : (choices P s.tc s.ps msgs)[i]? = some c) :
    ∃ lo, (scriptedOuts P h d s msgs)[i]? = some (h e m c lo).2 := by
  induction msgs generalizing s i with
  | nil => cases hm
  | cons m0 ms ih =>
    obtain ⟨_ | ⟨e0, rest⟩, lo, ps, tc⟩ := s
    · cases he
    · cases i with
      | zero => cases he; cases hm; cases hc; exact ⟨lo, rfl⟩
      | succ j => exact ih ⟨rest, (h e0 m0 (choose P ps tc m0).1 lo).1, upd ps m0.topic (choose P ps tc m0).2, tc⟩ j he hm hc

theorem scriptedOuts_beyond (s : PState σ) (msgs : List Msg) (i : Nat) (m : Msg)
    (hi : s.exps.length ≤ i) (hm : msgs[i]? = some m) :
    (scriptedOuts P h d s msgs)[i]? = some (d m) := by
  induction msgs generalizing s i with
  | nil => cases hm
  | cons m0 ms ih =>
    obtain ⟨_ | ⟨e0, rest⟩, lo, ps, tc⟩ := s
    · cases i with
      | zero => cases hm; rfl
      | succ j => exact ih ⟨[], lo, ps, tc⟩ j (Nat.zero_le j) hm
    · cases i with
      | zero => cases hi
      | succ j => exact ih ⟨rest, _, _, tc⟩ j (Nat.le_of_succ_le_succ hi) hm

theorem scriptedOuts_congr {h' : Exp → Msg → Except Int Int → Int → Int × β} (s : PState σ) (msgs : List Msg)
    (hh : ∀ e ∈ s.exps, ∀ m c lo, h e m c lo = h' e m c lo) :
    scriptedOuts P h d s msgs = scriptedOuts P h' d s msgs := by
  induction msgs generalizing s with
  | nil => rfl
  | cons m0 ms ih =>
    obtain ⟨_ | ⟨e0, rest⟩, lo, ps, tc⟩ := s
    · exact congrArg _ (ih _ hh)
    · simp only [scriptedOuts, scripted, hh e0 List.mem_cons_self]
      exact congrArg _ (ih _ fun e he => hh e (List.mem_cons_of_mem _ he))

end Scripted

private theorem asyncFinal_exps {σ : Type} (P : Part σ) (fx : Bool) (cfg : ACfg) (s : PState σ) (msgs : List Msg) :
    (asyncFinal P fx cfg s msgs).exps = s.exps.drop msgs.length := by
  induction msgs generalizing s with
  | nil => rfl
  | cons m0 ms ih =>
    obtain ⟨_ | ⟨e0, rest⟩, lo, ps, tc⟩ := s
    · exact (ih _).trans (List.drop_nil.trans List.drop_nil.symm)
    · exact ih _

private theorem closeReports_drop {σ : Type} (s s' : PState σ) (n : Nat) (h : s'.exps = s.exps.drop n) :
    closeReports s' = (if s.exps.length > n then [.leftover (s.exps.length - n)] else []) := by
  rw [closeReports, h, List.length_drop]
  exact ite_congr (propext Nat.sub_pos_iff_lt) (fun _ => rfl) (fun _ => rfl)

private theorem asyncHandle_fixed (cfg : ACfg) (e : Exp) (m : Msg) (c : Except Int Int) (lo : Int) :
    asyncHandle true cfg e m c lo =
      (if succeeds e m c then lo + 1 else lo, expectedAsync cfg e m c (lo + 1), expectedReports e m c) := by
  cases c with
  | error pc => rfl
  | ok p =>
    rw [succeeds_ok]
    unfold asyncHandle asyncResult expectedAsync expectedReports
    dsimp only
    cases checkVerdict e m p <;> cases e.result <;> rfl

private theorem asyncHandle_reports (fx : Bool) (cfg : ACfg) (e : Exp) (m : Msg) (c : Except Int Int) (lo : Int) :
    (asyncHandle fx cfg e m c lo).2.2 = expectedReports e m c := by
  cases c with
  | error pc => rfl
  | ok p =>
    unfold asyncHandle expectedReports
    dsimp only
    cases checkVerdict e m p <;> cases fx <;> rfl

/-- Documented variant, i-th input ↦ i-th expectation.  For every partitioner, script, topic configuration
    and every sequence of inputs (= every order in which the goroutine received the messages of concurrent
    senders), from every state: the i-th input, if there is an i-th expectation `e`, gets exactly the outcome
    owed by `e`: the scripted error, or a success carrying the partition the topic's partitioner chose for the
    configured partition count and the offset `lastOffset + 1 + (number of earlier successes)` — i.e. offsets
    1,2,3,… over the successes of a fresh mock; and the reporter hears exactly `expectedReports`. -/
theorem async_mock_ith_outcome {σ : Type} (P : Part σ) (cfg : ACfg) (s : PState σ) (msgs : List Msg)
    (i : Nat) (e : Exp) (m : Msg) (c : Except Int Int)
    (he : s.exps[i]? = some e) (hm : msgs[i]? = some m) (hc : (choices P s.tc s.ps msgs)[i]? = some c) :
    (asyncOuts P true cfg s msgs)[i]? =
      some (expectedAsync cfg e m c (s.lastOffset + 1 + succBefore s.exps msgs (choices P s.tc s.ps msgs) i),
            expectedReports e m c) := by
  rw [asyncOuts_eq]
  exact scriptedOuts_get P _ (g := fun e m c off => (expectedAsync cfg e m c off, expectedReports e m c))
    (asyncHandle_fixed cfg) s.exps s.lastOffset s.ps s.tc msgs i e m c he hm hc

/-- an input beyond the script gets no outcome at all and exactly one reporter call (both variants) -/
theorem async_input_without_expectation {σ : Type} (P : Part σ) (fx : Bool) (cfg : ACfg) (s : PState σ)
    (msgs : List Msg) (i : Nat) (hi : s.exps.length ≤ i) (hm : i < msgs.length) :
    (asyncOuts P fx cfg s msgs)[i]? = some ([], [.noExpectation]) := by
  rw [asyncOuts_eq]
  exact scriptedOuts_beyond P _ s msgs i msgs[i] hi (List.getElem?_eq_getElem hm)

/-- pinned variant (F11a) agrees with the documented one as long as no checker objects -/
theorem async_pinned_eq_fixed_of_checkers_pass {σ : Type} (P : Part σ) (cfg : ACfg) (s : PState σ)
    (msgs : List Msg) (h : CheckersPass s.exps) :
    asyncOuts P false cfg s msgs = asyncOuts P true cfg s msgs := by
  rw [asyncOuts_eq, asyncOuts_eq]
  refine scriptedOuts_congr P _ s msgs fun e he m c lo => ?_
  cases c with
  | error pc => rfl
  | ok p => unfold asyncHandle; dsimp only; rw [h e he m p]

theorem async_mock_ith_outcome_partial {σ : Type} (P : Part σ) (cfg : ACfg) (s : PState σ) (msgs : List Msg)
    (hpass : CheckersPass s.exps)
    (i : Nat) (e : Exp) (m : Msg) (c : Except Int Int)
    (he : s.exps[i]? = some e) (hm : msgs[i]? = some m) (hc : (choices P s.tc s.ps msgs)[i]? = some c) :
    (asyncOuts P false cfg s msgs)[i]? =
      some (expectedAsync cfg e m c (s.lastOffset + 1 + succBefore s.exps msgs (choices P s.tc s.ps msgs) i),
            expectedReports e m c) := by
  rw [async_pinned_eq_fixed_of_checkers_pass P cfg s msgs hpass]
  exact async_mock_ith_outcome P cfg s msgs i e m c he hm hc

private theorem expectedAsync_one (cfg : ACfg) (hs : cfg.retSucc = true) (he : cfg.retErr = true)
    (e : Exp) (m : Msg) (c : Except Int Int) (off : Int) :
    ∃ o, expectedAsync cfg e m c off = [o] ∧ o.id = m.id := by
  cases c with
  | error pc => exact ⟨_, rfl, rfl⟩
  | ok p =>
    unfold expectedAsync
    dsimp only
    rw [hs, he]
    cases checkVerdict e m p <;> cases e.result <;> exact ⟨_, rfl, rfl⟩

private theorem expectedAsync_length (cfg : ACfg) (e : Exp) (m : Msg) (c : Except Int Int) (off : Int) :
    (expectedAsync cfg e m c off).length ≤ 1 := by
  cases c with
  | error pc => exact Nat.le_refl 1
  | ok p =>
    unfold expectedAsync
    dsimp only
    cases checkVerdict e m p
    · cases e.result <;> dsimp only <;> split <;> first | exact Nat.le_refl 1 | exact Nat.zero_le 1
    · exact Nat.le_refl 1

private theorem choices_getElem? {σ : Type} (P : Part σ) (tc : TopicCfg) (ps : Nat → σ) (msgs : List Msg) (i : Nat)
    (hi : i < msgs.length) : ∃ c, (choices P tc ps msgs)[i]? = some c :=
  ⟨_, List.getElem?_eq_getElem ((choices_length P tc ps msgs).symm ▸ hi)⟩

/-- Documented variant, `Return.Successes` and `Return.Errors` on: every input that
    meets an expectation gets exactly one outcome, and it is an outcome of that very message; inputs beyond the
    script get none (`async_input_without_expectation`). Holds for every processing order. -/
theorem exactly_one_outcome {σ : Type} (P : Part σ) (cfg : ACfg) (hs : cfg.retSucc = true) (he : cfg.retErr = true)
    (s : PState σ) (msgs : List Msg) (i : Nat) (m : Msg) (hm : msgs[i]? = some m) (hi : i < s.exps.length) :
    ∃ o r, (asyncOuts P true cfg s msgs)[i]? = some ([o], r) ∧ o.id = m.id := by
  obtain ⟨c, hc⟩ := choices_getElem? P s.tc s.ps msgs i (List.getElem?_eq_some_iff.mp hm).1
  obtain ⟨o, ho, hid⟩ := expectedAsync_one cfg hs he s.exps[i] m c
    (s.lastOffset + 1 + succBefore s.exps msgs (choices P s.tc s.ps msgs) i)
  exact ⟨o, _, ho ▸ async_mock_ith_outcome P cfg s msgs i _ m c (List.getElem?_eq_getElem hi) hm hc, hid⟩

/-- whatever the `Return.*` settings: never more than one outcome per input (documented variant) -/
theorem at_most_one_outcome {σ : Type} (P : Part σ) (cfg : ACfg) (s : PState σ) (msgs : List Msg)
    (i : Nat) (o : List Outcome × List Report) (h : (asyncOuts P true cfg s msgs)[i]? = some o) :
    o.1.length ≤ 1 := by
  have hil : i < msgs.length := by
    have := (List.getElem?_eq_some_iff.mp h).1
    rwa [asyncOuts_eq, scriptedOuts_length] at this
  by_cases hi : i < s.exps.length
  · obtain ⟨c, hc⟩ := choices_getElem? P s.tc s.ps msgs i hil
    rw [async_mock_ith_outcome P cfg s msgs i _ _ c (List.getElem?_eq_getElem hi) (List.getElem?_eq_getElem hil) hc] at h
    cases h
    exact expectedAsync_length ..
  · rw [async_input_without_expectation P true cfg s msgs i (Nat.le_of_not_lt hi) hil] at h
    cases h
    exact Nat.zero_le 1

/-- exactly-one for the pinned variant needs the extra hypothesis that no checker objects … -/
theorem exactly_one_outcome_partial {σ : Type} (P : Part σ) (cfg : ACfg) (hs : cfg.retSucc = true) (he : cfg.retErr = true)
    (s : PState σ) (msgs : List Msg) (hpass : CheckersPass s.exps)
    (i : Nat) (m : Msg) (hm : msgs[i]? = some m) (hi : i < s.exps.length) :
    ∃ o r, (asyncOuts P false cfg s msgs)[i]? = some ([o], r) ∧ o.id = m.id := by
  rw [async_pinned_eq_fixed_of_checkers_pass P cfg s msgs hpass]
  exact exactly_one_outcome P cfg hs he s msgs i m hm hi

/-- … and without it fails (F11a): one message, a success expectation whose checker objects (code 7), manual
    partitioner: the pinned variant emits the checker error AND a success with offset 1; the documented one
    emits the checker error only and keeps offset 1 for the next message. -/
example :
    asyncOuts manualPart false ⟨true, true⟩ (PState.init manualPart [⟨none, some (fun _ _ => some 7)⟩] TopicCfg.new) [⟨0, 0, 0, 3⟩]
      = [([.error 0 .checker 7 3, .success 0 3 1], [.checkerFailed 7])] := rfl
example :
    asyncOuts manualPart true ⟨true, true⟩ (PState.init manualPart [⟨none, some (fun _ _ => some 7)⟩] TopicCfg.new) [⟨0, 0, 0, 3⟩]
      = [([.error 0 .checker 7 3], [.checkerFailed 7])] := rfl
/-- same defect on a failure expectation: two errors for one message -/
example :
    asyncOuts manualPart false ⟨true, true⟩ (PState.init manualPart [⟨some 5, some (fun _ _ => some 7)⟩] TopicCfg.new) [⟨0, 0, 0, 3⟩]
      = [([.error 0 .checker 7 3, .error 0 .scripted 5 3], [.checkerFailed 7])] := rfl

/-- Both variants of the async mock: over a whole life (inputs, then Close) the reporter is
    called exactly: once `noExpectation` per input beyond the script; `partitionerError`/`checkerFailed` for an
    input whose partitioner/checker objected; at Close `leftover n` iff `n > 0` expectations were not used —
    and for nothing else (a successful or scripted-error outcome causes no call). -/
theorem async_reporter_calls_spec {σ : Type} (P : Part σ) (fx : Bool) (cfg : ACfg) (s : PState σ) (msgs : List Msg) :
    (∀ (i : Nat) (e : Exp) (m : Msg) (c : Except Int Int), s.exps[i]? = some e → msgs[i]? = some m → (choices P s.tc s.ps msgs)[i]? = some c →
        ∃ o, (asyncOuts P fx cfg s msgs)[i]? = some (o, expectedReports e m c)) ∧
    (∀ (i : Nat), s.exps.length ≤ i → i < msgs.length → (asyncOuts P fx cfg s msgs)[i]? = some ([], [.noExpectation])) ∧
    closeReports (asyncFinal P fx cfg s msgs) =
      (if s.exps.length > msgs.length then [.leftover (s.exps.length - msgs.length)] else []) := by
  refine ⟨fun i e m c he hm hc => ?_, async_input_without_expectation P fx cfg s msgs,
    closeReports_drop s _ _ (asyncFinal_exps P fx cfg s msgs)⟩
  obtain ⟨lo, h⟩ := scriptedOuts_get_any P (h := asyncHandle fx cfg) (fun _ => ([], [.noExpectation])) s msgs i e m c he hm hc
  exact ⟨_, by rw [asyncOuts_eq, h, ← asyncHandle_reports fx cfg e m c lo]⟩

theorem expectedReports_nil_iff (e : Exp) (m : Msg) (c : Except Int Int) :
    expectedReports e m c = [] ↔ ∃ p, c = .ok p ∧ checkVerdict e m p = none := by
  unfold expectedReports
  cases c with
  | error pc => simp
  | ok p => simp only; split <;> simp_all

private theorem syncFinal_exps {σ : Type} (P : Part σ) (rc : Bool) (s : PState σ) (msgs : List Msg) :
    (syncFinal P rc s msgs).exps = s.exps.drop msgs.length := by
  induction msgs generalizing s with
  | nil => rfl
  | cons m0 ms ih =>
    obtain ⟨_ | ⟨e0, rest⟩, lo, ps, tc⟩ := s
    · exact (ih _).trans (List.drop_nil.trans List.drop_nil.symm)
    · exact ih _

/-- what the i-th `SendMessage` call owes in either variant: as documented (`expectedSync`), except that the pinned
    body (F11b, `rc = false`) returns partition 0 on success; nothing else differs -/
def expectedSyncV (rc : Bool) (e : Exp) (m : Msg) (c : Except Int Int) (off : Int) : SyncOut :=
  { expectedSync e m c off with
      retPartition := if rc then (expectedSync e m c off).retPartition else if succeeds e m c then 0 else -1 }

theorem syncHandle_spec (rc : Bool) (e : Exp) (m : Msg) (c : Except Int Int) (lo : Int) :
    syncHandle rc e m c lo =
      (if succeeds e m c then lo + 1 else lo, expectedSyncV rc e m c (lo + 1), expectedReports e m c) := by
  cases c with
  | error pc => cases rc <;> rfl
  | ok p =>
    -- `expectedSyncV` first: under `succeeds` it hides a `checkVerdict e m p` that the case split has to reach
    unfold expectedSyncV
    rw [succeeds_ok]
    unfold syncHandle expectedSync expectedReports
    dsimp only
    cases checkVerdict e m p <;> cases e.result <;> cases rc <;> rfl

/-- Both variants: the i-th `SendMessage` call that meets an expectation returns `expectedSyncV rc` at offset
    `lastOffset + 1 + number of earlier successes`, and the reporter hears exactly `expectedReports`. -/
theorem sync_mock_ith_outcome_both {σ : Type} (P : Part σ) (rc : Bool) (s : PState σ) (msgs : List Msg)
    (i : Nat) (e : Exp) (m : Msg) (c : Except Int Int)
    (he : s.exps[i]? = some e) (hm : msgs[i]? = some m) (hc : (choices P s.tc s.ps msgs)[i]? = some c) :
    (syncOuts P rc s msgs)[i]? =
      some (expectedSyncV rc e m c (s.lastOffset + 1 + succBefore s.exps msgs (choices P s.tc s.ps msgs) i),
            expectedReports e m c) := by
  rw [syncOuts_eq]
  exact scriptedOuts_get P _ (g := fun e m c off => (expectedSyncV rc e m c off, expectedReports e m c))
    (syncHandle_spec rc) s.exps s.lastOffset s.ps s.tc msgs i e m c he hm hc

/-- Documented variant: the i-th `SendMessage` call, if there is an i-th expectation,
    returns the scripted error, or `(partition chosen by the topic's partitioner for the configured count,
    lastOffset + 1 + number of earlier successes, nil)` with the same two values stored in the message; the
    reporter hears exactly `expectedReports`. -/
theorem sync_mock_ith_outcome {σ : Type} (P : Part σ) (s : PState σ) (msgs : List Msg)
    (i : Nat) (e : Exp) (m : Msg) (c : Except Int Int)
    (he : s.exps[i]? = some e) (hm : msgs[i]? = some m) (hc : (choices P s.tc s.ps msgs)[i]? = some c) :
    (syncOuts P true s msgs)[i]? =
      some (expectedSync e m c (s.lastOffset + 1 + succBefore s.exps msgs (choices P s.tc s.ps msgs) i),
            expectedReports e m c) :=
  -- `expectedSyncV true ..` unfolds to `expectedSync ..` with its own `retPartition` put back
  sync_mock_ith_outcome_both P true s msgs i e m c he hm hc

/-- pinned variant (F11b): everything as documented except that a successful call returns partition 0 … -/
theorem sync_mock_ith_outcome_pinned {σ : Type} (P : Part σ) (s : PState σ) (msgs : List Msg)
    (i : Nat) (e : Exp) (m : Msg) (c : Except Int Int)
    (he : s.exps[i]? = some e) (hm : msgs[i]? = some m) (hc : (choices P s.tc s.ps msgs)[i]? = some c) :
    (syncOuts P false s msgs)[i]? =
      some ({ expectedSync e m c (s.lastOffset + 1 + succBefore s.exps msgs (choices P s.tc s.ps msgs) i) with
                retPartition := if succeeds e m c then 0 else -1 },
            expectedReports e m c) :=
  sync_mock_ith_outcome_both P false s msgs i e m c he hm hc

private theorem expectedSync_retPartition (e : Exp) (m : Msg) (p off : Int) :
    (expectedSync e m (.ok p) off).retPartition = if succeeds e m (.ok p) then p else -1 := by
  rw [succeeds_ok]
  unfold expectedSync
  dsimp only
  cases checkVerdict e m p <;> cases e.result <;> rfl

/-- … so the full statement holds for the pinned variant exactly when the partitioner chose 0 or the call
    did not succeed -/
theorem sync_mock_ith_outcome_partial {σ : Type} (P : Part σ) (s : PState σ) (msgs : List Msg)
    (i : Nat) (e : Exp) (m : Msg) (c : Except Int Int)
    (he : s.exps[i]? = some e) (hm : msgs[i]? = some m) (hc : (choices P s.tc s.ps msgs)[i]? = some c)
    (hz : c = .ok 0 ∨ succeeds e m c = false) :
    (syncOuts P false s msgs)[i]? =
      some (expectedSync e m c (s.lastOffset + 1 + succBefore s.exps msgs (choices P s.tc s.ps msgs) i),
            expectedReports e m c) := by
  rw [sync_mock_ith_outcome_pinned P s msgs i e m c he hm hc]
  suffices h : ∀ off, (if succeeds e m c then 0 else -1) = (expectedSync e m c off).retPartition by rw [h]
  intro off
  cases c with
  | error pc => rfl
  | ok p =>
    rw [expectedSync_retPartition]
    rcases hz with hz | hz
    · cases hz; rfl
    · rw [hz]; rfl

/-- counter-example for the pinned variant (F11b): manual partitioner, message for partition 8, success
    expectation: `SendMessage` returns partition 0 while the message says 8; the documented variant returns 8. -/
example :
    syncOuts manualPart false (PState.init manualPart [⟨none, none⟩] TopicCfg.new) [⟨0, 0, 0, 8⟩]
      = [(⟨0, 1, none, 8, 1⟩, [])] := rfl
example :
    syncOuts manualPart true (PState.init manualPart [⟨none, none⟩] TopicCfg.new) [⟨0, 0, 0, 8⟩]
      = [(⟨8, 1, none, 8, 1⟩, [])] := rfl

/-- a `SendMessage` beyond the script returns `errOutOfExpectations`, leaves the message alone and calls the
    reporter once (both variants) -/
theorem sync_input_without_expectation {σ : Type} (P : Part σ) (rc : Bool) (s : PState σ) (msgs : List Msg)
    (i : Nat) (m : Msg) (hi : s.exps.length ≤ i) (hm : msgs[i]? = some m) :
    (syncOuts P rc s msgs)[i]? = some (⟨-1, -1, some (.outOfExpectations, 0), m.part0, 0⟩, [.noExpectation]) := by
  rw [syncOuts_eq]
  exact scriptedOuts_beyond P _ s msgs i m hi hm

/-- Both variants of the sync mock, over `SendMessage` calls and Close: the reporter hears `expectedReports` for a
    call that meets an expectation, `noExpectation` once for a call beyond the script, and at Close `leftover n`
    iff `n > 0` expectations were not used. -/
theorem sync_reporter_calls_spec {σ : Type} (P : Part σ) (rc : Bool) (s : PState σ) (msgs : List Msg) :
    (∀ (i : Nat) (e : Exp) (m : Msg) (c : Except Int Int), s.exps[i]? = some e → msgs[i]? = some m →
        (choices P s.tc s.ps msgs)[i]? = some c →
        ∃ o, (syncOuts P rc s msgs)[i]? = some (o, expectedReports e m c)) ∧
    (∀ (i : Nat) (m : Msg), s.exps.length ≤ i → msgs[i]? = some m →
        ∃ o, (syncOuts P rc s msgs)[i]? = some (o, [.noExpectation])) ∧
    closeReports (syncFinal P rc s msgs) =
      (if s.exps.length > msgs.length then [.leftover (s.exps.length - msgs.length)] else []) :=
  ⟨fun i e m c he hm hc => ⟨_, sync_mock_ith_outcome_both P rc s msgs i e m c he hm hc⟩,
    fun i m hi hm => ⟨_, sync_input_without_expectation P rc s msgs i m hi hm⟩,
    closeReports_drop s _ _ (syncFinal_exps P rc s msgs)⟩

/-- `SendMessages` is all-or-nothing on the number of expectations: with too few, nothing is used up, no
    message is touched, the call fails with `errOutOfExpectations` and the reporter is called once -/
theorem sync_batch_all_or_nothing {σ : Type} (P : Part σ) (s : PState σ) (msgs : List Msg)
    (h : s.exps.length < msgs.length) :
    syncSendBatch P s msgs =
      (s, ⟨some (.outOfExpectations, 0), msgs.map (fun x => (x.part0, 0))⟩, [.insufficient]) := by
  unfold syncSendBatch
  have : ¬ (s.exps.length ≥ msgs.length) := by omega
  simp only [this, ↓reduceIte]

/-- what a batch shows, expressed through the `SendMessage` results of the same messages: like the single
    calls up to and including the first failing one; the failing message keeps offset 0, later ones are untouched -/
def batchOfSingles : List (SyncOut × List Report) → List Msg → BatchOut × List Report
  | (o, r) :: rest, _ :: ms =>
    match o.err with
    | some err => (⟨some err, (o.msgPartition, 0) :: ms.map (fun x => (x.part0, 0))⟩, r)
    | none => (⟨(batchOfSingles rest ms).1.err, (o.msgPartition, o.msgOffset) :: (batchOfSingles rest ms).1.msgs⟩,
               (batchOfSingles rest ms).2)
  | _, _ => (⟨none, []⟩, [])

private theorem syncHandle_ok (e : Exp) (m : Msg) (c : Except Int Int) (lo : Int)
    (h : (syncHandle true e m c lo).2.1.err = none) :
    (syncHandle true e m c lo).1 = lo + 1 ∧ (syncHandle true e m c lo).2.1.msgOffset = lo + 1 := by
  cases c with
  | error pc => cases h
  | ok p =>
    revert h
    unfold syncHandle
    dsimp only
    cases checkVerdict e m p
    · cases e.result
      · exact fun _ => ⟨rfl, rfl⟩
      · exact nofun
    · exact nofun

private theorem batchLoop_eq {σ : Type} (P : Part σ) (tc : TopicCfg) (msgs : List Msg) :
    ∀ (exps : List Exp) (lo : Int) (ps : Nat → σ), msgs.length ≤ exps.length →
      (batchLoop P tc lo ps (exps.take msgs.length) msgs).2 =
        batchOfSingles (syncOuts P true ⟨exps, lo, ps, tc⟩ msgs) msgs := by
  induction msgs with
  | nil => intro exps lo ps _; rfl
  | cons m0 ms ih =>
    intro exps lo ps h
    obtain _ | ⟨e0, rest⟩ := exps
    · exact absurd h (Nat.not_succ_le_zero _)
    · show (batchLoop P tc lo ps (e0 :: rest.take ms.length) (m0 :: ms)).2 =
        batchOfSingles ((syncHandle true e0 m0 (choose P ps tc m0).1 lo).2 :: syncOuts P true
          ⟨rest, (syncHandle true e0 m0 (choose P ps tc m0).1 lo).1, upd ps m0.topic (choose P ps tc m0).2, tc⟩ ms) (m0 :: ms)
      unfold batchLoop batchOfSingles
      cases herr : (syncHandle true e0 m0 (choose P ps tc m0).1 lo).2.1.err with
      | some err => rfl
      | none =>
        obtain ⟨h1, h2⟩ := syncHandle_ok e0 m0 (choose P ps tc m0).1 lo herr
        have := ih rest (lo + 1) (upd ps m0.topic (choose P ps tc m0).2) (Nat.le_of_succ_le_succ h)
        dsimp only
        rw [h1, h2, this]

/-- `SendMessages` with enough expectations uses up exactly `len msgs` of them and shows what the single
    `SendMessage` calls would show up to the first failure (so the i-th message of the batch meets the i-th
    expectation, with the partitioner's choice and consecutive offsets – `sync_mock_ith_outcome`) -/
theorem sync_batch_eq_singles {σ : Type} (P : Part σ) (s : PState σ) (msgs : List Msg)
    (h : msgs.length ≤ s.exps.length) :
    (syncSendBatch P s msgs).1.exps = s.exps.drop msgs.length ∧
    (syncSendBatch P s msgs).1.tc = s.tc ∧
    (syncSendBatch P s msgs).2 = batchOfSingles (syncOuts P true s msgs) msgs := by
  unfold syncSendBatch
  have : s.exps.length ≥ msgs.length := h
  simp only [this, ↓reduceIte, true_and]
  exact batchLoop_eq P s.tc msgs s.exps s.lastOffset s.ps h

/-- the buffered messages of a partition consumer are a run of consecutive offsets starting at `a`; the run
    ends at the high-water-mark counter as long as the channels are open -/
def QInv (pc : PC) (a : Nat) : Prop :=
  pc.msgs = List.range' a pc.msgs.length ∧ a + pc.msgs.length ≤ pc.hwm + 1 ∧
  (pc.closed = false → a + pc.msgs.length = pc.hwm + 1)

theorem qinv_fresh (off : Int) : QInv (PC.fresh off) 1 := ⟨rfl, Nat.le_refl 1, fun _ => rfl⟩

/-- offsets of the messages received from `Messages()` during a run of calls, in order -/
def pcReads (buf : Nat) (k : Key) : PC → List PcOp → List Nat
  | _, [] => []
  | pc, op :: ops =>
    (match (pcStep buf k pc op).2.1 with | .msg o => [o] | _ => []) ++ pcReads buf k (pcStep buf k pc op).1 ops

/-- number of `YieldMessage` calls of a run that returned or panicked (i.e. did not find the channel full) -/
def pcYields (buf : Nat) (k : Key) : PC → List PcOp → Nat
  | _, [] => 0
  | pc, op :: ops =>
    (if op = .yieldMsg ∧ (pcStep buf k pc op).2.1 ≠ .block then 1 else 0) + pcYields buf k (pcStep buf k pc op).1 ops

/-- error codes handed out (received from `Errors()` or returned by `Close`), in order -/
def pcErrDelivered (buf : Nat) (k : Key) : PC → List PcOp → List Int
  | _, [] => []
  | pc, op :: ops =>
    (match (pcStep buf k pc op).2.1 with | .err c => [c] | .closeRet l => l | _ => []) ++
      pcErrDelivered buf k (pcStep buf k pc op).1 ops

/-- error codes accepted by `YieldError`, in order -/
def pcErrAccepted (buf : Nat) (k : Key) : PC → List PcOp → List Int
  | _, [] => []
  | pc, op :: ops =>
    (match op, (pcStep buf k pc op).2.1 with | .yieldErr c, .ok => [c] | _, _ => []) ++
      pcErrAccepted buf k (pcStep buf k pc op).1 ops

/-- The decision table of `pcStep`, one row per way a call can go: to prove something of every call, prove it
    of every row. The result of the call enters as a variable (`generalize hres : pcStep buf k pc op = res`), so
    that `apply pcStep_cases buf k pc hres` reads the property off the goal. -/
theorem pcStep_cases (buf : Nat) (k : Key) (pc : PC) {motive : PcOp → PC × PcOut × List Report → Prop}
    {op : PcOp} {res : PC × PcOut × List Report} (hres : pcStep buf k pc op = res)
    (yieldMsg_closed : pc.closed = true → motive .yieldMsg ({ pc with hwm := pc.hwm + 1 }, .panic, []))
    (yieldMsg_full : pc.closed = false → pc.msgs.length ≥ buf → motive .yieldMsg (pc, .block, []))
    (yieldMsg_ok : pc.closed = false → pc.msgs.length < buf →
      motive .yieldMsg ({ pc with hwm := pc.hwm + 1, msgs := pc.msgs ++ [pc.hwm + 1] }, .ok, []))
    (yieldErr_closed : ∀ c, pc.closed = true → motive (.yieldErr c) (pc, .panic, []))
    (yieldErr_full : ∀ c, pc.closed = false → pc.errs.length ≥ buf → motive (.yieldErr c) (pc, .block, []))
    (yieldErr_ok : ∀ c, pc.closed = false → pc.errs.length < buf →
      motive (.yieldErr c) ({ pc with errs := pc.errs ++ [c] }, .ok, []))
    (expectMsgsDrained : motive .expectMsgsDrained ({ pc with msgsDrained := true }, .ok, []))
    (expectErrsDrained : motive .expectErrsDrained ({ pc with errsDrained := true }, .ok, []))
    (consume_again : ∀ off, pc.consumed = true → motive (.consume off) (pc, .alreadyConsumed, []))
    (consume_first : ∀ off, pc.consumed = false → motive (.consume off) ({ pc with consumed := true }, .consumeOk,
      if pc.offset ≠ anyOffset ∧ pc.offset ≠ off then [.unexpectedOffset k pc.offset off] else []))
    (readMsg_some : ∀ o rest, pc.msgs = o :: rest → motive .readMsg ({ pc with msgs := rest }, .msg o, []))
    (readMsg_none : pc.msgs = [] → ∀ out, out = .chanClosed ∨ out = .empty → motive .readMsg (pc, out, []))
    (readErr_some : ∀ c rest, pc.errs = c :: rest → motive .readErr ({ pc with errs := rest }, .err c, []))
    (readErr_none : pc.errs = [] → ∀ out, out = .chanClosed ∨ out = .empty → motive .readErr (pc, out, []))
    (close_started : pc.consumed = true →
      motive .close ({ pc with msgs := [], errs := [], closed := true }, .closeRet pc.errs, drainReports k pc))
    (close_notStarted : pc.consumed = false → motive .close (pc, .notStarted, [.notStarted k]))
    (asyncClose : motive .asyncClose ({ pc with closed := true }, .ok, [])) : motive op res := by
  subst hres
  cases op with
  | yieldMsg =>
    rw [pcStep]
    by_cases hc : pc.closed = true
    · rw [if_pos hc]; exact yieldMsg_closed hc
    · rw [if_neg hc]
      by_cases hfull : pc.msgs.length ≥ buf
      · rw [if_pos hfull]; exact yieldMsg_full (eq_false_of_ne_true hc) hfull
      · rw [if_neg hfull]; exact yieldMsg_ok (eq_false_of_ne_true hc) (Nat.lt_of_not_le hfull)
  | yieldErr c =>
    rw [pcStep]
    by_cases hc : pc.closed = true
    · rw [if_pos hc]; exact yieldErr_closed c hc
    · rw [if_neg hc]
      by_cases hfull : pc.errs.length ≥ buf
      · rw [if_pos hfull]; exact yieldErr_full c (eq_false_of_ne_true hc) hfull
      · rw [if_neg hfull]; exact yieldErr_ok c (eq_false_of_ne_true hc) (Nat.lt_of_not_le hfull)
  | expectMsgsDrained => exact expectMsgsDrained
  | expectErrsDrained => exact expectErrsDrained
  | consume off =>
    rw [pcStep]
    by_cases hc : pc.consumed = true
    · rw [if_pos hc]; exact consume_again off hc
    · rw [if_neg hc]; exact consume_first off (eq_false_of_ne_true hc)
  | readMsg =>
    rw [pcStep]
    cases hm : pc.msgs
    · exact readMsg_none hm _ (by cases pc.closed; exact .inr rfl; exact .inl rfl)
    · exact readMsg_some _ _ hm
  | readErr =>
    rw [pcStep]
    cases he : pc.errs
    · exact readErr_none he _ (by cases pc.closed; exact .inr rfl; exact .inl rfl)
    · exact readErr_some _ _ he
  | close =>
    rw [pcStep]
    by_cases hc : pc.consumed = true
    · rw [if_pos hc]; exact close_started hc
    · rw [if_neg hc]; exact close_notStarted (eq_false_of_ne_true hc)
  | asyncClose => exact asyncClose

/-- a call hands out the head of the run (`n = 1`) or no message (`n = 0`); what stays is the run from `a + n` -/
private theorem pcStep_qinv (buf : Nat) (k : Key) (pc : PC) (a : Nat) (op : PcOp) (h : QInv pc a) :
    ∃ n, (match (pcStep buf k pc op).2.1 with | .msg o => [o] | _ => []) = List.range' a n ∧
      QInv (pcStep buf k pc op).1 (a + n) := by
  generalize hres : pcStep buf k pc op = res
  apply pcStep_cases buf k pc hres
  case readMsg_some =>
    intro o rest hm
    obtain ⟨h1, h2, h3⟩ := h
    rw [hm] at h1 h2 h3
    obtain ⟨rfl, h1⟩ := List.cons.inj h1
    exact ⟨1, rfl, h1, Nat.le_trans (Nat.le_of_eq (Nat.add_right_comm ..)) h2,
      fun hc => (Nat.add_right_comm ..).trans (h3 hc)⟩
  case yieldMsg_ok =>
    -- the channels are open, so the run ends at the counter and the new offset continues it
    intro hc _
    obtain ⟨h1, h2, h3⟩ := h
    have ho := h3 hc
    refine ⟨0, rfl, ?_, ?_, fun _ => ?_⟩ <;> simp only [Nat.add_zero, List.length_append, List.length_singleton]
    · rw [List.range'_concat, Nat.one_mul, ← h1, ho]
    · exact Nat.succ_le_succ h2
    · exact congrArg (· + 1) ho
  case yieldMsg_closed => exact fun hc => ⟨0, rfl, h.1, Nat.le_succ_of_le h.2.1, fun h' => nomatch hc.symm.trans h'⟩
  case close_started => exact fun _ => ⟨0, rfl, rfl, Nat.le_trans (Nat.le_add_right ..) h.2.1, nofun⟩
  case asyncClose => exact ⟨0, rfl, h.1, h.2.1, nofun⟩
  case readMsg_none | readErr_none => rintro - _ (rfl | rfl) <;> exact ⟨0, rfl, h⟩
  all_goals intros; exact ⟨0, rfl, h⟩

theorem pcReads_from (buf : Nat) (k : Key) (pc : PC) (a : Nat) (ops : List PcOp) (h : QInv pc a) :
    pcReads buf k pc ops = List.range' a (pcReads buf k pc ops).length ∧
    QInv (pcFinal buf k pc ops) (a + (pcReads buf k pc ops).length) := by
  induction ops generalizing pc a with
  | nil => exact ⟨rfl, h⟩
  | cons op ops ih =>
    obtain ⟨n, hr, hq⟩ := pcStep_qinv buf k pc a op h
    obtain ⟨ih1, ih2⟩ := ih _ _ hq
    rw [pcReads, hr, List.length_append, List.length_range', ← Nat.add_assoc]
    exact ⟨by rw [← List.range'_append_1, ← ih1], ih2⟩

private theorem pcYields_hwm (buf : Nat) (k : Key) (pc : PC) (ops : List PcOp) :
    (pcFinal buf k pc ops).hwm = pc.hwm + pcYields buf k pc ops := by
  induction ops generalizing pc with
  | nil => rfl
  | cons op ops ih =>
    have : (pcStep buf k pc op).1.hwm = pc.hwm + (if op = .yieldMsg ∧ (pcStep buf k pc op).2.1 ≠ .block then 1 else 0) := by
      generalize hres : pcStep buf k pc op = res
      apply pcStep_cases buf k pc hres
      all_goals intros; rfl
    show (pcFinal buf k _ ops).hwm = pc.hwm + (_ + pcYields buf k _ ops)
    rw [ih, this, Nat.add_assoc]

/-- For every sequence of calls on a freshly registered partition consumer (yields, reads, closes in any order, any
    buffer size) the messages received from `Messages()` carry the offsets 1,2,3,… in order without gap or
    repetition, whatever is still buffered is the next run of consecutive offsets, and `HighWaterMarkOffset()` is
    one more than the number of `YieldMessage` calls that did not find the channel full (`pcYields`). -/
theorem consumer_mock_offsets (buf : Nat) (k : Key) (off : Int) (ops : List PcOp) :
    pcReads buf k (PC.fresh off) ops = List.range' 1 (pcReads buf k (PC.fresh off) ops).length ∧
    (∃ a, QInv (pcFinal buf k (PC.fresh off) ops) a) ∧
    (pcFinal buf k (PC.fresh off) ops).hwmAnswer = pcYields buf k (PC.fresh off) ops + 1 := by
  obtain ⟨h1, h2⟩ := pcReads_from buf k (PC.fresh off) 1 ops (qinv_fresh off)
  exact ⟨h1, ⟨_, h2⟩, by rw [PC.hwmAnswer, pcYields_hwm]; exact congrArg (· + 1) (Nat.zero_add _)⟩

/-- a successful `YieldMessage` stamps the message with the next offset (`highWaterMarkOffset + 1`) -/
theorem yield_offset_spec (buf : Nat) (k : Key) (pc : PC) (h : (pcStep buf k pc .yieldMsg).2.1 = .ok) :
    (pcStep buf k pc .yieldMsg).1.msgs = pc.msgs ++ [pc.hwm + 1] ∧
    (pcStep buf k pc .yieldMsg).1.hwmAnswer = pc.hwmAnswer + 1 := by
  revert h
  by_cases hc : pc.closed = true
  · rw [show pcStep buf k pc .yieldMsg = _ from if_pos hc]; nofun
  · rw [show pcStep buf k pc .yieldMsg = _ from if_neg hc]
    by_cases hfull : pc.msgs.length ≥ buf
    · rw [if_pos hfull]; nofun
    · rw [if_neg hfull]; exact fun _ => ⟨rfl, rfl⟩

/-- Errors are handed out in the order they were yielded: what was received from `Errors()` or returned
    by `Close`, followed by what is still buffered, is what was buffered before followed by the accepted
    `YieldError` codes -/
theorem consumer_errors_fifo (buf : Nat) (k : Key) (pc : PC) (ops : List PcOp) :
    pcErrDelivered buf k pc ops ++ (pcFinal buf k pc ops).errs = pc.errs ++ pcErrAccepted buf k pc ops := by
  induction ops generalizing pc with
  | nil => exact (List.append_nil _).symm
  | cons op ops ih =>
    have : (match (pcStep buf k pc op).2.1 with | .err c => [c] | .closeRet l => l | _ => []) ++ (pcStep buf k pc op).1.errs =
        pc.errs ++ (match op, (pcStep buf k pc op).2.1 with | .yieldErr c, .ok => [c] | _, _ => []) := by
      generalize hres : pcStep buf k pc op = res
      apply pcStep_cases buf k pc hres
      case readErr_some => exact fun c rest he => he ▸ (List.append_nil _).symm
      case yieldErr_ok | close_started => intros; rfl
      case readMsg_none | readErr_none => rintro - _ (rfl | rfl) <;> exact (List.append_nil _).symm
      all_goals intros; exact (List.append_nil _).symm
    show (_ ++ pcErrDelivered buf k _ ops) ++ (pcFinal buf k _ ops).errs = pc.errs ++ (_ ++ pcErrAccepted buf k _ ops)
    rw [List.append_assoc, ih, ← List.append_assoc, this, List.append_assoc]

/-- A partition consumer calls `Errorf` exactly for a `ConsumePartition` whose
    offset differs from the expected one (unless `AnyOffset` was expected), for a `Close` before the partition
    was ever consumed, and for errors/messages still buffered at `Close` when draining was demanded –
    for nothing else. -/
theorem pc_reporter_calls_spec (buf : Nat) (k : Key) (pc : PC) (op : PcOp) (r : Report) :
    r ∈ (pcStep buf k pc op).2.2 ↔
      (∃ off, op = .consume off ∧ pc.consumed = false ∧ pc.offset ≠ anyOffset ∧ pc.offset ≠ off ∧
          r = .unexpectedOffset k pc.offset off) ∨
      (op = .close ∧ pc.consumed = false ∧ r = .notStarted k) ∨
      (op = .close ∧ pc.consumed = true ∧ pc.errsDrained = true ∧ pc.errs ≠ [] ∧
          r = .errorsNotDrained k pc.errs.length) ∨
      (op = .close ∧ pc.consumed = true ∧ pc.msgsDrained = true ∧ pc.msgs ≠ [] ∧
          r = .messagesNotDrained k pc.msgs.length) := by
  constructor
  · generalize hres : pcStep buf k pc op = res
    apply pcStep_cases buf k pc hres
    case consume_first =>
      intro off hc h
      obtain ⟨⟨ha, hb⟩, h⟩ := List.mem_ite_nil_right.mp h
      exact .inl ⟨off, rfl, hc, ha, hb, List.mem_singleton.mp h⟩
    case close_notStarted => exact fun hc h => .inr (.inl ⟨rfl, hc, List.mem_singleton.mp h⟩)
    case close_started =>
      intro hc h
      rcases List.mem_append.mp h with h | h
      · obtain ⟨⟨hd, hl⟩, h⟩ := List.mem_ite_nil_right.mp h
        exact .inr (.inr (.inl ⟨rfl, hc, hd, List.length_pos_iff.mp hl, List.mem_singleton.mp h⟩))
      · obtain ⟨⟨hd, hl⟩, h⟩ := List.mem_ite_nil_right.mp h
        exact .inr (.inr (.inr ⟨rfl, hc, hd, List.length_pos_iff.mp hl, List.mem_singleton.mp h⟩))
    all_goals intros; contradiction
  · rintro (⟨off, rfl, hc, ha, hb, rfl⟩ | ⟨rfl, hc, rfl⟩ | ⟨rfl, hc, hd, hl, rfl⟩ | ⟨rfl, hc, hd, hl, rfl⟩)
    · rw [show pcStep buf k pc (.consume off) = _ from if_neg (ne_true_of_eq_false hc)]
      exact List.mem_ite_nil_right.mpr ⟨⟨ha, hb⟩, List.mem_singleton_self _⟩
    · rw [show pcStep buf k pc .close = _ from if_neg (ne_true_of_eq_false hc)]
      exact List.mem_singleton_self _
    · rw [show pcStep buf k pc .close = _ from if_pos hc]
      exact List.mem_append_left _ (List.mem_ite_nil_right.mpr ⟨⟨hd, List.length_pos_iff.mpr hl⟩, List.mem_singleton_self _⟩)
    · rw [show pcStep buf k pc .close = _ from if_pos hc]
      exact List.mem_append_right _ (List.mem_ite_nil_right.mpr ⟨⟨hd, List.length_pos_iff.mpr hl⟩, List.mem_singleton_self _⟩)

theorem cStep_pc_registered (buf : Nat) (s : CState) (k : Key) (pop : PcOp) (hk : k ∈ s.keys) :
    cStep buf s (.pc k pop) =
      (⟨s.keys, updK s.pcs k (pcStep buf k (s.pcs k) pop).1, s.mdata⟩, .pc (pcStep buf k (s.pcs k) pop).2.1,
       (pcStep buf k (s.pcs k) pop).2.2) :=
  if_pos hk

theorem cStep_pc_unregistered (buf : Nat) (s : CState) (k : Key) (pop : PcOp) (hk : k ∉ s.keys) :
    cStep buf s (.pc k pop) =
      match pop with
      | .consume _ => (s, .consumeNoExpectation, [.noPartitionExpectation k])
      | _ => (s, .bad, []) :=
  if_neg hk

theorem cStep_expect (buf : Nat) (s : CState) (k : Key) (off : Int) :
    cStep buf s (.expect k off) =
      if k ∈ s.keys then (s, .ok, []) else (⟨s.keys ++ [k], updK s.pcs k (PC.fresh off), s.mdata⟩, .ok, []) :=
  rfl

theorem cStep_partitions (buf : Nat) (keys : List Key) (pcs : Key → PC) (md : List (Nat × List Int)) (t : Nat) :
    cStep buf ⟨keys, pcs, some md⟩ (.partitions t) =
      (⟨keys, pcs, some md⟩,
       match md.find? (fun x => x.1 = t) with | some x => .partitions x.2 | none => .unknownTopic, []) := by
  show (match md.find? _ with | some x => _ | none => _ : CState × COut × List Report) = _
  split <;> rfl

/-- how `Consumer` calls touch a partition consumer: not at all, by registering a fresh one, or through one
    partition-consumer call – so every invariant of partition consumers lifts to the consumer mock … -/
theorem cStep_pcs (buf : Nat) (s : CState) (op : COp) (k : Key) :
    (cStep buf s op).1.pcs k = s.pcs k ∨ (∃ off, (cStep buf s op).1.pcs k = PC.fresh off) ∨
    ∃ pop, (cStep buf s op).1.pcs k = (pcStep buf k (s.pcs k) pop).1 := by
  cases op with
  | expect k' off =>
    rw [cStep_expect]
    by_cases hk' : k' ∈ s.keys
    · rw [if_pos hk']; exact .inl rfl
    · rw [if_neg hk']
      by_cases hk : k = k'
      · exact .inr (.inl ⟨off, if_pos hk⟩)
      · exact .inl (if_neg hk)
  | pc k' pop =>
    by_cases hk' : k' ∈ s.keys
    · rw [cStep_pc_registered buf s k' pop hk']
      by_cases hk : k = k'
      · exact .inr (.inr ⟨pop, hk ▸ if_pos rfl⟩)
      · exact .inl (if_neg hk)
    · rw [cStep_pc_unregistered buf s k' pop hk']
      exact .inl (by split <;> rfl)
  | closeAll =>
    by_cases hk : k ∈ s.keys
    · exact .inr (.inr ⟨.close, if_pos hk⟩)
    · exact .inl (if_neg hk)
  | topics => obtain ⟨keys, pcs, _ | md⟩ := s <;> exact .inl rfl
  | partitions t =>
    obtain ⟨keys, pcs, _ | md⟩ := s
    · exact .inl rfl
    · rw [cStep_partitions]; exact .inl rfl
  | hwms => exact .inl rfl
  | setMeta md => exact .inl rfl

theorem cFinal_qinv (buf : Nat) (ops : List COp) :
    ∀ s : CState, (∀ k, ∃ a, QInv (s.pcs k) a) → ∀ k, ∃ a, QInv ((cFinal buf s ops).pcs k) a := by
  induction ops with
  | nil => exact fun s hs => hs
  | cons op ops ih =>
    refine fun s hs => ih _ fun k' => ?_
    rcases cStep_pcs buf s op k' with h | ⟨off, h⟩ | ⟨pop, h⟩
    · rw [h]; exact hs k'
    · rw [h]; exact ⟨1, qinv_fresh off⟩
    · rw [h]
      obtain ⟨a, ha⟩ := hs k'
      obtain ⟨n, _, hq⟩ := pcStep_qinv buf k' (s.pcs k') a pop ha
      exact ⟨_, hq⟩

/-- … so the consecutive-offsets invariant holds for every partition after every sequence of calls on a new
    consumer (registrations, consumes, yields, reads, closes of partitions and of the consumer, in any order) -/
theorem consumer_queue_invariant (buf : Nat) (ops : List COp) (k : Key) :
    ∃ a, QInv ((cFinal buf CState.init ops).pcs k) a :=
  cFinal_qinv buf ops CState.init (fun _ => ⟨1, qinv_fresh 0⟩) k

/-- Besides what the partition consumers report, the consumer mock calls `Errorf`
    exactly for `ConsumePartition` on a topic/partition that was never registered and for `Topics`/`Partitions`
    without metadata; `Close` reports what closing each registered partition consumer reports. -/
theorem consumer_reporter_calls_spec (buf : Nat) (s : CState) (op : COp) (r : Report) :
    r ∈ (cStep buf s op).2.2 ↔
      (∃ k pop, op = .pc k pop ∧ k ∈ s.keys ∧ r ∈ (pcStep buf k (s.pcs k) pop).2.2) ∨
      (∃ k off, op = .pc k (.consume off) ∧ k ∉ s.keys ∧ r = .noPartitionExpectation k) ∨
      (op = .closeAll ∧ ∃ k, k ∈ s.keys ∧ r ∈ (pcStep buf k (s.pcs k) .close).2.2) ∨
      ((op = .topics ∨ ∃ t, op = .partitions t) ∧ s.mdata = none ∧ r = .noMetadata) := by
  constructor
  · intro h
    cases op with
    | pc k pop =>
      by_cases hk : k ∈ s.keys
      · rw [cStep_pc_registered buf s k pop hk] at h
        exact .inl ⟨k, pop, rfl, hk, h⟩
      · rw [cStep_pc_unregistered buf s k pop hk] at h
        split at h
        · exact .inr (.inl ⟨k, _, rfl, hk, List.mem_singleton.mp h⟩)
        · cases h
    | closeAll =>
      obtain ⟨k, hk, h⟩ := List.mem_flatMap.mp h
      exact .inr (.inr (.inl ⟨rfl, k, hk, h⟩))
    | topics =>
      obtain ⟨keys, pcs, _ | md⟩ := s
      · exact .inr (.inr (.inr ⟨.inl rfl, rfl, List.mem_singleton.mp h⟩))
      · cases h
    | partitions t =>
      obtain ⟨keys, pcs, _ | md⟩ := s
      · exact .inr (.inr (.inr ⟨.inr ⟨t, rfl⟩, rfl, List.mem_singleton.mp h⟩))
      · rw [cStep_partitions] at h; cases h
    | expect k off => rw [cStep_expect] at h; split at h <;> cases h
    | hwms => cases h
    | setMeta md => cases h
  · rintro (⟨k, pop, rfl, hk, h⟩ | ⟨k, off, rfl, hk, rfl⟩ | ⟨rfl, k, hk, h⟩ | ⟨hop, hmd, rfl⟩)
    · rw [cStep_pc_registered buf s k pop hk]; exact h
    · rw [cStep_pc_unregistered buf s k _ hk]; exact List.mem_singleton_self _
    · exact List.mem_flatMap.mpr ⟨k, hk, h⟩
    · obtain ⟨keys, pcs, md⟩ := s
      cases hmd
      rcases hop with rfl | ⟨t, rfl⟩ <;> exact List.mem_singleton_self _

/-- three inputs on a two-expectation script (success, scripted error 9), round-robin over 3 partitions:
    outcomes in order, offsets, partitions, one reporter call for the third input -/
example :
    asyncOuts rrPart true ⟨true, true⟩ (PState.init rrPart [⟨none, none⟩, ⟨some 9, none⟩] (TopicCfg.new.setDefault 3))
        [⟨0, 0, 0, -1⟩, ⟨1, 0, 0, -1⟩, ⟨2, 0, 0, -1⟩]
      = [([.success 0 0 1], []), ([.error 1 .scripted 9 1], []), ([], [.noExpectation])] := rfl
example : closeReports (asyncFinal rrPart true ⟨true, true⟩
    (PState.init rrPart [⟨none, none⟩, ⟨some 9, none⟩, ⟨none, none⟩] TopicCfg.new) [⟨0, 0, 0, -1⟩]) = [.leftover 2] := rfl
example :
    (syncSendBatch manualPart (PState.init manualPart [⟨none, none⟩, ⟨some 4, none⟩, ⟨none, none⟩] TopicCfg.new)
        [⟨0, 0, 0, 5⟩, ⟨1, 0, 0, 6⟩, ⟨2, 0, 0, 7⟩]).2
      = (⟨some (.scripted, 4), [(5, 1), (6, 0), (7, 0)]⟩, []) := rfl
example :
    (syncSendBatch manualPart (PState.init manualPart [⟨none, none⟩] TopicCfg.new) [⟨0, 0, 0, 5⟩, ⟨1, 0, 0, 6⟩]).2
      = (⟨some (.outOfExpectations, 0), [(5, 0), (6, 0)]⟩, [.insufficient]) := rfl
/-- consumer: three yields, two reads, close with draining demanded: offsets 1,2 read, HWM 4; the reporter is called at the consume (unexpected offset) and at the close (not drained) -/
example :
    pcOuts 8 (0, 0) (PC.fresh 0) [.consume 5, .expectMsgsDrained, .yieldMsg, .yieldMsg, .yieldMsg, .readMsg, .readMsg, .close]
      = [(.consumeOk, [.unexpectedOffset (0, 0) 0 5]), (.ok, []), (.ok, []), (.ok, []), (.ok, []),
         (.msg 1, []), (.msg 2, []), (.closeRet [], [.messagesNotDrained (0, 0) 1])] := rfl
example : (pcFinal 8 (0, 0) (PC.fresh 0) [.yieldMsg, .yieldMsg, .yieldMsg]).hwmAnswer = 4 := rfl

end Props.C20
