import SaramaVerif.Lemmas.C08Range
import SaramaVerif.Lemmas.C08RR
import SaramaVerif.Lemmas.C08StickyInv
/-
  C08 — every balance strategy yields a valid partition assignment.
-/
namespace Props.C08
open Model.Balance

/-- For ANY bounds `r` satisfying the relational spec of the float computation, and ANY members-by-topic map
    of the group (any iteration order, any order inside each list — the hash order is one, a member may be
    listed twice): every partition of a topic with a subscriber is planned exactly as often as it occurs in the
    topic's partition list, partitions of other topics not at all; every holder is a group member that lists the
    topic, and every planned partition exists. -/
theorem range_partition (members : Members) (ts : Topics) (mbt : AL Member) (r : Topic → Nat → Nat)
    (hmbt : MbtOf members mbt)
    (hr : ∀ e, e ∈ mbt → RangeBoundary (partsOf ts e.1).length e.2.length (r e.1)) :
    (∀ t p, AL.countAll (rangePlan r ts mbt []) (t, p) =
        if hasSubscriber members t = true then (partsOf ts t).count p else 0) ∧
    PlanAll (fun m tp => (∃ e, e ∈ members ∧ e.1 = m ∧ tp.1 ∈ e.2) ∧ tp.2 ∈ partsOf ts tp.1)
      (rangePlan r ts mbt []) ∧
    PlanKeys (fun m => ∃ e, e ∈ members ∧ e.1 = m) (rangePlan r ts mbt []) := by
  obtain ⟨hnd, hiff⟩ := hmbt
  have hsub : ∀ e, e ∈ mbt → ∀ m, m ∈ e.2 → ∃ e', e' ∈ members ∧ e'.1 = m ∧ e.1 ∈ e'.2 :=
    fun e he m hm => (hiff e.1 m).mp (AL.get_of_mem_nodup hnd he ▸ hm)
  refine ⟨fun t p => ?_, planAll_rangePlan r ts mbt [] (planAll_nil _) fun e he m hm p hp => ⟨hsub e he m hm, hp⟩,
    planKeys_rangePlan r ts mbt [] (planKeys_nil _) fun e he m hm => (hsub e he m hm).imp fun _ h => ⟨h.1, h.2.1⟩⟩
  -- a topic has a subscriber exactly if its member list is not empty
  have hs : hasSubscriber members t = true ↔ AL.get mbt t ≠ [] :=
    hasSubscriber_iff.trans ⟨fun h => h.elim fun e h => List.ne_nil_of_mem ((hiff t e.1).mpr ⟨e, h.1, rfl, h.2⟩),
      fun h => (List.exists_mem_of_ne_nil _ h).elim fun m hm => ((hiff t m).mp hm).imp fun _ h => ⟨h.1, h.2.2⟩⟩
  refine (countAll_rangePlan r ts t p mbt [] hnd hr).trans ((Nat.zero_add _).trans ?_)
  by_cases hs' : hasSubscriber members t = true
  · rw [if_pos hs', if_pos (Decidable.by_contra fun hk => hs.mp hs' (AL.get_eq_nil_of_not_mem_keys hk))]
  · rw [if_neg hs']
    by_cases hk : t ∈ AL.keys mbt
    · -- a key without subscriber has an empty member list, and `RangeBoundary n 0` forces n = 0
      have hb := hr _ (AL.mem_of_mem_keys hk)
      rw [Decidable.not_not.mp (mt hs.mpr hs')] at hb
      have h0 : partsOf ts t = [] := List.eq_nil_of_length_eq_zero (hb.2.1.symm.trans hb.1)
      rw [if_pos hk, h0]; rfl
    · exact if_neg hk

/-- … hence the plan passes the executable validity predicate of the statement (distinct member ids, distinct
    topics, distinct partition ids per topic — what Go maps and the cluster metadata provide). -/
theorem range_valid (members : Members) (ts : Topics) (mbt : AL Member) (r : Topic → Nat → Nat)
    (hids : (members.map (·.1)).Nodup) (htk : (AL.keys ts).Nodup) (htp : ∀ e, e ∈ ts → e.2.Nodup)
    (hmbt : MbtOf members mbt)
    (hr : ∀ e, e ∈ mbt → RangeBoundary (partsOf ts e.1).length e.2.length (r e.1)) :
    validPlan members ts (rangePlan r ts mbt []) = true := by
  obtain ⟨hc, ha, hk⟩ := range_partition members ts mbt r hmbt hr
  exact validPlan_of hids hk ha fun e he hs p hp => by
    rw [hc, if_pos hs]; exact count_partsOf_eq_one htk htp he hp

/-- the relation is satisfiable and admits BOTH roundings at an exact half point (n = 5, m = 2: 2.5 ↦ 2 or 3) -/
example : RangeBoundary 5 2 (fun i => [0, 3, 5].getD i 0) ∧ RangeBoundary 5 2 (fun i => [0, 2, 5].getD i 0) :=
  ⟨(rangeBoundaryB_iff _ _ _).mp (by decide), (rangeBoundaryB_iff _ _ _).mp (by decide)⟩

/-- the range plan of a group with overlapping subscriptions, a member listed twice under a topic and a topic
    nobody subscribes to: members 1{t0,t1}, 2{t0}, 3{t1,t1}; t0 has 5 partitions, t1 has 3, t2 has 2 -/
example :
    validPlan [(1, [0, 1]), (2, [0]), (3, [1, 1])] [(0, [0, 1, 2, 3, 4]), (1, [0, 1, 2]), (2, [0, 1])]
      (rangePlan (fun t i => if t = 0 then [0, 3, 5].getD i 0 else [0, 1, 2, 3].getD i 0)
        [(0, [0, 1, 2, 3, 4]), (1, [0, 1, 2]), (2, [0, 1])] [(1, [3, 1, 3]), (0, [2, 1])] []) = true := by decide +kernel

/-- termination of the inner cursor loop `for !m.hasTopic(tp.topic) { i++ }`: if the topic has a subscriber, fewer
    than `n` cursor positions are passed over, and the position found is the first one at or after the cursor whose
    member has the topic. -/
theorem rr_find_terminates (ms : Members) (t : Topic) (i : Nat) (h : hasSubscriber ms t = true) :
    ∃ j, rrFind ms t i ms.length = some j ∧ i ≤ j ∧ j < i + ms.length ∧ rrHas ms t j ∧
      ∀ k, i ≤ k → k < j → ¬ rrHas ms t k := by
  obtain ⟨j, hj⟩ := rrFind_complete h i
  exact ⟨j, hj, rrFind_some hj⟩

/-- the hypothesis is necessary: without a subscriber the loop `for !m.hasTopic(tp.topic) { i++ }` is not left
    within ANY number of steps, so `Plan` does not return (known finding F13). -/
theorem rr_diverges_without_subscriber (ms : Members) (tps : List TP)
    (h : ∃ tp, tp ∈ tps ∧ hasSubscriber ms tp.1 = false) :
    ∀ fuel i plan, rrLoop ms fuel tps i plan = none :=
  fun fuel i plan => rrLoop_diverges ms fuel tps i plan h

/-- every partition is assigned exactly once (as often as it is listed), to a group member that has the topic;
    for every member order and every order of the topic partitions. -/
theorem rr_valid (ms : Members) (tps : List TP) (hne : ms ≠ [])
    (hsub : ∀ tp, tp ∈ tps → hasSubscriber ms tp.1 = true) :
    ∃ plan, rrPlan ms false tps = .plan plan ∧
      (∀ x, AL.countAll plan x = tps.count x) ∧
      PlanAll (fun m tp => ∃ e, e ∈ ms ∧ e.1 = m ∧ e.2.contains tp.1 = true) plan := by
  obtain ⟨out, ho, hc, hp⟩ := rrLoop_spec ms tps 0 [] hsub
  exact ⟨out, (rrPlan_eq_plan hne tps out).mpr ho, fun x => (hc x).trans (Nat.zero_add _), hp (planAll_nil _)⟩

/-- … hence the executable validity predicate holds for the round-robin plan, when `tps` lists the partitions of
    the `topics` map (in any order) and every topic has a subscriber — which `consumerGroup.balance` guarantees,
    since it builds `topics` from the members' subscriptions. -/
theorem rr_plan_valid (ms : Members) (ts : Topics) (tps : List TP) (hne : ms ≠ [])
    (hids : (ms.map (·.1)).Nodup) (htk : (AL.keys ts).Nodup) (htp : ∀ e, e ∈ ts → e.2.Nodup)
    (htps : ∀ t p, tps.count (t, p) = (partsOf ts t).count p)
    (hsub : ∀ tp, tp ∈ tps → hasSubscriber ms tp.1 = true) :
    ∃ plan, rrPlan ms false tps = .plan plan ∧ validPlan ms ts plan = true := by
  obtain ⟨plan, hp, hc, ha⟩ := rr_valid ms tps hne hsub
  -- every key of the plan was put there by `plan.Add` for a member the cursor loop found
  have hkeys : PlanKeys (fun m => ∃ e, e ∈ ms ∧ e.1 = m) plan :=
    rrLoop_inv ms _ (fun plan j tp hj h => planKeys_add h _ _ _ ((rrMember_of_has hj).imp fun _ h => ⟨h.1, h.2.1⟩))
      tps 0 [] plan ((rrPlan_eq_plan hne tps plan).mp hp) (planKeys_nil _)
  refine ⟨plan, hp, validPlan_of hids hkeys (fun e he tp htp' => ?_) fun e he _ p hp' => ?_⟩
  · obtain ⟨e', he', hm, hc'⟩ := ha e he tp htp'
    -- a planned pair is counted in the plan, hence listed in `tps`, hence a partition of its topic
    have hin : 0 < tps.count tp := hc tp ▸ AL.countAll_pos_iff.mpr ⟨e, he, htp'⟩
    exact ⟨⟨e', he', hm, List.contains_iff_mem.mp hc'⟩,
      List.count_pos_iff.mp (Nat.lt_of_lt_of_eq hin (htps tp.1 tp.2))⟩
  · rw [hc, htps]; exact count_partsOf_eq_one htk htp he hp'

/-- the call site provides the hypothesis of `rr_valid`: `consumerGroup.balance` builds the `topics` argument from
    the members' subscriptions, so every topic in it has a subscriber (the harness compares the model function with
    what the real `balance` hands to the strategy) -/
theorem balance_topics_have_subscribers (ms : Members) (t : Topic) (h : t ∈ topicsOfMembers ms) :
    hasSubscriber ms t = true :=
  mem_topicsOfMembers.mp h

/-- members 1{t0,t1}, 2{t1}, 3{t0}; t0 has 3 partitions, t1 has 2; the cursor skips non-subscribers -/
example : rrPlan [(1, [0, 1]), (2, [1]), (3, [0])] false [(0, 0), (0, 1), (0, 2), (1, 0), (1, 1)] =
    .plan [(1, [(0, 0), (0, 2), (1, 1)]), (3, [(0, 1)]), (2, [(1, 0)])] := by decide +kernel

/-- the F13 shape: topic 1 has a partition and no subscriber — the model loop is not left -/
example : rrPlan [(1, [0]), (2, [0])] false [(0, 0), (0, 1), (1, 0)] = .diverges := by decide +kernel

/-- Every plan the (guarded variant of the) sticky strategy returns is valid — for ANY previous assignment state:
    `pp` is whatever `prepopulateCurrentAssignments` made of the members' user data (one current owner per
    claimed partition, owners and claimed partitions arbitrary: stale, conflicting, partly deleted), `ops` is any
    sequence of operations whose guards (the code's conditions) hold, i.e. any map iteration order, any partition
    order, any choice of the "actual partition to be moved", with or without revert.
    `hass` says that the loop over unassignedPartitions has run, which `balance` does before anything else, so
    every state the code returns from has it; before that loop the existing partitions nobody claimed are in
    nobody's plan. -/
theorem sticky_valid (ms : Members) (ts : Topics) (env : SEnv) (wf : SWf ms ts env)
    (pp : List (TP × Member × Option Member)) (hpp : (pp.map (·.1)).Nodup)
    (ops : List SOp) (st : SState)
    (hrun : runOps .guarded env (initState ms ts pp) ops = some st) (hass : st.assigned = true) :
    validPlan ms ts (finish .guarded st) = true :=
  (SInv.run wf ops _ st (SInv.init wf pp hpp) hrun).finish_valid wf hass

theorem sticky_invariant (ms : Members) (ts : Topics) (env : SEnv) (wf : SWf ms ts env)
    (pp : List (TP × Member × Option Member)) (hpp : (pp.map (·.1)).Nodup)
    (ops : List SOp) (st : SState) (hrun : runOps .guarded env (initState ms ts pp) ops = some st) :
    SInv env st :=
  SInv.run wf ops _ st (SInv.init wf pp hpp) hrun

private theorem guard_weaken (env : SEnv) (st : SState) (op : SOp) (h : Model.Balance.guard .guarded env st op = true) :
    Model.Balance.guard .pinned env st op = true := by
  cases op with
  | movePrev p q =>
    -- the guarded variant adds a condition on the previous owner to the size test of the pinned one
    obtain ⟨h1, h2⟩ := Bool.and_eq_true_iff.mp h
    refine Bool.and_eq_true_iff.mpr ⟨h1, ?_⟩
    cases ho : ownerGet st.owner p with
    | none => rw [ho] at h2; exact h2
    | some c =>
      cases hn : prevOf env p with
      | none => rw [ho, hn] at h2; exact h2
      | some pm =>
        rw [ho, hn] at h2
        exact Bool.and_eq_true_iff.mpr ⟨(Bool.and_eq_true_iff.mp h2).1, rfl⟩
  | _ => exact h

private theorem apply_same (env : SEnv) (st : SState) (op : SOp) (h : op ≠ .revert) :
    Model.Balance.apply .pinned env st op = Model.Balance.apply .guarded env st op := by
  cases op with
  | revert => exact absurd rfl h
  | _ => rfl

private theorem run_pinned_of_guarded (env : SEnv) : ∀ (ops : List SOp) (st st' : SState),
    SOp.revert ∉ ops → runOps .guarded env st ops = some st' → runOps .pinned env st ops = some st' := by
  intro ops
  induction ops with
  | nil => intro st st' _ h; exact h
  | cons op rest ih =>
    intro st st' hno h
    obtain ⟨hg, h⟩ := runOps_cons_some h
    rw [runOps, if_pos (guard_weaken env st op hg), apply_same env st op fun e => hno (e ▸ List.mem_cons_self)]
    exact ih _ _ (fun hm => hno (List.mem_cons_of_mem _ hm)) h

/-- PARTIAL, for the tree as pinned.  Missing for the full statement: (1) the "previous owner" branch checks
    only the sizes, so a run may move a partition to a member that is parked or does not list the topic;
    (2) the revert restores a copy that `Plan` never sees.  Under the exact extra hypotheses that every operation of
    the run also passes the strengthened guard and that no revert happens, the pinned code takes the same steps
    and returns the same, valid, plan. -/
theorem sticky_valid_partial (ms : Members) (ts : Topics) (env : SEnv) (wf : SWf ms ts env)
    (pp : List (TP × Member × Option Member)) (hpp : (pp.map (·.1)).Nodup)
    (ops : List SOp) (st : SState) (hno : SOp.revert ∉ ops)
    (hrun : runOps .guarded env (initState ms ts pp) ops = some st) (hass : st.assigned = true) :
    runOps .pinned env (initState ms ts pp) ops = some st ∧ validPlan ms ts (finish .pinned st) = true := by
  refine ⟨run_pinned_of_guarded env ops _ st hno hrun, ?_⟩
  have hr : st.reverted = false := runOps_induct (P := fun s => s.reverted = false) ops _ st
    (fun s op hop h _ => (apply_reverted _ _ s fun e => hno (e ▸ hop)).trans h) rfl hrun
  exact (finish_of_not_reverted .pinned hr).symm ▸ sticky_valid ms ts env wf pp hpp ops st hrun hass

/- The two defects of the pinned tree, as accepted runs of the model.

   F12 witness: members 1{t2; claims t1/0 at generation 1}, 2{t1; claims t1/0,1,2 at generation 2}, 3{t1};
   topics t1, t2 with partitions 0,1,2.  Member 1 gets all of t2 and is parked; the previous-owner branch then
   hands it t1/0, and adding the fixed assignments back overwrites that: t1/0 is in nobody's plan.
   (The real `BalanceStrategySticky.Plan` returns exactly this plan.) -/
def f12Members : Members := [(1, [2]), (2, [1]), (3, [1])]
def f12Topics : Topics := [(1, [0, 1, 2]), (2, [0, 1, 2])]
def f12Env : SEnv :=
  { pot := potOf f12Members f12Topics, prev := [((1, 0), 1)], reassignable := [(1, 0), (1, 1), (1, 2)],
    initializing := true, parts := allParts f12Topics }
def f12Ops : List SOp :=
  [.assignAll [(2, 1), (2, 0), (2, 2)], .park 1, .snapshot, .movePrev (1, 0) (1, 0), .moveOther (1, 1) (1, 1)]

example : (runOps .pinned f12Env
      (initState f12Members f12Topics [((1, 0), 2, some 1), ((1, 1), 2, none), ((1, 2), 2, none)]) f12Ops).map
      (fun st => (finish .pinned st, validPlan f12Members f12Topics (finish .pinned st))) =
    some ([(2, [(1, 2)]), (3, [(1, 1)]), (1, [(2, 1), (2, 0), (2, 2)])], false) := by decide +kernel

/-- … and the strengthened guard refuses that run -/
example : runOps .guarded f12Env
    (initState f12Members f12Topics [((1, 0), 2, some 1), ((1, 1), 2, none), ((1, 2), 2, none)]) f12Ops = none := by
  decide +kernel

/- Revert witness: members 1{t2; claims t1/0, t2/0 at generation 1}, 2{t1; claims t1/0,1,2 at generation 2},
   3{t1; claims t1/3 at generation 2}; t1 has partitions 0..3, t2 has partition 0.  Member 1 keeps t2/0 and is
   parked; the previous-owner branch moves t1/0 to it, the score does not improve, `balance` reverts its local
   copy and adds the fixed assignment to that copy: `Plan` returns member 1 with t1/0 (a topic it does not list)
   and t2/0 unassigned.  (Again exactly what the real code returns.) -/
def revMembers : Members := [(1, [2]), (2, [1]), (3, [1])]
def revTopics : Topics := [(1, [0, 1, 2, 3]), (2, [0])]
def revEnv : SEnv :=
  { pot := potOf revMembers revTopics, prev := [((1, 0), 1)], reassignable := [(1, 0), (1, 1), (1, 2), (1, 3)],
    initializing := false, parts := allParts revTopics }
def revOps : List SOp := [.assignAll [], .park 1, .snapshot, .movePrev (1, 0) (1, 0), .revert]

example : (runOps .pinned revEnv
      (initState revMembers revTopics [((1, 0), 2, some 1), ((1, 1), 2, none), ((1, 2), 2, none), ((1, 3), 3, none), ((2, 0), 1, none)])
      revOps).map (fun st => (finish .pinned st, validPlan revMembers revTopics (finish .pinned st))) =
    some ([(2, [(1, 1), (1, 2)]), (3, [(1, 3)]), (1, [(1, 0)])], false) := by decide +kernel

/- The hypotheses of `sticky_valid` can be met: a well-formed environment and an accepted guarded run that ends
   with `assigned = true`, on a group whose members 2 and 3 join late (members 1{t1}, 2{t1}, 3{t1}; member 1 held
   all of t1 = 0..3): two moves, each to the least loaded member. -/
def nvMembers : Members := [(1, [1]), (2, [1]), (3, [1])]
def nvTopics : Topics := [(1, [0, 1, 2, 3])]
def nvEnv : SEnv :=
  { pot := potOf nvMembers nvTopics, prev := [], reassignable := [(1, 0), (1, 1), (1, 2), (1, 3)],
    initializing := true, parts := allParts nvTopics }

example : (runOps .guarded nvEnv
      (initState nvMembers nvTopics [((1, 0), 1, none), ((1, 1), 1, none), ((1, 2), 1, none), ((1, 3), 1, none)])
      [.assignAll [], .snapshot, .moveOther (1, 0) (1, 0), .moveOther (1, 1) (1, 1)]).map
      (fun st => (finish .guarded st, st.assigned)) =
    some ([(1, [(1, 2), (1, 3)]), (2, [(1, 0)]), (3, [(1, 1)])], true) := by decide +kernel

example : SWf nvMembers nvTopics nvEnv :=
  ⟨rfl, rfl, by decide, by decide, by decide, by
    intro p hp
    have : ∀ p ∈ nvEnv.reassignable, canPartitionParticipate nvEnv.pot p = true ∧ p ∈ nvEnv.parts := by decide +kernel
    exact this p hp⟩

end Props.C08
