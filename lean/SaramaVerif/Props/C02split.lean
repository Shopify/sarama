/-
  C02 composition: THE SIMULATION behind the per-stay split, and with it LogOrder for runs in which the partition
  producer selects a worker again.
    * `split_sim` - every run of `Model.Pipeline` that satisfies the decidable side condition (`splitOK`: whenever
      a worker takes a chaser it is afterwards as a fresh worker; and `splitOKs`: the choices list at most 64
      successful lookups in all, a worker named twice counting twice - 64 is the number of worker incarnations the
      model has per broker) is simulated by a HANDOVER CHAIN - one fresh worker per stay - with the same partition
      log, successes and errors.
    * `log_order_reselect` - hence `LogOrder` for these runs, with no condition on which workers the lookups name.
  Proof: the relation `Lemmas.C02sys.Rel` (a real worker's input channel is the concatenation of the inputs of the
  chain workers of its stays, its state is the state of the stay it is serving, the waiting stays are untouched fresh
  workers, the chain in a state of the chain invariant) and one simulation lemma per choice that names a worker or is
  the partition producer's (Lemmas/C02splitW, C02splitP).  A choice at real worker `w` is answered by the same choice at
  the chain worker of the stay `w` is serving: so are `bpRecv`, `handover`, `deliver`, which run the worker, and so are
  `broker` and `closeW`, which run no component (`sim_broker`, `sim_closeW`).  `ppRecv` is answered by `ppRecv` with
  lookups of fresh workers.  `submit`, `retryOut`, `dispatch`, `moveLeader` touch no worker and are answered by the very
  same choice, in `sim_step`.  From `Base` of the chain, a worker's retry marks outside partition 0 are clear, which
  makes "as a fresh worker" an equality of states.
-/
import SaramaVerif.Lemmas.C02splitP

namespace Props.C02sys
open Model Model.Pipeline Lemmas.C02sys

def splitOKs (M : Nat) (cs : List Choice) : Bool :=
  splitOK M {} cs && decide ((cs.flatMap lookupsOf).length ≤ 64)

theorem splitOK_cons {M : Nat} {s s1 : Sys} {c : Choice} {cs : List Choice} (hs : sysStep M s c = some s1)
    (h : splitOK M s (c :: cs) = true) :
    splitOK M s1 cs = true ∧
    (∀ w ov, c = .bpRecv w ov → ∀ y r, (s.wk w).inq = y :: r → y.kind = .fin → freshAfter (s1.wk w) = true) := by
  simp only [splitOK, hs, Bool.and_eq_true] at h
  refine ⟨h.2, ?_⟩
  intro w ov hc y r hq hk
  subst hc
  have := h.1
  simp only [hq, hk, if_true] at this
  exact this

theorem sim_step {M : Nat} (hM : 1 ≤ M) {seen : List Nat} {g : Ghost} {s t s1 : Sys} (h : Rel M seen g s t)
    (c : Choice) (hs : sysStep M s c = some s1)
    (hok : ∀ w ov, c = .bpRecv w ov → ∀ y r, (s.wk w).inq = y :: r → y.kind = .fin → freshAfter (s1.wk w) = true)
    (hb : seen.length + (lookupsOf c).length ≤ 64) : Sim M seen s1 t c := by
  -- `submit`, `retryOut`, `dispatch`, `moveLeader` touch no worker and are answered by the very same choice: the two
  -- states differ in the workers only
  have quiet : ∀ {c' : Choice} {s1 t1 : Sys}, lookupsOf c' = [] → Step M t c' t1 → s1.wk = s.wk → t1.wk = t.wk →
      s1.cur = s.cur → t1.cur = t.cur → outerOf s1 = outerOf t1 → Sim M seen s1 t c :=
    fun hl ht hw hw' hc hc' ho => h.step hM hl ht (h.toRelW.frame hw hw' hc hc' ho)
  have ho := h.outer
  cases step_iff.1 hs with
  | submit =>
    exact quiet rfl .submit rfl rfl rfl rfl (congrArg (fun o : Sys =>
      { o with next := o.next + 1, dq := o.dq ++ [mkTok (o.next : Int) 0 false] }) ho)
  | @retryOut x r hr =>
    exact quiet rfl (.retryOut (h.ret ▸ hr)) rfl rfl rfl rfl
      (congrArg (fun o : Sys => { o with ret := r, dq := o.dq ++ [x] }) ho)
  | @dispatch x r hr =>
    exact quiet rfl (.dispatch (h.dq ▸ hr)) rfl rfl rfl rfl
      (congrArg (fun o : Sys => { o with dq := r, pq := o.pq ++ [x] }) ho)
  | moveLeader b => exact quiet rfl (.moveLeader b) rfl rfl rfl rfl (congrArg (fun o : Sys => { o with ldr := b }) ho)
  | ppRecv lks => exact sim_ppRecv hM h hb hs
  | worker hf =>
    cases hf with
    | recv ov => exact sim_bpRecv hM h hs (hok _ ov rfl)
    | handover => exact sim_handover hM h hs
    | deliver st => exact sim_deliver hM h hs
  | broker => exact sim_broker hM h hs
  | closeW => exact sim_closeW hM h hs

theorem sim_run {M : Nat} (hM : 1 ≤ M) (cs : List Choice) : ∀ {seen : List Nat} {g : Ghost} {s t s' : Sys},
    Rel M seen g s t → splitOK M s cs = true → seen.length + (cs.flatMap lookupsOf).length ≤ 64 →
    run M s cs = some s' →
    ∃ cs' seen' g' t', run M t cs' = some t' ∧ Rel M seen' g' s' t' ∧ Fresh seen (cs'.flatMap lookupsOf) := by
  induction cs with
  | nil =>
    intro seen g s t s' h _ _ hr
    obtain rfl := Option.some.inj hr
    exact ⟨[], seen, g, t, rfl, h, Fresh.nil seen⟩
  | cons c cs ih =>
    intro seen g s t s' h hok hb hr
    obtain ⟨s1, hs, hr⟩ := (runs M).cons.1 hr
    obtain ⟨hok1, hfin⟩ := splitOK_cons hs hok
    rw [List.flatMap_cons, List.length_append] at hb
    obtain ⟨c', g1, t1, k1, k2, k3, k4⟩ := sim_step hM h c hs hfin
      (Nat.le_trans (Nat.add_le_add_left (Nat.le_add_right ..) _) hb)
    obtain ⟨cs', seen', g', t', r1, r2, r3⟩ := ih k2 hok1 (by rw [List.length_append]; omega) hr
    exact ⟨c' :: cs', seen', g', t', (runs M).cons.2 ⟨t1, k1, r1⟩, r2, k4.append r3⟩

theorem split_sim {M : Nat} (hM : 1 ≤ M) (cs : List Choice) (s : Sys) (hok : splitOKs M cs = true)
    (hr : run M {} cs = some s) :
    ∃ cs' s', HandoverChain cs' ∧ run M {} cs' = some s' ∧ s'.log = s.log ∧ s'.succ = s.succ ∧ s'.errs = s.errs := by
  simp only [splitOKs, Bool.and_eq_true, decide_eq_true_eq] at hok
  obtain ⟨cs', seen', g', t', r1, r2, r3⟩ := sim_run hM cs (rel_init M) hok.1 (by simpa using hok.2) hr
  exact ⟨cs', t', r3.1, r1, r2.log.symm, r2.succ.symm, r2.errs.symm⟩

/-- NO condition on which workers the leader lookups name: a worker may be selected again while it still drains the
    previous stay -/
theorem log_order_reselect {M : Nat} (hM : 1 ≤ M) (cs : List Choice) (hok : splitOKs M cs = true) {s : Sys}
    (hr : run M {} cs = some s) : LogOrder s := by
  obtain ⟨cs', s', hc, hr', hl, hs, _⟩ := split_sim hM cs s hok hr
  exact logOrder_congr hl hs (log_order_handover_chain hM cs' hc hr')

theorem splitOKs_exReselect : splitOKs 2 exReselect = true := by rw [splitOKs, splitOK_exReselect]; decide +kernel

example : splitOKs 2 exReselect = true := splitOKs_exReselect
example : ∀ s, run 2 {} exReselect = some s → LogOrder s := fun _ h =>
  log_order_reselect (by decide) _ splitOKs_exReselect h

end Props.C02sys
