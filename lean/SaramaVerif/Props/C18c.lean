import SaramaVerif.Model.Feeder
import SaramaVerif.Lemmas.Acceptor
/-
  C18 (consumer half) and the feeder part of C03/C12: for EVERY accepted event sequence of the partition
  consumer's feeder - any reader pace (the MaxProcessingTime ticker may expire anywhere), any moment of closing -
  * the interceptor chain is applied exactly once to every message before it is handed to the application
    (never twice, also not to the message a slow reader was blocked on), and nothing is delivered that was not
    intercepted immediately before;
  * the broker worker is released exactly once per parsed response; nothing is delivered after the feeder closed.
-/
namespace Props.C18c
open Model.Feeder Lemmas.Acceptor

structure FInv (s : St) : Prop where
  icept_nodup : s.iceptLog.Nodup
  deliv_sub   : ∀ o ∈ s.delivered, o ∈ s.iceptLog
  deliv_nodup : s.delivered.Nodup
  cur_icept   : ∀ o, s.cur = some o → o ∈ s.iceptLog ∧ o ∉ s.delivered
  acks_le     : s.acks ≤ s.responses
  acks_eq     : s.acks + (if s.open_ ∧ ¬ s.acked then 1 else 0) = s.responses
  closed_idle : s.closed = true → s.open_ = false
  slow_acked  : s.slow = true → s.acked = true

theorem init_inv : FInv {} := by constructor <;> simp

theorem step_inv (s s' : St) (e : Ev) (h : step s e = .ok s') (hi : FInv s) : FInv s' := by
  have hacks := hi.acks_eq
  revert h
  cases e
  case parsed n =>
    refine ok_of_guard fun h1 => ok_of_guard fun h2 => ?_
    simp only [eq_false_of_ne_true h2, Bool.false_eq_true, false_and, ↓reduceIte, Nat.add_zero] at hacks
    refine ok_of_ite (fun _ h => ?_) (fun _ h => ?_) <;> cases h <;>
      exact { hi with cur_icept := nofun, acks_le := by simp only; omega,
                      acks_eq := by simp only [Bool.false_eq_true, not_false_eq_true, and_self, ↓reduceIte]; omega,
                      closed_idle := fun hc => absurd hc h1, slow_acked := nofun }
  case icept off =>
    refine ok_of_guard fun _ => ok_of_guard fun _ => ok_of_guard fun _ => ok_of_guard fun h4 h => ?_
    cases h
    refine { hi with icept_nodup := List.nodup_cons.mpr ⟨h4, hi.icept_nodup⟩, deliv_sub := ?_, cur_icept := ?_ }
    · intro o ho; exact List.mem_cons_of_mem _ (hi.deliv_sub o ho)
    · rintro o ⟨⟩
      exact ⟨List.mem_cons_self, fun hd => h4 (hi.deliv_sub _ hd)⟩
  case deliver off =>
    refine ok_of_guard fun _ => ok_of_guard fun h2 => ok_of_guard fun _ h => ?_
    cases h
    have := hi.cur_icept off (Decidable.not_not.mp h2)
    refine { hi with deliv_sub := ?_, deliv_nodup := List.nodup_cons.mpr ⟨this.2, hi.deliv_nodup⟩, cur_icept := nofun }
    intro o ho
    rcases List.mem_cons.mp ho with rfl | ho
    · exact this.1
    · exact hi.deliv_sub o ho
  case ack why =>
    refine ok_of_guard fun h1 => ok_of_guard fun h2 => ?_
    simp only [Decidable.not_not.mp h1, eq_false_of_ne_true h2, Bool.false_eq_true, not_false_eq_true, and_self,
      ↓reduceIte] at hacks
    refine ok_of_ite (fun _ => ok_of_guard fun _ h => ?_) fun _ => ok_of_ite (fun _ h => ?_) fun _ => ok_of_guard fun _ h => ?_
    all_goals cases h
    · exact { hi with acks_le := by simp only; omega, acks_eq := by simp only [Bool.false_eq_true, false_and, ↓reduceIte]; omega,
                      closed_idle := fun _ => rfl, slow_acked := fun _ => rfl }
    · exact { hi with cur_icept := nofun, acks_le := by simp only; omega,
                      acks_eq := by simp only [Bool.false_eq_true, false_and, ↓reduceIte]; omega,
                      closed_idle := fun _ => rfl, slow_acked := fun _ => rfl }
    · exact { hi with acks_le := by simp only; omega, acks_eq := by simp only [not_true_eq_false, and_false, ↓reduceIte]; omega,
                      closed_idle := fun hc => absurd (hi.closed_idle hc) (by simpa using h1), slow_acked := fun _ => rfl }
  case abandon off => refine ok_of_guard fun _ => ok_of_guard fun _ h => ?_; cases h; exact { hi with cur_icept := nofun }
  case resubscribe =>
    refine ok_of_guard fun h1 => ok_of_guard fun _ => ok_of_guard fun _ h => ?_
    cases h
    have hos : s.open_ = true ∧ s.slow = true := Decidable.not_not.mp h1
    -- on the slow path the worker has been released already (ack 2 set `acked`), so the count is unchanged
    simp only [hos.1, hi.slow_acked hos.2, not_true_eq_false, and_false, ↓reduceIte, Nat.add_zero] at hacks
    exact { hi with acks_eq := by simpa using hacks, closed_idle := fun _ => rfl, slow_acked := nofun }
  case closed =>
    refine ok_of_guard fun _ => ok_of_guard fun h2 h => ?_
    cases h
    exact { hi with closed_idle := fun _ => by simpa using h2 }

theorem folds : Folds step run :=
  .ofExcept (fun _ => rfl) fun s e es => by rw [run]; cases step s e <;> rfl

theorem run_inv (s s' : St) (es : List Ev) (h : run s es = .ok s') (hi : FInv s) : FInv s' :=
  folds.inv FInv step_inv es s s' h hi

/-- in every accepted event sequence the interceptor chain is applied at most
    once to a message, every delivered message has been through it, and no message is delivered twice -/
theorem consumer_interceptors_once (es : List Ev) (s : St) (h : run {} es = .ok s) :
    s.iceptLog.Nodup ∧ s.delivered.Nodup ∧ ∀ o ∈ s.delivered, o ∈ s.iceptLog := by
  have hi := run_inv {} s es h init_inv
  exact ⟨hi.icept_nodup, hi.deliv_nodup, hi.deliv_sub⟩

/-- a delivery is accepted only for the message that was intercepted immediately before it -/
theorem deliver_follows_icept (s s' : St) (off : Int) (h : step s (.deliver off) = .ok s') : s.cur = some off := by
  revert h
  exact ok_of_guard fun _ => ok_of_guard fun h2 _ => Decidable.not_not.mp h2

/-- the broker worker is released exactly once per parsed response: never twice, and a response that is no
    longer being fed has been acknowledged -/
theorem one_ack_per_response (es : List Ev) (s : St) (h : run {} es = .ok s) :
    s.acks ≤ s.responses ∧ (s.open_ = false → s.acks = s.responses) := by
  have hi := run_inv {} s es h init_inv
  refine ⟨hi.acks_le, ?_⟩
  intro ho
  have := hi.acks_eq
  simp only [ho, Bool.false_eq_true, false_and, ↓reduceIte, Nat.add_zero] at this
  exact this

/-- nothing is fed after the feeder closed its channels -/
theorem nothing_after_closed (s s' : St) (e : Ev) (hc : s.closed = true) (hi : FInv s) (h : step s e = .ok s') : False := by
  -- every event is guarded by `closed` or by `open_`, and a closed feeder is idle
  cases e <;> simp [step, hc, hi.closed_idle hc] at h

/-! a response of three messages, the reader stalls on the second one, the slow path drains the rest;
    every message intercepted exactly once -/
example : (run {} [.parsed 3, .icept 10, .deliver 10, .icept 11, .ack 2, .deliver 11, .icept 12, .deliver 12, .resubscribe,
                   .parsed 0, .ack 0, .closed]).toOption.map
          (fun s => (s.iceptLog, s.delivered, s.acks, s.responses)) = some ([12, 11, 10], [12, 11, 10], 2, 2) := by decide +kernel
/-- … re-applying the chain to the blocked message (the pinned-tree defect, fixed) is not accepted -/
example : (run {} [.parsed 3, .icept 10, .deliver 10, .icept 11, .ack 2, .icept 11]).toOption.isNone = true := by decide +kernel

end Props.C18c
