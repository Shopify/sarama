import SaramaVerif.Model.Admin
/-
  C19 — admin operations reach the right broker and report its verdict.

  Property theorems about `Model.Admin` for ALL scripts (controller whereabouts, broker answers, leadership,
  coordinators), for the repaired variants; `controller_op_spec_partial` with the exact extra hypothesis plus concrete
  counter-examples for the behaviours of the pinned tree.
-/
namespace Props.C19
open Model.Admin

/-- the answer says NOT_CONTROLLER where the protocol puts it: per topic for the single-topic operations,
    top level for AlterPartitionReassignments.  (`isNC` and `acked` read an answer by the protocol, independently
    of what admin.go does with it; the theorems compare the closure bodies with them.) -/
def isNC : COp → Reply → Bool
  | _, .transport => false
  | .reassign _, .resp top _ => top == NOT_CONTROLLER
  | _, .resp _ items => items.lookup 0 == some NOT_CONTROLLER

/-- the answer acknowledges the operation: every requested item is present and no error code anywhere -/
def acked : COp → Reply → Bool
  | _, .transport => false
  | .reassign n, .resp top items =>
    top == 0 && items.all (fun it => it.2 == 0) && (List.range n).all (fun p => (items.lookup p).isSome)
  | _, .resp _ items => items.lookup 0 == some 0

def retryableO : Outcome → Bool
  | some e => isErrNoController e
  | none => false

theorem retryableO_true {o : Outcome} (h : retryableO o = true) : o = some (.kerr NOT_CONTROLLER) := by
  cases o with
  | none => cases h
  | some e =>
    cases e with
    | kerr c => rw [beq_iff_eq.mp (show (c == NOT_CONTROLLER) = true from h)]
    | _ => cases h

/-- the variant handles NOT_CONTROLLER for this operation the way the property demands -/
def Faithful (v : Variant) : COp → Prop
  | .reassign _ => v.reassignRetries = true
  | _ => True

section RetryLoop
variable {σ : Type} (retryable : Err → Bool) (fn : σ → σ × Outcome)

/-- Let `S 0, S 1, …` be the states `fn` leads through while it answers retryable errors. The loop returns what
    the call in state `S k` returns if the budget allows that call and either ends with it or its result is not
    a retryable error: one retry after every retryable error before it, none after it. -/
theorem retryLoop_stops (k : Nat) : ∀ (fuel : Nat) (S : Nat → σ) (last : Outcome), k < fuel →
    (∀ j, j < k → ∃ e, fn (S j) = (S (j + 1), some e) ∧ retryable e = true) →
    (k + 1 = fuel ∨ ∀ e, (fn (S k)).2 = some e → retryable e = false) →
    retryLoop retryable fn fuel (S 0) last = fn (S k) := by
  induction k with
  | zero =>
    intro fuel S last hk _ hstop
    obtain _ | f := fuel
    · cases hk
    unfold retryLoop
    rcases h : fn (S 0) with ⟨s', _ | e⟩
    · rfl
    · rcases hstop with hf | hfin
      · cases hf; exact ite_self _
      · exact if_neg (by rw [hfin e (by rw [h])]; exact Bool.false_ne_true)
  | succ k ih =>
    intro fuel S last hk hnc hstop
    obtain _ | f := fuel
    · cases hk
    obtain ⟨e, he, hr⟩ := hnc 0 (Nat.zero_lt_succ k)
    unfold retryLoop
    rw [he]
    exact (if_pos hr).trans (ih f (fun j => S (j + 1)) (some e) (Nat.lt_of_succ_lt_succ hk)
      (fun j hj => hnc (j + 1) (Nat.succ_lt_succ hj)) (hstop.imp Nat.succ.inj id))

end RetryLoop

/-- `retryOnError`: the first attempt result that is nil or not retryable, if it comes within the attempt
    budget, is what the caller gets, after exactly that many calls of `fn` (no retry after it, a retry after
    every retryable error before it). -/
theorem retry_first_final (b : Budget) (max : Int) (retryable : Err → Bool) (script : Nat → Outcome) (k : Nat)
    (hk : k < attempts b max)
    (hnc : ∀ j, j < k → ∃ e, script j = some e ∧ retryable e = true)
    (hfin : ∀ e, script k = some e → retryable e = false) :
    retryScript b max retryable script = (k + 1, script k) :=
  retryLoop_stops retryable _ k _ (fun j => j) none hk
    (fun j hj => (hnc j hj).imp fun _ h => ⟨congrArg (Prod.mk _) h.1, h.2⟩) (.inr hfin)

/-- … and when every attempt of the budget (≥ 1) ends in a retryable error, the last one is returned after
    exactly `attempts` calls. -/
theorem retry_exhausted (b : Budget) (max : Int) (retryable : Err → Bool) (script : Nat → Outcome)
    (hpos : 0 < attempts b max)
    (hnc : ∀ j, j < attempts b max → ∃ e, script j = some e ∧ retryable e = true) :
    retryScript b max retryable script = (attempts b max, script (attempts b max - 1)) := by
  obtain ⟨f, hf⟩ : ∃ f, attempts b max = f + 1 := ⟨_, (Nat.succ_pred_eq_of_pos hpos).symm⟩
  rw [hf] at hnc
  rw [retryScript, retryOnError, hf]
  exact retryLoop_stops retryable _ f _ (fun j => j) none (Nat.lt_succ_self f)
    (fun j hj => (hnc j (Nat.lt_succ_of_lt hj)).imp fun _ h => ⟨congrArg (Prod.mk _) h.1, h.2⟩) (.inl rfl)

theorem attempts_pos_atLeastOne (max : Int) : 0 < attempts .atLeastOne max := by
  show 0 < if max.toNat = 0 then 1 else max.toNat
  split
  · exact Nat.one_pos
  · exact Nat.pos_of_ne_zero ‹_›

theorem attempts_pos_plusOne (max : Int) : 0 < attempts .plusOne max :=
  Nat.succ_pos _

/-- pinned loop (`attempt < Max`): an attempt is made only if `1 ≤ Admin.Retry.Max` -/
theorem attempts_pos_asIs (max : Int) (h : 1 ≤ max) : 0 < attempts .asIs max := by
  show 0 < max.toNat; omega

/-- F10a, concrete: with `Admin.Retry.Max = 0` the pinned loop returns nil without calling `fn` even though
    the only thing `fn` would have reported is an error; the repaired budgets call it once and return it. -/
example : retryScript .asIs 0 isErrNoController (fun _ => some .transport) = (0, none) := rfl
example : retryScript .atLeastOne 0 isErrNoController (fun _ => some .transport) = (1, some .transport) := rfl
example : retryScript .plusOne 0 isErrNoController (fun _ => some .transport) = (1, some .transport) := rfl

/-- `retry_first_final` with k = 2: two NOT_CONTROLLER answers, then success, budget 5 -/
example : retryScript .asIs 5 isErrNoController
    (fun i => if i < 2 then some (.kerr NOT_CONTROLLER) else none) = (3, none) := rfl

theorem inspect_single (v : Variant) {op : COp} (hop : ∀ n, op ≠ .reassign n) (r : Reply) :
    inspect v op r = inspectItem r := by
  cases op with
  | reassign n => exact absurd rfl (hop n)
  | _ => rfl

theorem isNC_single {op : COp} (hop : ∀ n, op ≠ .reassign n) (top : Int) (items : List (Nat × Int)) :
    isNC op (.resp top items) = (items.lookup 0 == some NOT_CONTROLLER) := by
  cases op with
  | reassign n => exact absurd rfl (hop n)
  | _ => rfl

/-- single-topic operations: the code found for the topic is what the caller gets, typed, whatever it is -/
theorem inspect_item_code (v : Variant) (op : COp) (hop : ∀ n, op ≠ .reassign n) (top : Int)
    (items : List (Nat × Int)) (c : Int) (h : items.lookup 0 = some c) (hc : c ≠ 0) :
    (inspect v op (.resp top items)).1 = some (.kerr c) := by
  rw [inspect_single v hop, inspectItem, h]
  exact congrArg Prod.fst (if_neg hc)

theorem inspect_item_incomplete (v : Variant) (op : COp) (hop : ∀ n, op ≠ .reassign n) (top : Int)
    (items : List (Nat × Int)) (h : items.lookup 0 = none) :
    (inspect v op (.resp top items)).1 = some .incomplete := by
  rw [inspect_single v hop, inspectItem, h]

theorem inspect_item_transport (v : Variant) (op : COp) (hop : ∀ n, op ≠ .reassign n) :
    (inspect v op .transport).1 = some .transport := by
  rw [inspect_single v hop]; rfl

private theorem inspectItem_nc (top : Int) (items : List (Nat × Int)) :
    retryableO (inspectItem (.resp top items)).1 = (items.lookup 0 == some NOT_CONTROLLER) ∧
    (inspectItem (.resp top items)).2 = (items.lookup 0 == some NOT_CONTROLLER) := by
  rw [inspectItem]
  cases items.lookup 0 with
  | none => exact ⟨rfl, rfl⟩
  | some c =>
    by_cases hc : c = 0
    · subst hc; exact ⟨rfl, rfl⟩
    · dsimp only
      rw [if_neg hc]
      exact ⟨Option.some_beq_some.symm, Option.some_beq_some.symm⟩

private theorem inspectReassign_nc (v : Variant) (hf : v.reassignRetries = true) (n : Nat) (top : Int)
    (items : List (Nat × Int)) :
    retryableO (inspectReassign v n (.resp top items)).1 = (top == NOT_CONTROLLER) ∧
    (inspectReassign v n (.resp top items)).2 = (top == NOT_CONTROLLER) := by
  rw [inspectReassign, hf]
  by_cases ht : top = NOT_CONTROLLER
  · rw [if_pos ⟨rfl, ht⟩, ht]; exact ⟨rfl, rfl⟩
  · rw [if_neg (fun h => ht h.2), beq_false_of_ne ht]
    split <;> exact ⟨rfl, rfl⟩

theorem inspect_nc (v : Variant) (op : COp) (hf : Faithful v op) (r : Reply) :
    retryableO (inspect v op r).1 = isNC op r ∧ (inspect v op r).2 = isNC op r := by
  cases r with
  | transport => cases op <;> exact ⟨rfl, rfl⟩
  | resp top items =>
    cases op with
    | reassign n => exact inspectReassign_nc v hf n top items
    | _ => exact inspectItem_nc top items

theorem inspect_nc_err (v : Variant) (op : COp) (hf : Faithful v op) (r : Reply) (h : isNC op r = true) :
    (inspect v op r).1 = some (.kerr NOT_CONTROLLER) :=
  retryableO_true ((inspect_nc v op hf r).1.trans h)

theorem itemCauses_nil (codes : List (Nat × Int)) :
    itemCauses codes = [] ↔ ∀ it, it ∈ codes → it.2 = 0 := by
  rw [itemCauses, List.map_eq_nil_iff, List.filter_eq_nil_iff]
  exact forall₂_congr fun it _ => by rw [bne_iff_ne, Decidable.not_not]

theorem missingCauses_nil (n : Nat) (items : List (Nat × Int)) :
    missingCauses n items = [] ↔ ∀ p, p < n → (items.lookup p).isSome = true := by
  rw [missingCauses, List.map_eq_nil_iff, List.filter_eq_nil_iff]
  exact forall_congr' fun p => by rw [List.mem_range]; cases items.lookup p <;> simp

private theorem reassignCauses_fixed_nil (b : Budget) (n : Nat) (top : Int) (items : List (Nat × Int)) :
    reassignCauses (Variant.fixed b) n top items = [] ↔ acked (.reassign n) (.resp top items) = true := by
  have ht : topCauses (Variant.fixed b) top = [] ↔ top = 0 := by
    show (if (top != 0) = true then _ else _) = [] ↔ _
    by_cases h : top = 0
    · subst h; exact ⟨fun _ => rfl, fun _ => rfl⟩
    · rw [if_pos (bne_iff_ne.mpr h)]; exact ⟨nofun, fun h' => absurd h' h⟩
  rw [reassignCauses, List.append_eq_nil_iff, List.append_eq_nil_iff, ht, itemCauses_nil]
  show _ ∧ missingCauses n items = [] ↔ _
  rw [missingCauses_nil]
  unfold acked
  simp only [Bool.and_eq_true, beq_iff_eq, List.all_eq_true, List.mem_range]

private theorem inspectItem_ok_iff (top : Int) (items : List (Nat × Int)) :
    (inspectItem (.resp top items)).1 = none ↔ (items.lookup 0 == some 0) = true := by
  rw [inspectItem]
  cases items.lookup 0 with
  | none => exact ⟨nofun, nofun⟩
  | some c =>
    by_cases hc : c = 0
    · subst hc; exact ⟨fun _ => rfl, fun _ => rfl⟩
    · dsimp only
      rw [if_neg hc]
      exact ⟨nofun, fun h => absurd (Option.some.inj (beq_iff_eq.mp h)) hc⟩

theorem inspect_ok_iff (b : Budget) (op : COp) (r : Reply) :
    (inspect (Variant.fixed b) op r).1 = none ↔ acked op r = true := by
  cases r with
  | transport => cases op <;> exact ⟨nofun, nofun⟩
  | resp top items =>
    cases op with
    | reassign n =>
      rw [← reassignCauses_fixed_nil b, inspect, inspectReassign]
      by_cases ht : top = NOT_CONTROLLER
      · rw [if_pos ⟨rfl, ht⟩, ht]; exact ⟨nofun, fun h => nomatch (List.append_eq_nil_iff.mp (List.append_eq_nil_iff.mp h).1).1⟩
      · rw [if_neg (fun h => ht h.2)]
        by_cases hc : reassignCauses (Variant.fixed b) n top items = []
        · rw [if_pos hc]; exact ⟨fun _ => hc, fun _ => rfl⟩
        · rw [if_neg hc]; exact ⟨nofun, fun h => absurd h hc⟩
    | _ => exact inspectItem_ok_iff top items

/-- The client state after `j` attempts that were all answered NOT_CONTROLLER: the cache names the controller
    of the next attempt, every earlier attempt went to the controller of its time, one refresh per attempt. -/
def stateAt (w : World) (j : Nat) : St := ⟨w.ctrl j, (List.range j).map w.ctrl, j⟩

private theorem attempt_stateAt (v : Variant) (op : COp) (kv : List Nat) (w : World) (hs : supported op kv = true)
    (j : Nat) :
    attempt v op kv w (stateAt w j) =
      (⟨if (inspect v op (w.reply j)).2 then w.ctrl (j + 1) else w.ctrl j, (List.range (j + 1)).map w.ctrl,
        if (inspect v op (w.reply j)).2 then j + 1 else j⟩, (inspect v op (w.reply j)).1) := by
  rw [attempt, if_pos hs]
  simp only [stateAt, List.length_map, List.length_range, List.range_succ, List.map_append, List.map_cons, List.map_nil]

private theorem attempt_nc (v : Variant) (op : COp) (kv : List Nat) (w : World) (hs : supported op kv = true)
    (hf : Faithful v op) (j : Nat) (h : isNC op (w.reply j) = true) :
    ∃ e, attempt v op kv w (stateAt w j) = (stateAt w (j + 1), some e) ∧ isErrNoController e = true := by
  refine ⟨.kerr NOT_CONTROLLER, ?_, rfl⟩
  rw [attempt_stateAt v op kv w hs, inspect_nc_err v op hf _ h, (inspect_nc v op hf _).2, h]
  rfl

theorem runCtrl_stops (v : Variant) (op : COp) (kv : List Nat) (max : Int) (w : World)
    (hs : supported op kv = true) (hf : Faithful v op) (k : Nat) (hk : k < attempts v.budget max)
    (hnc : ∀ j, j < k → isNC op (w.reply j) = true)
    (hstop : k + 1 = attempts v.budget max ∨ isNC op (w.reply k) = false) :
    runCtrl v op kv max w = attempt v op kv w (stateAt w k) :=
  retryLoop_stops _ _ k _ (stateAt w) none hk (fun j hj => attempt_nc v op kv w hs hf j (hnc j hj))
    (hstop.imp id fun hfin e he => by
      rw [attempt_stateAt v op kv w hs] at he
      have := (inspect_nc v op hf (w.reply k)).1
      rwa [hfin, show (inspect v op (w.reply k)).1 = some e from he] at this)

/-- For every variant that is `Faithful` for the operation and every attempt `k` inside the budget:
    if the answers to attempts `0..k-1` say NOT_CONTROLLER and the answer to attempt `k` does not, then the
    caller gets exactly what the closure makes of answer `k`; attempt `i` went to `ctrl i`, the controller
    the refreshed metadata named at that time; there were `k+1` requests and `k` refreshes. -/
theorem controller_op_core (v : Variant) (op : COp) (kv : List Nat) (max : Int) (w : World)
    (hs : supported op kv = true) (hf : Faithful v op) (k : Nat) (hk : k < attempts v.budget max)
    (hnc : ∀ j, j < k → isNC op (w.reply j) = true) (hfin : isNC op (w.reply k) = false) :
    (runCtrl v op kv max w).2 = (inspect v op (w.reply k)).1 ∧
    (runCtrl v op kv max w).1.log = (List.range (k + 1)).map w.ctrl ∧
    (runCtrl v op kv max w).1.refreshes = k := by
  rw [runCtrl_stops v op kv max w hs hf k hk hnc (.inr hfin), attempt_stateAt v op kv w hs,
    (inspect_nc v op hf _).2, hfin]
  exact ⟨rfl, rfl, rfl⟩

private theorem faithful_fixed (b : Budget) (op : COp) : Faithful (Variant.fixed b) op := by
  cases op <;> trivial

private theorem faithful_single (v : Variant) (op : COp) (hop : ∀ n, op ≠ .reassign n) : Faithful v op := by
  cases op with
  | reassign n => exact absurd rfl (hop n)
  | _ => trivial

private theorem first_false (p : Nat → Bool) (n : Nat) :
    (∀ j, j < n → p j = true) ∨ ∃ k, k < n ∧ (∀ j, j < k → p j = true) ∧ p k = false := by
  cases h : (List.range n).find? (fun j => !p j) with
  | none => exact .inl fun j hj => Bool.not_not (p j) ▸ List.find?_range_eq_none.mp h j hj
  | some k =>
    obtain ⟨hk, hm, hlt⟩ := List.find?_range_eq_some.mp h
    exact .inr ⟨k, List.mem_range.mp hm, fun j hj => Bool.not_not (p j) ▸ hlt j hj, (Bool.not_eq_true' _).mp hk⟩

/-- Repaired variants, every operation, every `Admin.Retry.Max`, every script: the result is the first answer that
    is not NOT_CONTROLLER among the allowed attempts — as the closure reads it: success exactly when that answer
    acknowledges the operation; attempt `i` was sent to the controller named by the metadata of that time
    (`ctrl i`); number of requests = index of that answer + 1; one controller refresh per NOT_CONTROLLER answer. -/
theorem controller_op_spec (b : Budget) (op : COp) (kv : List Nat) (max : Int) (w : World)
    (hs : supported op kv = true) (k : Nat) (hk : k < attempts b max)
    (hnc : ∀ j, j < k → isNC op (w.reply j) = true) (hfin : isNC op (w.reply k) = false) :
    (runCtrl (Variant.fixed b) op kv max w).2 = (inspect (Variant.fixed b) op (w.reply k)).1 ∧
    ((runCtrl (Variant.fixed b) op kv max w).2 = none ↔ acked op (w.reply k) = true) ∧
    (runCtrl (Variant.fixed b) op kv max w).1.log = (List.range (k + 1)).map w.ctrl ∧
    (runCtrl (Variant.fixed b) op kv max w).1.refreshes = k := by
  have h := controller_op_core (Variant.fixed b) op kv max w hs (faithful_fixed b op) k hk hnc hfin
  refine ⟨h.1, ?_, h.2.1, h.2.2⟩
  rw [h.1]; exact inspect_ok_iff b op (w.reply k)

/-- other errors are returned unchanged and without retry (single-topic operations, ANY variant incl. the
    pinned one as long as one attempt is allowed): the code the then-current controller gave for the topic is
    the code the caller gets, typed; the request count stops at that answer. -/
theorem controller_op_error_unchanged (v : Variant) (op : COp) (hop : ∀ n, op ≠ .reassign n) (kv : List Nat)
    (max : Int) (w : World) (hs : supported op kv = true) (k : Nat) (hk : k < attempts v.budget max)
    (hnc : ∀ j, j < k → isNC op (w.reply j) = true)
    (top : Int) (items : List (Nat × Int)) (c : Int) (hr : w.reply k = .resp top items)
    (hl : items.lookup 0 = some c) (hc0 : c ≠ 0) (hc : c ≠ NOT_CONTROLLER) :
    (runCtrl v op kv max w).2 = some (.kerr c) ∧ (runCtrl v op kv max w).1.log.length = k + 1 := by
  have hfin : isNC op (w.reply k) = false := by
    rw [hr, isNC_single hop, hl]; exact beq_false_of_ne fun h => hc (Option.some.inj h)
  have h := controller_op_core v op kv max w hs (faithful_single v op hop) k hk hnc hfin
  refine ⟨?_, ?_⟩
  · rw [h.1, hr]; exact inspect_item_code v op hop top items c hl hc0
  · rw [h.2.1, List.length_map, List.length_range]

/-- budget exhausted: every allowed attempt was answered NOT_CONTROLLER — the caller gets NOT_CONTROLLER,
    after exactly `attempts` requests, each sent to the controller of its time -/
theorem controller_op_exhausted (b : Budget) (op : COp) (kv : List Nat) (max : Int) (w : World)
    (hs : supported op kv = true) (hpos : 0 < attempts b max)
    (hnc : ∀ j, j < attempts b max → isNC op (w.reply j) = true) :
    (runCtrl (Variant.fixed b) op kv max w).2 = some (.kerr NOT_CONTROLLER) ∧
    (runCtrl (Variant.fixed b) op kv max w).1.log = (List.range (attempts b max)).map w.ctrl := by
  obtain ⟨f, hf⟩ : ∃ f, attempts b max = f + 1 := ⟨_, (Nat.succ_pred_eq_of_pos hpos).symm⟩
  have hlt : f < attempts b max := hf ▸ Nat.lt_succ_self f
  have hff := faithful_fixed b op
  rw [runCtrl_stops (Variant.fixed b) op kv max w hs hff f hlt (fun j hj => hnc j (Nat.lt_trans hj hlt)) (.inl hf.symm),
    hf, attempt_stateAt _ op kv w hs, inspect_nc_err _ op hff _ (hnc f hlt)]
  exact ⟨rfl, rfl⟩

/-- `controller_op_success_only_if_acked` for every budget that allows an attempt, the pinned loop with
    `1 ≤ Admin.Retry.Max` included -/
theorem controller_op_success_acked (b : Budget) (op : COp) (kv : List Nat) (max : Int) (w : World)
    (hpos : 0 < attempts b max) (hs : supported op kv = true)
    (hok : (runCtrl (Variant.fixed b) op kv max w).2 = none) :
    ∃ k, k < attempts b max ∧ (∀ j, j < k → isNC op (w.reply j) = true) ∧ acked op (w.reply k) = true ∧
      (runCtrl (Variant.fixed b) op kv max w).1.log = (List.range (k + 1)).map w.ctrl := by
  rcases first_false (fun j => isNC op (w.reply j)) (attempts b max) with hall | ⟨k, hk, h1, h2⟩
  · exact nomatch hok.symm.trans (controller_op_exhausted b op kv max w hs hpos hall).1
  · have h := controller_op_spec b op kv max w hs k hk h1 h2
    exact ⟨k, hk, h1, h.2.1.mp hok, h.2.2.1⟩

/-- success is reported ONLY if some allowed attempt was acknowledged by the controller of its time (and all
    earlier ones were turned away with NOT_CONTROLLER) — for every script, repaired variants -/
theorem controller_op_success_only_if_acked (b : Budget) (hb : b ≠ .asIs) (op : COp) (kv : List Nat) (max : Int)
    (w : World) (hs : supported op kv = true)
    (hok : (runCtrl (Variant.fixed b) op kv max w).2 = none) :
    ∃ k, k < attempts b max ∧ (∀ j, j < k → isNC op (w.reply j) = true) ∧ acked op (w.reply k) = true ∧
      (runCtrl (Variant.fixed b) op kv max w).1.log = (List.range (k + 1)).map w.ctrl := by
  refine controller_op_success_acked b op kv max w ?_ hs hok
  cases b with
  | asIs => exact absurd rfl hb
  | atLeastOne => exact attempts_pos_atLeastOne max
  | plusOne => exact attempts_pos_plusOne max

private theorem runCtrl_single_attempt (v : Variant) (op : COp) (kv : List Nat) (max : Int) (w : World)
    (hpos : 0 < attempts v.budget max)
    (h : ∀ e, (attempt v op kv w (stateAt w 0)).2 = some e → isErrNoController e = false) :
    runCtrl v op kv max w = attempt v op kv w (stateAt w 0) :=
  retryLoop_stops isErrNoController (attempt v op kv w) 0 _ (stateAt w) none hpos nofun (.inr h)

/-- a Kafka version below what the request needs: nothing is sent and the caller is told so -/
theorem controller_op_unsupported (v : Variant) (op : COp) (kv : List Nat) (max : Int) (w : World)
    (hs : supported op kv = false) (hpos : 0 < attempts v.budget max) :
    runCtrl v op kv max w = (⟨w.ctrl 0, [], 0⟩, some (unsupportedErr op)) := by
  have ha : ∀ s, attempt v op kv w s = (s, some (unsupportedErr op)) := fun s => by
    rw [attempt, hs]; rfl
  rw [runCtrl_single_attempt v op kv max w hpos, ha]
  · rfl
  intro e he
  rw [ha] at he
  cases Option.some.inj he
  cases op <;> rfl

/-- Pinned tree: the statement of `controller_op_spec` holds for CreateTopic, DeleteTopic and CreatePartitions when
    the pinned loop allows attempt `k` (`hk : k < Max`).  That implies `1 ≤ Admin.Retry.Max`, the extra hypothesis
    of the pinned tree, which `_hmax` states and the proof does not use. -/
theorem controller_op_spec_partial (op : COp) (hop : ∀ n, op ≠ .reassign n) (kv : List Nat) (max : Int)
    (_hmax : 1 ≤ max) (w : World) (hs : supported op kv = true) (k : Nat) (hk : k < max.toNat)
    (hnc : ∀ j, j < k → isNC op (w.reply j) = true) (hfin : isNC op (w.reply k) = false) :
    (runCtrl Variant.pinned op kv max w).2 = (inspect (Variant.fixed .asIs) op (w.reply k)).1 ∧
    ((runCtrl Variant.pinned op kv max w).2 = none ↔ acked op (w.reply k) = true) ∧
    (runCtrl Variant.pinned op kv max w).1.log = (List.range (k + 1)).map w.ctrl ∧
    (runCtrl Variant.pinned op kv max w).1.refreshes = k := by
  have h := controller_op_core Variant.pinned op kv max w hs (faithful_single _ op hop) k hk hnc hfin
  rw [inspect_single _ hop, ← inspect_single (Variant.fixed .asIs) hop] at h
  refine ⟨h.1, ?_, h.2.1, h.2.2⟩
  rw [h.1]; exact inspect_ok_iff .asIs op (w.reply k)

/-- pinned `AlterPartitionReassignments` (F10b): whatever the first answer is, it ends the operation —
    one request, no controller refresh, and the result is never a retryable error -/
theorem reassign_pinned_single_attempt (n : Nat) (kv : List Nat) (max : Int) (hmax : 1 ≤ max) (w : World)
    (hs : supported (.reassign n) kv = true) :
    (runCtrl Variant.pinned (.reassign n) kv max w).2 = (inspect Variant.pinned (.reassign n) (w.reply 0)).1 ∧
    (runCtrl Variant.pinned (.reassign n) kv max w).1.log = [w.ctrl 0] ∧
    (runCtrl Variant.pinned (.reassign n) kv max w).1.refreshes = 0 := by
  -- the pinned closure never refreshes and wraps every error
  have hp : ∀ r, (inspectReassign Variant.pinned n r).2 = false ∧
      ∀ e, (inspectReassign Variant.pinned n r).1 = some e → isErrNoController e = false := by
    intro r
    cases r with
    | transport => exact ⟨rfl, fun e h => Option.some.inj h ▸ rfl⟩
    | resp top items =>
      rw [inspectReassign, if_neg (fun h => Bool.false_ne_true h.1)]
      split
      · exact ⟨rfl, nofun⟩
      · exact ⟨rfl, fun e h => Option.some.inj h ▸ rfl⟩
  have ha := attempt_stateAt Variant.pinned (.reassign n) kv w hs 0
  rw [show inspect Variant.pinned (.reassign n) (w.reply 0) = inspectReassign Variant.pinned n (w.reply 0) from rfl,
    (hp _).1] at ha
  rw [runCtrl_single_attempt _ _ kv max w (by show 0 < max.toNat; omega) (fun e he => (hp _).2 e (by rwa [ha] at he)), ha]
  exact ⟨rfl, rfl, rfl⟩

/-- a script from finite lists: controller at attempt `i`, answer to attempt `i` (past the end: broker 0, a failed
    call) -/
def wOf (ctrls : List Nat) (replies : List Reply) : World :=
  ⟨fun i => ctrls.getD i 0, fun i => replies.getD i .transport⟩

/-- F10a: `Admin.Retry.Max = 0`: success is reported, nothing was sent, although the controller would have
    refused (code 36) -/
example : runCtrl Variant.pinned .createTopic V1_0_0_0 0 (wOf [1, 1] [.resp 0 [(0, 36)]]) =
    (⟨1, [], 0⟩, none) := rfl
/-- … the repaired budgets send one request and return the refusal -/
example : runCtrl (Variant.fixed .atLeastOne) .createTopic V1_0_0_0 0 (wOf [1, 1] [.resp 0 [(0, 36)]]) =
    (⟨1, [1], 0⟩, some (.kerr 36)) := rfl

/-- F10b: NOT_CONTROLLER from broker 1, the new controller 2 would accept: the pinned tree gives up after one
    request with a wrapped error and never refreshes … -/
example : runCtrl Variant.pinned (.reassign 1) V2_4_0_0 5
      (wOf [1, 2, 2] [.resp 41 [], .resp 0 [(0, 0)]]) =
    (⟨1, [1], 0⟩, some (.wrapped [.code 41])) := rfl
/-- … the repaired variant follows the controller and succeeds -/
example : runCtrl (Variant.fixed .asIs) (.reassign 1) V2_4_0_0 5
      (wOf [1, 2, 2] [.resp 41 [], .resp 0 [(0, 0)]]) =
    (⟨2, [1, 2], 1⟩, none) := rfl

/-- pinned reassignments: a negative top-level code (−1, UNKNOWN_SERVER_ERROR) passes as success … -/
example : (runCtrl Variant.pinned (.reassign 1) V2_4_0_0 5 (wOf [1, 1] [.resp (-1) [(0, 0)]])).2 = none := rfl
example : (runCtrl (Variant.fixed .asIs) (.reassign 1) V2_4_0_0 5 (wOf [1, 1] [.resp (-1) [(0, 0)]])).2 =
    some (.wrapped [.code (-1)]) := rfl
/-- … and so does a response that lacks a requested partition -/
example : (runCtrl Variant.pinned (.reassign 2) V2_4_0_0 5 (wOf [1, 1] [.resp 0 [(0, 0)]])).2 = none := rfl
example : (runCtrl (Variant.fixed .asIs) (.reassign 2) V2_4_0_0 5 (wOf [1, 1] [.resp 0 [(0, 0)]])).2 =
    some (.wrapped [.incomplete]) := rfl

/-- `controller_op_spec` with k = 2 (its hypotheses are the next example): the controller moves 1 → 3 → 2 during a
    CreateTopic, the third attempt is refused with code 36: three requests to 1, 3, 2, two refreshes, error 36
    unchanged -/
example : runCtrl (Variant.fixed .asIs) .createTopic V1_0_0_0 5
      (wOf [1, 3, 2, 2] [.resp 0 [(0, 41)], .resp 0 [(0, 41)], .resp 0 [(0, 36)], .resp 0 [(0, 0)]]) =
    (⟨2, [1, 3, 2], 2⟩, some (.kerr 36)) := rfl
example : isNC .createTopic (.resp 0 [(0, 41)]) = true ∧ isNC .createTopic (.resp 0 [(0, 36)]) = false ∧
    supported .createTopic V1_0_0_0 = true ∧ (2 : Nat) < attempts .asIs 5 := by decide
/-- budget exhausted after `Max = 2` attempts -/
example : runCtrl (Variant.fixed .asIs) .deleteTopic V0_11_0_0 2
      (wOf [1, 2, 3, 1] [.resp 0 [(0, 41)], .resp 0 [(0, 41)], .resp 0 [(0, 0)]]) =
    (⟨3, [1, 2], 2⟩, some (.kerr 41)) := rfl

private theorem groupBy_cons (b : Nat) (bs : List Nat) (owner : Nat → Nat) (items : List Nat) :
    groupBy (b :: bs) owner items =
      (if (owned owner items b).isEmpty then [] else [(b, owned owner items b)]) ++ groupBy bs owner items := by
  simp only [groupBy, List.filter_cons]
  by_cases h : (owned owner items b).isEmpty = true
  · simp [h]
  · simp [h]

private theorem groupBy_fst (brokers : List Nat) (owner : Nat → Nat) (items : List Nat) :
    (groupBy brokers owner items).map (·.1) = brokers.filter (fun b => !(owned owner items b).isEmpty) := by
  simp [groupBy, List.map_map, Function.comp_def]

theorem group_one_request_per_broker (brokers : List Nat) (hb : brokers.Nodup) (owner : Nat → Nat)
    (items : List Nat) : ((groupBy brokers owner items).map (·.1)).Nodup := by
  rw [groupBy_fst]; exact hb.filter _

/-- every request goes to a broker of the cluster, is not empty, and carries exactly the requested items that
    broker owns (so an item never reaches a broker that does not own it) -/
theorem group_entries (brokers : List Nat) (owner : Nat → Nat) (items : List Nat) (g : Nat × List Nat)
    (hg : g ∈ groupBy brokers owner items) :
    g.1 ∈ brokers ∧ g.2 ≠ [] ∧ g.2 = owned owner items g.1 ∧ ∀ p, p ∈ g.2 → owner p = g.1 ∧ p ∈ items := by
  simp only [groupBy, List.mem_map, List.mem_filter] at hg
  obtain ⟨b, ⟨hb, hne⟩, rfl⟩ := hg
  refine ⟨hb, ?_, rfl, ?_⟩
  · intro h; simp only [List.isEmpty_iff, Bool.not_eq_eq_eq_not, Bool.not_true, ← Bool.not_eq_true] at hne; exact hne h
  · intro p hp
    simp only [owned, List.mem_filter, beq_iff_eq] at hp
    exact ⟨hp.2, hp.1⟩

/-- leaving out the brokers that own nothing does not change the concatenation of the requests -/
private theorem groupBy_flat (brokers : List Nat) (owner : Nat → Nat) (items : List Nat) :
    (groupBy brokers owner items).flatMap (·.2) = brokers.flatMap (owned owner items) := by
  induction brokers with
  | nil => rfl
  | cons b bs ih =>
    rw [groupBy_cons, List.flatMap_append, ih, List.flatMap_cons]
    by_cases h : (owned owner items b).isEmpty = true
    · simp only [h, ↓reduceIte, List.flatMap_nil, List.nil_append]
      rw [List.isEmpty_iff.mp h]; rfl
    · simp [h]

private theorem count_flat (owner : Nat → Nat) (items : List Nat) (p : Nat) :
    ∀ bs : List Nat, bs.Nodup →
      (bs.flatMap (owned owner items)).count p = if owner p ∈ bs then items.count p else 0 := by
  intro bs
  induction bs with
  | nil => intro _; simp
  | cons b bs ih =>
    intro hnd
    rw [List.nodup_cons] at hnd
    rw [List.flatMap_cons, List.count_append, ih hnd.2]
    by_cases hb : owner p = b
    · have h1 : (owned owner items b).count p = items.count p := by
        unfold owned; exact List.count_filter (by simp [hb])
      subst hb
      simp [h1, hnd.1]
    · have h1 : (owned owner items b).count p = 0 := by
        apply List.count_eq_zero.mpr
        simp only [owned, List.mem_filter, beq_iff_eq, not_and]
        intro _; exact hb
      have h3 : (owner p ∈ b :: bs) ↔ owner p ∈ bs := by simp [hb]
      simp only [h1, Nat.zero_add, h3]

/-- every requested item is sent exactly as often as it was requested — once for a duplicate-free request —
    counted over ALL requests of the plan (so: to its owner, and to nobody else) -/
theorem group_each_item_once (brokers : List Nat) (hb : brokers.Nodup) (owner : Nat → Nat) (items : List Nat)
    (p : Nat) (hp : owner p ∈ brokers) :
    ((groupBy brokers owner items).flatMap (·.2)).count p = items.count p := by
  rw [groupBy_flat, count_flat owner items p brokers hb]; simp [hp]

private theorem firstLookupError_none (look : Nat → Except Int Nat) (items : List Nat)
    (h : ∀ p, p ∈ items → ∃ b, look p = .ok b) : firstLookupError look items = none := by
  induction items with
  | nil => rfl
  | cons p ps ih =>
    obtain ⟨b, hb⟩ := h p List.mem_cons_self
    rw [firstLookupError, hb]
    exact ih fun q hq => h q (List.mem_cons_of_mem _ hq)

/-- The plan of the leader / coordinator bound operations when every item has an owner in the cluster: no
    lookup fails; one request per broker; each goes to a broker of the cluster, is not empty and carries items
    that broker owns; every item is sent exactly as often as it was requested. -/
theorem plan_spec (brokers : List Nat) (hb : brokers.Nodup) (items : List Nat) (look : Nat → Except Int Nat)
    (hl : ∀ p, p ∈ items → ∃ b, look p = .ok b ∧ b ∈ brokers) :
    firstLookupError look items = none ∧
    ((groupBy brokers (ownerOf look) items).map (·.1)).Nodup ∧
    (∀ g, g ∈ groupBy brokers (ownerOf look) items →
      g.1 ∈ brokers ∧ g.2 ≠ [] ∧ ∀ p, p ∈ g.2 → look p = .ok g.1 ∧ p ∈ items) ∧
    (∀ p, p ∈ items → ((groupBy brokers (ownerOf look) items).flatMap (·.2)).count p = items.count p) := by
  have hown : ∀ p, p ∈ items → look p = .ok (ownerOf look p) ∧ ownerOf look p ∈ brokers := fun p hp => by
    obtain ⟨b, h, hbb⟩ := hl p hp
    rw [ownerOf, h]; exact ⟨rfl, hbb⟩
  refine ⟨firstLookupError_none look items fun p hp => (hl p hp).imp fun _ h => h.1,
    group_one_request_per_broker brokers hb _ items, fun g hg => ?_, fun p hp =>
    group_each_item_once brokers hb _ items p (hown p hp).2⟩
  obtain ⟨h1, h2, _, h4⟩ := group_entries brokers (ownerOf look) items g hg
  exact ⟨h1, h2, fun p hp => ⟨(h4 p hp).1 ▸ (hown p (h4 p hp).2).1, (h4 p hp).2⟩⟩

private theorem drCauses_nil (rp : DRReply) :
    drCauses true rp = [] ↔ ∃ codes, rp = .parts codes ∧ ∀ it, it ∈ codes → it.2 = 0 := by
  cases rp with
  | transport => exact ⟨nofun, nofun⟩
  | noTopic => exact ⟨nofun, nofun⟩
  | parts codes =>
    exact (itemCauses_nil codes).trans ⟨fun h => ⟨codes, rfl, h⟩, fun ⟨_, h1, h2⟩ => DRReply.parts.inj h1 ▸ h2⟩

/-- `DeleteRecords` (Kafka ≥ 0.11, every leadership map, every answer of every broker):
    if every partition has a leader in the cluster, then
    * the requests are one per broker, each carrying exactly the partitions that broker leads — every
      partition is sent exactly as often as requested, and only to its leader;
    * the operation succeeds exactly if every asked broker answered for the topic with no error code on any
      partition — a failed call, a response without the topic, or one partition error on one broker makes
      the whole operation report an error. -/
theorem grouping_spec_delete_records (kv : List Nat) (hkv : isAtLeast kv V0_11_0_0 = true)
    (brokers : List Nat) (hb : brokers.Nodup) (parts : List Nat)
    (leader : Nat → Except Int Nat) (reply : Nat → DRReply)
    (hl : ∀ p, p ∈ parts → ∃ b, leader p = .ok b ∧ b ∈ brokers) :
    let r := deleteRecords kv brokers parts leader reply
    (r.2.map (·.1)).Nodup ∧
    (∀ g, g ∈ r.2 → g.1 ∈ brokers ∧ g.2 ≠ [] ∧ ∀ p, p ∈ g.2 → leader p = .ok g.1 ∧ p ∈ parts) ∧
    (∀ p, p ∈ parts → (r.2.flatMap (·.2)).count p = parts.count p) ∧
    (r.1 = none ↔ ∀ g, g ∈ r.2 → ∃ codes, reply g.1 = .parts codes ∧ ∀ it, it ∈ codes → it.2 = 0) := by
  obtain ⟨h0, h1, h2, h3⟩ := plan_spec brokers hb parts leader hl
  have hflat : drErrs kv brokers parts leader reply = [] ↔
      ∀ g, g ∈ groupBy brokers (ownerOf leader) parts →
        ∃ codes, reply g.1 = .parts codes ∧ ∀ it, it ∈ codes → it.2 = 0 := by
    rw [drErrs, hkv, List.flatMap_eq_nil_iff]
    exact forall₂_congr fun g _ => drCauses_nil _
  simp only [deleteRecords, h0, hkv, ↓reduceIte, drPlan]
  refine ⟨h1, h2, h3, ?_⟩
  rw [← hflat]
  split
  · exact ⟨fun _ => ‹_›, fun _ => rfl⟩
  · exact ⟨nofun, fun h => absurd h ‹_›⟩

/-- a partition without a leader (lookup error): that error is returned and nothing is sent -/
theorem delete_records_lookup_error (kv : List Nat) (brokers parts : List Nat) (leader : Nat → Except Int Nat)
    (reply : Nat → DRReply) (c : Int) (h : firstLookupError leader parts = some c) :
    deleteRecords kv brokers parts leader reply = (some (.lookup c), []) := by
  simp [deleteRecords, h]

/-- `DescribeConsumerGroups`: if every group has a coordinator in the cluster, the plan
    is one request per coordinator with exactly its groups (every group exactly as often as requested, only to
    its coordinator); the result is an error as soon as one coordinator's call fails, otherwise it is all
    descriptions the coordinators returned, unchanged (per-group error codes included). -/
theorem grouping_spec_describe_groups (brokers : List Nat) (hb : brokers.Nodup) (groups : List Nat)
    (coord : Nat → Except Int Nat) (reply : Nat → Option (List (Nat × Int)))
    (hl : ∀ g, g ∈ groups → ∃ b, coord g = .ok b ∧ b ∈ brokers) :
    let r := describeGroups brokers groups coord reply
    (r.2.map (·.1)).Nodup ∧
    (∀ e, e ∈ r.2 → e.1 ∈ brokers ∧ e.2 ≠ [] ∧ ∀ g, g ∈ e.2 → coord g = .ok e.1 ∧ g ∈ groups) ∧
    (∀ g, g ∈ groups → (r.2.flatMap (·.2)).count g = groups.count g) ∧
    ((∃ e, e ∈ r.2 ∧ reply e.1 = none) → r.1 = .error .transport) ∧
    ((∀ e, e ∈ r.2 → (reply e.1).isSome = true) → r.1 = .ok (r.2.flatMap (fun e => (reply e.1).getD []))) := by
  obtain ⟨h0, h1, h2, h3⟩ := plan_spec brokers hb groups coord hl
  rw [describeGroups, h0]
  by_cases hall : ((groupBy brokers (ownerOf coord) groups).all fun g => (reply g.1).isSome) = true
  · rw [if_pos hall]
    refine ⟨h1, h2, h3, ?_, fun _ => rfl⟩
    rintro ⟨e, he, hn⟩
    have := List.all_eq_true.mp hall e he
    rw [hn] at this
    cases this
  · rw [if_neg hall]
    exact ⟨h1, h2, h3, fun _ => rfl, fun hx => absurd (List.all_eq_true.mpr hx) hall⟩

theorem describe_groups_lookup_error (brokers groups : List Nat) (coord : Nat → Except Int Nat)
    (reply : Nat → Option (List (Nat × Int))) (c : Int) (h : firstLookupError coord groups = some c) :
    describeGroups brokers groups coord reply = (.error (.lookup c), []) := by
  simp [describeGroups, h]

/-- `DeleteConsumerGroup` (Kafka ≥ 1.1): exactly one request, to the group's coordinator; success exactly if
    the coordinator answered code 0 for the group; any other code comes back unchanged -/
theorem delete_group_spec (kv : List Nat) (hkv : isAtLeast kv V1_1_0_0 = true) (b : Nat) (reply : DGReply) :
    (deleteGroup kv (.ok b) reply).2 = [b] ∧
    ((deleteGroup kv (.ok b) reply).1 = none ↔ reply = .code 0) ∧
    (∀ c, c ≠ 0 → reply = .code c → (deleteGroup kv (.ok b) reply).1 = some (.kerr c)) := by
  refine ⟨by simp [deleteGroup, hkv], ?_, ?_⟩
  · cases reply with
    | transport => simp [deleteGroup, hkv]
    | missing => simp [deleteGroup, hkv]
    | code c => by_cases hc : c = 0 <;> simp [deleteGroup, hkv, hc]
  · intro c hc hr; subst hr; simp [deleteGroup, hkv, hc]

/-- `ListConsumerGroupOffsets`: one request, to the coordinator; the per-partition verdicts reach the caller
    unchanged, the top-level one from request version 2 on (Kafka ≥ 0.10.2), a failed call is an error -/
theorem list_group_offsets_spec (kv : List Nat) (b : Nat) (reply : Option (Int × List (Nat × Int))) :
    (listGroupOffsets kv (.ok b) reply).2.2 = [b] ∧
    (reply = none → (listGroupOffsets kv (.ok b) reply).1 = .error .transport) ∧
    (∀ top blocks, reply = some (top, blocks) → isAtLeast kv V0_10_2_0 = true →
        (listGroupOffsets kv (.ok b) reply).1 = .ok (top, blocks)) := by
  refine ⟨?_, ?_, ?_⟩
  · cases reply with
    | none => rfl
    | some r => rfl
  · intro h; subst h; rfl
  · intro top blocks h hkv; subst h
    simp [listGroupOffsets, offsetFetchVersion, offsetFetchVersionOf, hkv]

/-- `DescribeLogDirs` over known broker ids: one request per id, an error is reported iff some call failed -/
theorem describe_log_dirs_spec (ids : List Nat) (ok : Nat → Bool) :
    (describeLogDirs ids ok).2.2 = ids ∧
    ((describeLogDirs ids ok).1 = true ↔ ∃ b, b ∈ ids ∧ ok b = false) ∧
    (∀ b, b ∈ (describeLogDirs ids ok).2.1 ↔ b ∈ ids ∧ ok b = true) := by
  refine ⟨rfl, ?_, ?_⟩
  · simp [describeLogDirs]
  · intro b; simp [describeLogDirs]

/-- six partitions over three brokers, broker 2 reports code 7 for partition 4: one request per broker with
    the right partitions, aggregated error -/
example : deleteRecords V1_0_0_0 [1, 2, 3] [0, 1, 2, 3, 4, 5]
      (fun p => .ok (p % 3 + 1))
      (fun b => .parts (if b = 2 then [(1, 0), (4, 7)] else [])) =
    (some (.wrapped [.code 7]), [(1, [0, 3]), (2, [1, 4]), (3, [2, 5])]) := rfl
example : (deleteRecords V1_0_0_0 [1, 2, 3] [0, 1, 2] (fun p => .ok (p % 3 + 1)) (fun _ => .parts [])).1 = none := rfl
example : deleteRecords V1_0_0_0 [1, 2, 3] [0, 1] (fun p => .ok (p + 1))
      (fun b => if b = 2 then .transport else .parts [(0, 0)]) =
    (some (.wrapped [.transport]), [(1, [0]), (2, [1])]) := rfl
example : deleteRecords V1_0_0_0 [1, 2, 3] [0, 1] (fun p => if p = 1 then .error 5 else .ok 1)
      (fun _ => .parts []) = (some (.lookup 5), []) := rfl
/-- groups 1..3 with coordinators 2, 2, 3 -/
example : ((describeGroups [1, 2, 3] [1, 2, 3] (fun g => .ok (if g = 3 then 3 else 2))
      (fun b => some (if b = 2 then [(1, 0), (2, 16)] else [(3, 0)]))).1.toOption,
    (describeGroups [1, 2, 3] [1, 2, 3] (fun g => .ok (if g = 3 then 3 else 2))
      (fun b => some (if b = 2 then [(1, 0), (2, 16)] else [(3, 0)]))).2) =
    (some [(1, 0), (2, 16), (3, 0)], [(2, [1, 2]), (3, [3])]) := rfl

end Props.C19
