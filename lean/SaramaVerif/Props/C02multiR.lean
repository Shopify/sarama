/-
  System level: a worker takes a token from its input channel (`bpRecv`) in the model with several partitions, seen
  from `p`.  A token of `p`: the `bpRecv` step of `Model.Pipeline` on the relabelled token (`bpRecv_own_lift`); a token
  of another partition: no step of the projection (`bpRecv_foreign_lift`); both for EVERY relation between the inner
  states that the worker steps keep, from `bpRunN_lift_step` / `bpRunN_lift_none` and what a `recv` step reports
  (`recv_outPart`: outcomes of the token's partition only).  The instance that the step theorem
  (Props/C02multiK.lean) uses is `BRp`, under which a set - visible or hidden - may be at the bridge
  (`proj_bpRecv_own_p`, `proj_bpRecv_foreign_p`; the suffix `_p` marks a statement for `BRp p`, here and in
  Props/C02multiH.lean and Props/C02multiL.lean).  Two instances for workers without a set at the bridge stand beside
  it.  `BRx`: the inner state of the one-partition worker IS the projection `projB p` of the shared worker's, and no
  answer is pending on either side (`proj_bpRecv_own`); `BRs`: the same up to the `stale` flag - a token of another
  partition that is added clears it, one that is bounced out of waitForSpace sets it (`proj_bpRecv_foreign`,
  `proj_bpRecv_own_s`, the suffix for `BRs`).
-/
import SaramaVerif.Props.C02multiM
import SaramaVerif.Props.C02multiB

namespace Props.C02sys
open Model Model.Pipeline Model.PipelineN Model.BrokerProd Lemmas.C02sys

theorem bpRecvN_run {M : Nat} {sN sN' : SysN} {w : Nat} {ov : Bool} {t : Pipeline.Tok} {r : List Pipeline.Tok}
    (hq : (sN.wk w).inq = t :: r) (hs : sysStepN M sN (.bpRecv w ov) = some sN') :
    (sN.wk w).bp.wait = none ∧ bpRunN M sN w r (sN.wk w).pend (fun _ => 0) (.recv t ov) = some sN' := by
  simp only [sysStepN, hq] at hs
  exact ⟨recv_disabled M _ t ov (bpRunN_enabled hs), hs⟩

theorem bpRecv_own_lift {BR : WorkerN → Worker → Prop} {M : Nat} {p : Int} {sN sN' : SysN} {s : Sys} {w : Nat}
    {ov : Bool} {t : Pipeline.Tok} {r : List Pipeline.Tok} (h : WRel BR p sN s)
    (hq : (sN.wk w).inq = t :: r) (ht : t.part = p) (hs : sysStepN M sN (.bpRecv w ov) = some sN')
    (hacts : (step M (s.wk w).bp (.recv (relab t) ov)).2 = (step M (sN.wk w).bp (.recv t ov)).2.map relabA)
    (hbr : BR ⟨r, (step M (sN.wk w).bp (.recv t ov)).1, (sN.wk w).pend⟩
      ⟨projQ p r, (step M (s.wk w).bp (.recv (relab t) ov)).1, (s.wk w).pend⟩) :
    ∃ s', sysStep M s (.bpRecv w ov) = some s' ∧ WRel BR p sN' s' := by
  obtain ⟨_, hs⟩ := bpRecvN_run hq hs
  refine ⟨_, step_bpRecv.2 ⟨_, _, by rw [h.inq w, hq, projQ_cons_same ht],
    fun e => bpRunN_enabled hs (relabA_disabled (hacts ▸ e)), rfl⟩, bpRunN_lift_step h hs rfl _ ?_ hbr⟩
  rw [hacts]
  exact (ownActs_of_outPart (ht ▸ recv_outPart M _ t ov)).filter_map

theorem bpRecv_foreign_lift {BR : WorkerN → Worker → Prop} {M : Nat} {p : Int} {sN sN' : SysN} {s : Sys} {w : Nat}
    {ov : Bool} {t : Pipeline.Tok} {r : List Pipeline.Tok} (h : WRel BR p sN s)
    (hq : (sN.wk w).inq = t :: r) (ht : t.part ≠ p) (hs : sysStepN M sN (.bpRecv w ov) = some sN')
    (hbr : BR ⟨r, (step M (sN.wk w).bp (.recv t ov)).1, (sN.wk w).pend⟩ (s.wk w)) : WRel BR p sN' s :=
  bpRunN_lift_none h (bpRecvN_run hq hs).2 (by rw [h.inq w, hq, projQ_cons_other ht])
    (foreignActs_of_outPart fun a ha q e => recv_outPart M _ t ov a ha q e ▸ ht).filter_own hbr

def BRx (p : Int) (k : WorkerN) (j : Worker) : Prop := j.bp = projB p k.bp ∧ k.pend = none ∧ j.pend = none

def BRs (p : Int) (k : WorkerN) (j : Worker) : Prop :=
  j.bp = { projB p k.bp with stale := j.bp.stale } ∧ k.pend = none ∧ j.pend = none

theorem innerOnly_BRx (p : Int) : InnerOnly (BRx p) := by
  intro k k' j j' h1 h2 h3 h4 ⟨a, b, c⟩
  exact ⟨by rw [h3, h1]; exact a, by rw [h2]; exact b, by rw [h4]; exact c⟩

theorem innerOnly_BRs (p : Int) : InnerOnly (BRs p) := by
  intro k k' j j' h1 h2 h3 h4 ⟨a, b, c⟩
  exact ⟨by rw [h3, h1]; exact a, by rw [h2]; exact b, by rw [h4]; exact c⟩

theorem BRx.toBRs {p : Int} {k : WorkerN} {j : Worker} (h : BRx p k j) : BRs p k j :=
  ⟨by rw [h.1], h.2.1, h.2.2⟩

theorem proj_bpRecv_own {M : Nat} {p : Int} {sN sN' : SysN} {s : Sys} {w : Nat} {ov : Bool} {t : Pipeline.Tok}
    {r : List Pipeline.Tok} (h : WRel (BRx p) p sN s) (hq : (sN.wk w).inq = t :: r) (ht : t.part = p)
    (hs : sysStepN M sN (.bpRecv w ov) = some sN') :
    ∃ s', sysStep M s (.bpRecv w ov) = some s' ∧ WRel (BRx p) p sN' s' := by
  obtain ⟨hb, hpN, hpS⟩ := h.br w
  have hw := (bpRecvN_run hq hs).1
  refine bpRecv_own_lift h hq ht hs ?_ ⟨?_, hpN, hpS⟩
  · rw [hb]; exact recv_proj_own_acts M p _ t ov ht hw
  · simp only; rw [hb]; exact recv_proj_own M p _ t ov ht hw

theorem proj_bpRecv_foreign {M : Nat} {p : Int} {sN sN' : SysN} {s : Sys} {w : Nat} {ov : Bool} {t : Pipeline.Tok}
    {r : List Pipeline.Tok} (h : WRel (BRs p) p sN s) (hq : (sN.wk w).inq = t :: r) (ht : t.part ≠ p)
    (hs : sysStepN M sN (.bpRecv w ov) = some sN') : WRel (BRs p) p sN' s := by
  obtain ⟨hb, hpN, hpS⟩ := h.br w
  refine bpRecv_foreign_lift h hq ht hs ⟨?_, hpN, hpS⟩
  rw [recv_proj_foreign M p _ t ov ht (bpRecvN_run hq hs).1]
  exact hb

theorem proj_bpRecv_own_s {M : Nat} {p : Int} {sN sN' : SysN} {s : Sys} {w : Nat} {ov : Bool} {t : Pipeline.Tok}
    {r : List Pipeline.Tok} (h : WRel (BRs p) p sN s) (hq : (sN.wk w).inq = t :: r) (ht : t.part = p)
    (hs : sysStepN M sN (.bpRecv w ov) = some sN') :
    ∃ s', sysStep M s (.bpRecv w ov) = some s' ∧ WRel (BRs p) p sN' s' := by
  obtain ⟨hb, hpN, hpS⟩ := h.br w
  have hw := (bpRecvN_run hq hs).1
  obtain ⟨g1, g2⟩ := recv_stale M (projB p (sN.wk w).bp) (s.wk w).bp.stale (relab t) ov
  rw [← hb] at g1 g2
  refine bpRecv_own_lift h hq ht hs (g1.trans (recv_proj_own_acts M p _ t ov ht hw)) ⟨?_, hpN, hpS⟩
  exact g2.trans (by rw [recv_proj_own M p _ t ov ht hw])

theorem proj_bpRecv_foreign_p {M : Nat} {p : Int} {sN sN' : SysN} {s : Sys} {w : Nat} {ov : Bool} {t : Pipeline.Tok}
    {r : List Pipeline.Tok} (h : WRel (BRp p) p sN s) (hq : (sN.wk w).inq = t :: r) (ht : t.part ≠ p)
    (hs : sysStepN M sN (.bpRecv w ov) = some sN') : WRel (BRp p) p sN' s :=
  bpRecv_foreign_lift h hq ht hs ((h.br w).of_seenAs
    (recv_seenAs_foreign M (h.br w).seenAs ov ht) (recv_sets ..) rfl rfl rfl)

theorem proj_bpRecv_own_p {M : Nat} {p : Int} {sN sN' : SysN} {s : Sys} {w : Nat} {ov : Bool} {t : Pipeline.Tok}
    {r : List Pipeline.Tok} (h : WRel (BRp p) p sN s) (hq : (sN.wk w).inq = t :: r) (ht : t.part = p)
    (hs : sysStepN M sN (.bpRecv w ov) = some sN') :
    ∃ s', sysStep M s (.bpRecv w ov) = some s' ∧ WRel (BRp p) p sN' s' := by
  obtain ⟨ha, hc⟩ := recv_seenAs_own M (h.br w).seenAs ov ht (bpRecvN_run hq hs).1
  exact bpRecv_own_lift h hq ht hs ha ((h.br w).of_seenAs hc (recv_sets ..) rfl (recv_sets ..) rfl)

example : WRel (BRx 0) 0 {} {} := ⟨qrel_init 0, rfl, fun _ => rfl, fun _ => ⟨(projB_init 0).symm, rfl, rfl⟩⟩
example : WRel (BRs 0) 0 {} {} := ⟨qrel_init 0, rfl, fun _ => rfl, fun _ => ⟨by rw [projB_init], rfl, rfl⟩⟩
example : WRel (BRp 0) 0 {} {} := wrel_init 0

example : ((runN 2 {} (exTwo.take 9)).map (fun s => ((s.wk 0).inq.head?.map (·.part)))) = some (some 0) := by decide +kernel
example : ((runN 2 {} (exTwo.take 9)).bind (fun s => sysStepN 2 s (.bpRecv 0 false))).isSome = true := by decide +kernel

example : ((runN 2 {} (exTwo.take 11)).map (fun s => ((s.wk 0).inq.head?.map (·.part)))) = some (some 1) := by decide +kernel
example : ((runN 2 {} (exTwo.take 11)).bind (fun s => sysStepN 2 s (.bpRecv 0 false))).isSome = true := by decide +kernel

end Props.C02sys
