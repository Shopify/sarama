import SaramaVerif.Model.LifecyclePC
import SaramaVerif.Props.C12lifeRun
/-
  C12 for the partition consumer (acceptor `PC` of Model/LifecyclePC.lean).  Besides the families of theorems that the
  other components have: `PInv`, the ownership discipline of the hand-shake, and `holder_finds_channels_open`, which
  follows from `PInv` alone.
-/
namespace Props.C12life
open Model.Lifecycle Lemmas.Acceptor

namespace PC
open Model.Lifecycle.PC

local macro "acc" h:ident : tactic =>
  `(tactic| (simp only [step] at $h:ident <;> (repeat' split at $h:ident) <;>
      first | (cases $h:ident; done) | (injection $h:ident with $h:ident; subst $h:ident; simp_all)))

/-- The ownership discipline of the hand-shake (who holds the child decides who may touch its channels).  `nobody_` to
    `trig_`: what each holder (`owner`, the dispatcher's `busy` and `token`, the feeder's `slow`) means for trigger and
    for the broker reference.  `exiting_` to `eclosed_`: the tear-down runs along the chain trigger closed → exiting →
    removed → feeder closed → feeder exited → messages closed → errors closed.  `dying_`, `started_`: nothing moves
    before `start`. -/
structure PInv (s : St) : Prop where
  nobody_   : s.owner = .nobody → s.ref = none ∧ s.trigClosed = false
  bc_       : ∀ b, s.owner = .bc b → s.trigClosed = false ∧ s.ref.isSome = true
  feeder_   : s.owner = .feeder → s.trigClosed = false ∧ s.slow = true ∧ s.ref.isSome = true
  busy_     : s.busy = true → s.owner = .disp ∧ s.token = false
  token_    : s.token = true → s.owner = .disp ∧ s.trigClosed = false
  disp_     : s.owner = .disp → s.trigClosed = false → s.busy = true ∨ s.token = true
  slow_     : s.slow = true → s.owner = .feeder
  trig_     : s.trigClosed = true → s.owner = .disp
  exiting_  : s.exiting = true → s.trigClosed = true ∧ s.ref = none
  removed_  : s.removed = true → s.exiting = true ∧ s.ref = none
  fclosed_  : s.feederClosed = true → s.removed = true
  fexited_  : s.feederExited = true → s.feederClosed = true ∧ s.inflight = false ∧ s.feeding = false
  mclosed_  : s.msgsClosed = true → s.feederExited = true
  eclosed_  : s.errsClosed = true → s.msgsClosed = true
  dying_    : s.dying = true → s.started = true
  started_  : s.started = false → s.owner = .nobody

theorem init_inv : PInv {} := by constructor <;> simp

/-- the one event that is not a chain of guards: the slow-reader acknowledgement (`why = 2`) is accepted from a child
    subscribed to a broker worker only, and hands it to the feeder -/
theorem step_ack {s : St} {w : Nat} {s' : St} (h : step s (.ack w) = .ok s') :
    s.feeding = true ∧ (s' = { s with feeding := false } ∨
      ∃ b, s.owner = .bc b ∧ s' = { s with feeding := false, slow := true, owner := .feeder }) := by
  revert h
  unfold step
  refine ok_of_guard fun hf => ok_of_ite (fun _ h => ?_) (fun _ h => ?_)
  · split at h <;> cases h
    exact ⟨Decidable.not_not.mp hf, .inr ⟨_, ‹_›, rfl⟩⟩
  · cases h; exact ⟨Decidable.not_not.mp hf, .inl rfl⟩

theorem step_inv (s : St) (e : Ev) (s' : St) (hi : PInv s) (h : step s e = .ok s') : PInv s' := by
  revert h
  cases e with
  -- an event that sets one flag of the life cycle, or moves a response through the feeder, touches one or two clauses
  | start => unfold step; accepted; exact { hi with dying_ := fun _ => rfl, started_ := nofun }
  | dyingClose => unfold step; accepted; exact { hi with dying_ := fun _ => by simp_all }
  | feederClose =>
    unfold step; accepted
    exact { hi with fclosed_ := fun _ => by simp_all, fexited_ := fun h => ⟨rfl, (hi.fexited_ h).2⟩ }
  | feederSend b => unfold step; accepted; exact { hi with fexited_ := fun h => by have := hi.fexited_ h; simp_all }
  | feederRecv => unfold step; accepted; exact { hi with fexited_ := fun h => by have := hi.fexited_ h; simp_all }
  | feederExit => unfold step; accepted; exact { hi with fexited_ := fun _ => by simp_all, mclosed_ := fun _ => rfl }
  | msgsClose => unfold step; accepted; exact { hi with mclosed_ := fun _ => by simp_all, eclosed_ := fun _ => rfl }
  | errsClose => unfold step; accepted; exact { hi with eclosed_ := fun _ => by simp_all }
  | msgSend | errSend => unfold step <;> accepted <;> exact hi
  -- the others hand the child, its token or its broker reference from one holder to the next: the guards name the old
  -- holder, whose clause gives the state of trigger and `ref`; the update names the new one; the clauses of every
  -- other holder are vacuous before and after. `grind` goes through the clauses.
  | inputSend w b => cases w <;> unfold step <;> accepted <;> grind -lia -linarith -ring [PInv]
  | ack w => intro h; obtain ⟨_, rfl | ⟨b, _, rfl⟩⟩ := step_ack h <;> grind -lia -linarith -ring [PInv]
  | remove => unfold step; accepted; grind -lia -linarith -ring [PInv, Option.isSome_iff_ne_none]
  | _ => unfold step <;> accepted <;> grind -lia -linarith -ring [PInv]

theorem reach_inv {evs : List Ev} {s : St} (h : run {} evs = .ok s) : PInv s :=
  runs.inv PInv step_inv h init_inv

theorem PInv.trig_of_fclosed {s : St} (hi : PInv s) (h : s.feederClosed = true) : s.trigClosed = true :=
  (hi.exiting_ (hi.removed_ (hi.fclosed_ h)).1).1
theorem PInv.fclosed_of_mclosed {s : St} (hi : PInv s) (h : s.msgsClosed = true) : s.feederClosed = true :=
  (hi.fexited_ (hi.mclosed_ h)).1

def isTrigClose : Ev → Prop | .trigCloseDisp => True | .trigCloseBc _ _ => True | _ => False
def isTrigSend : Ev → Prop | .trigSendDisp => True | .trigSendBc _ => True | _ => False
instance : DecidablePred isTrigClose := fun e => by cases e <;> simp [isTrigClose] <;> infer_instance
attribute [local simp] isTrigClose isTrigSend

structure Flags (s : St) (e : Ev) (s' : St) : Prop where
  dying : s'.dying = true ↔ s.dying = true ∨ e = .dyingClose
  trig : s'.trigClosed = true ↔ s.trigClosed = true ∨ isTrigClose e
  removed : s'.removed = true ↔ s.removed = true ∨ e = .remove
  fclosed : s'.feederClosed = true ↔ s.feederClosed = true ∨ e = .feederClose
  fexited : s'.feederExited = true ↔ s.feederExited = true ∨ e = .feederExit
  mclosed : s'.msgsClosed = true ↔ s.msgsClosed = true ∨ e = .msgsClose
  eclosed : s'.errsClosed = true ↔ s.errsClosed = true ∨ e = .errsClose

theorem flags {s : St} {e : Ev} {s' : St} (h : step s e = .ok s') : Flags s e s' := by
  revert h
  cases e with
  | inputSend w b => cases w <;> unfold step <;> accepted <;> constructor <;> simp
  | ack w => intro h; obtain ⟨_, rfl | ⟨b, _, rfl⟩⟩ := step_ack h <;> constructor <;> simp
  | _ => unfold step <;> accepted <;> constructor <;> simp

theorem dying_latch : Latch step (·.dying) (· = .dyingClose) := fun _ _ _ h => (flags h).dying
theorem trig_latch : Latch step (·.trigClosed) isTrigClose := fun _ _ _ h => (flags h).trig
theorem removed_latch : Latch step (·.removed) (· = .remove) := fun _ _ _ h => (flags h).removed
theorem fclosed_latch : Latch step (·.feederClosed) (· = .feederClose) := fun _ _ _ h => (flags h).fclosed
theorem fexited_latch : Latch step (·.feederExited) (· = .feederExit) := fun _ _ _ h => (flags h).fexited
theorem mclosed_latch : Latch step (·.msgsClosed) (· = .msgsClose) := fun _ _ _ h => (flags h).mclosed
theorem eclosed_latch : Latch step (·.errsClosed) (· = .errsClose) := fun _ _ _ h => (flags h).eclosed

/-- every channel of a partition consumer is closed at most once: dying (closeOnce), trigger (by whoever holds the
    child: its dispatcher or the broker worker), feeder, messages, errors -/
theorem never_double_close_pc {evs : List Ev} {s : St} (h : run {} evs = .ok s) :
    evs.count .dyingClose ≤ 1 ∧ evs.countP (fun e => decide (isTrigClose e)) ≤ 1 ∧ evs.count .feederClose ≤ 1 ∧
    evs.count .msgsClose ≤ 1 ∧ evs.count .errsClose ≤ 1 :=
  ⟨dying_latch.count_le_one (by intro s s'; unfold step; accepted; simp_all) h,
    trig_latch.countP_le_one (by intro s e s' he; cases e <;> first | exact he.elim | (unfold step; accepted; simp_all)) h,
    fclosed_latch.count_le_one (by intro s s'; unfold step; accepted; simp_all) h, mclosed_latch.count_le_one (by intro s s'; unfold step; accepted; simp_all) h,
    eclosed_latch.count_le_one (by intro s s'; unfold step; accepted; simp_all) h⟩

/-- no send on a closed channel: nothing on trigger after it was closed (by either side), no response into feeder
    after the dispatcher closed it, no message after Messages() was closed, no error after Errors() was closed -/
theorem no_send_after_close_pc {pre post : List Ev} {c : Ev} {s : St} (h : run {} (pre ++ c :: post) = .ok s) :
    (isTrigClose c → ∀ e ∈ post, ¬ isTrigSend e) ∧
    (c = .feederClose → ∀ e ∈ post, ∀ b, e ≠ .feederSend b) ∧
    (c = .msgsClose → ∀ e ∈ post, e ≠ .msgSend) ∧
    (c = .errsClose → ∀ e ∈ post, e ≠ .errSend) := by
  refine ⟨?_, ?_, ?_, ?_⟩
  · exact trig_latch.none_after (by intro s e s' he; cases e <;> first | exact he.elim | (unfold step; accepted; simp_all)) h
  · intro hc e he b hb
    exact fclosed_latch.none_after (pb := fun e => ∃ b, e = .feederSend b)
      (by rintro s _ s' ⟨b, rfl⟩; unfold step; accepted; simp_all) h hc e he ⟨b, hb⟩
  · exact mclosed_latch.none_after (by rintro s _ s' rfl; unfold step; accepted; simp_all) h
  · exact eclosed_latch.none_after (by rintro s _ s' rfl; unfold step; accepted; simp_all) h

/-- the ownership discipline keeps the holder of the child off closed channels: it finds the channels it may touch
    open.  (A broker worker that holds it: trigger, feeder, errors open and trigger empty; the dispatcher handling a
    token before it closed trigger: trigger empty, errors open; the feeder on the slow-reader path: messages and
    trigger open.) -/
theorem holder_finds_channels_open {evs : List Ev} {s : St} (h : run {} evs = .ok s) :
    (∀ b, s.owner = .bc b → s.trigClosed = false ∧ s.token = false ∧ s.feederClosed = false ∧ s.errsClosed = false) ∧
    (s.busy = true → s.trigClosed = false → s.token = false ∧ s.errsClosed = false) ∧
    (s.slow = true → s.msgsClosed = false ∧ s.trigClosed = false) := by
  have hi := reach_inv h
  refine ⟨fun b hb => ?_, fun hb ht => ⟨(hi.busy_ hb).2, ?_⟩, fun hs => ?_⟩
  · have h1 := (hi.bc_ b hb).1
    have h3 : s.feederClosed = false := Bool.eq_false_iff.mpr fun hf => by simp [hi.trig_of_fclosed hf] at h1
    exact ⟨h1, Bool.eq_false_iff.mpr fun ht => by simp [(hi.token_ ht).1] at hb, h3,
      Bool.eq_false_iff.mpr fun he => by simp [hi.fclosed_of_mclosed (hi.eclosed_ he)] at h3⟩
  · exact Bool.eq_false_iff.mpr fun he => by simp [hi.trig_of_fclosed (hi.fclosed_of_mclosed (hi.eclosed_ he))] at ht
  · have ht := (hi.feeder_ (hi.slow_ hs)).1
    exact ⟨Bool.eq_false_iff.mpr fun hm => by simp [hi.trig_of_fclosed (hi.fclosed_of_mclosed hm)] at ht, ht⟩

/-- Messages()/Errors() are closed after the feeder's last delivery: the feeder leaves its loop only when the
    dispatcher closed the feeder channel and no response is in flight or in hand, and after that nothing is taken
    from the feeder channel, acknowledged or delivered any more -/
theorem outputs_closed_after_last_event_pc {evs : List Ev} {s : St} (h : run {} evs = .ok s) :
    Precedes (· = .feederExit) (fun _ => False) (· = .msgsClose) evs ∧
    Precedes (· = .msgsClose) (fun _ => False) (· = .errsClose) evs ∧
    (∀ pre post, evs = pre ++ .feederExit :: post → ∀ e ∈ post, e ≠ .msgSend ∧ e ≠ .feederRecv ∧ (∀ w, e ≠ .ack w) ∧ ∀ b, e ≠ .feederSend b) := by
  refine ⟨fexited_latch.precedes rfl (by rintro s _ s' rfl; unfold step; accepted; simp_all) h,
    mclosed_latch.precedes rfl (by rintro s _ s' rfl; unfold step; accepted; simp_all) h, ?_⟩
  intro pre post he e hmem
  subst he
  have key := none_after_inv PInv (fun s : St => s.feederExited) (· = .feederExit)
    (fun e => e = .msgSend ∨ e = .feederRecv ∨ (∃ w, e = .ack w) ∨ ∃ b, e = .feederSend b)
    step_inv
    (fun s e s' h hf => (fexited_latch s e s' h).mpr (.inl hf))
    (fun s e s' he h => (fexited_latch s e s' h).mpr (.inr he))
    (by
      intro s e s' hi he h
      cases hx : s.feederExited with
      | false => rfl
      | true =>
        exfalso
        -- after the feeder left: its channel is closed, nothing in flight or in hand, and the child is not `slow`
        -- (slow means owned by the feeder with trigger open, but a closed feeder channel means trigger is closed)
        obtain ⟨h1, h2, h3⟩ := hi.fexited_ hx
        have h4 : s.slow = false := Bool.eq_false_iff.mpr fun hs => by
          simpa [hi.trig_of_fclosed h1] using (hi.feeder_ (hi.slow_ hs)).1
        -- so each of the four events fails its first guard (`feederSend` its second)
        rcases he with rfl | rfl | ⟨w, rfl⟩ | ⟨b, rfl⟩ <;> revert h <;> unfold step <;> refine ok_of_guard fun _ => ?_ <;> simp_all)
    init_inv h rfl e hmem
  exact ⟨fun hc => key (.inl hc), fun hc => key (.inr (.inl hc)), fun w hc => key (.inr (.inr (.inl ⟨w, hc⟩))),
    fun b hc => key (.inr (.inr (.inr ⟨b, hc⟩)))⟩

/-- the documented order of the tear-down: dying closed (AsyncClose) → trigger closed (by the dispatcher or the broker
    worker, whoever holds the child; only an out-of-range shutdown closes it without dying) → child removed from the
    consumer → feeder channel closed → feeder leaves its loop → Messages() closed → Errors() closed -/
theorem close_order_pc {evs : List Ev} {s : St} (h : run {} evs = .ok s) :
    Precedes (· = .dyingClose) (fun _ => False) (fun e => e = .trigCloseDisp ∨ ∃ b, e = .trigCloseBc b false) evs ∧
    Precedes isTrigClose (fun _ => False) (· = .remove) evs ∧
    Precedes (· = .remove) (fun _ => False) (· = .feederClose) evs ∧
    Precedes (· = .feederClose) (fun _ => False) (· = .feederExit) evs ∧
    Precedes (· = .feederExit) (fun _ => False) (· = .msgsClose) evs ∧
    Precedes (· = .msgsClose) (fun _ => False) (· = .errsClose) evs :=
  ⟨dying_latch.precedes rfl (by rintro s _ s' (rfl | ⟨b, rfl⟩) <;> unfold step <;> accepted <;> simp_all) h,
    trig_latch.precedes rfl (by rintro s _ s' rfl; unfold step; accepted; simp_all) h, removed_latch.precedes rfl (by rintro s _ s' rfl; unfold step; accepted; simp_all) h,
    fclosed_latch.precedes rfl (by rintro s _ s' rfl; unfold step; accepted; simp_all) h,
    (outputs_closed_after_last_event_pc h).1, (outputs_closed_after_last_event_pc h).2.1⟩

/-- no deadlock after AsyncClose: in every reachable state in which dying is closed and Errors() is still open, one of
    the partition consumer's goroutines (dispatcher, feeder), the broker worker holding it, or ConsumePartition about to
    subscribe it (a child that nobody holds yet) has an enabled step -/
theorem no_deadlock_after_close_pc {evs : List Ev} {s : St} (h : run {} evs = .ok s) (hd : s.dying = true) (he : s.errsClosed = false) :
    ∃ e s', internal e = true ∧ step s e = .ok s' := by
  have hi := reach_inv h
  have hst := hi.dying_ hd
  cases ho : s.owner with
  | nobody => exact enabled (.inputSend .new 0) rfl (by simp [step, hst, ho])
  | bc b =>
    have ht := (hi.bc_ b ho).1
    exact enabled (.trigCloseBc b false) rfl (by simp [step, ho, hd, ht])
  | feeder =>
    obtain ⟨_, _, hr⟩ := hi.feeder_ ho
    obtain ⟨b, hb⟩ := Option.isSome_iff_exists.mp hr
    exact enabled (.inputSend .feeder b) rfl (by simp [step, ho, hb])
  | disp =>
    cases ht : s.trigClosed with
    | false =>
      cases hb : s.busy with
      | true => exact enabled .trigCloseDisp rfl (by simp [step, hb, ho, hd, ht])
      | false =>
        have htok : s.token = true := (hi.disp_ ho ht).resolve_left (by simp [hb])
        have hex : s.exiting = false := Bool.eq_false_iff.mpr fun hx => by simp [(hi.exiting_ hx).1] at ht
        exact enabled .dispToken rfl (by simp [step, htok, hb, hex, ho])
    | true =>
      cases hrm : s.removed with
      | false =>
        cases hr : s.ref with
        | none => exact enabled .remove rfl (by simp [step, ht, ho, hrm, hr])
        | some b =>
          have hx : s.exiting = false := Bool.eq_false_iff.mpr fun hx => by simp [(hi.exiting_ hx).2] at hr
          exact enabled (.unrefExit b) rfl (by simp [step, ht, ho, hx, hr])
      | true =>
        cases hfc : s.feederClosed with
        | false => exact enabled .feederClose rfl (by simp [step, hrm, hfc])
        | true =>
          cases hfe : s.feederExited with
          | false =>
            cases hin : s.inflight with
            | true => exact enabled .feederRecv rfl (by simp [step, hin])
            | false =>
              cases hfd : s.feeding with
              | true => exact enabled (.ack 0) rfl (by simp [step, hfd])
              | false =>
                have hsl : s.slow = false := Bool.eq_false_iff.mpr fun hs => by simp [hi.slow_ hs] at ho
                exact enabled .feederExit rfl (by simp [step, hfc, hin, hfd, hsl, hfe])
          | true =>
            cases hm : s.msgsClosed with
            | false => exact enabled .msgsClose rfl (by simp [step, hfe, hm])
            | true => exact enabled .errsClose rfl (by simp [step, hm, he])

example : accepts step {} [.start, .inputSend .new 7, .feederSend 7, .feederRecv, .msgSend, .msgSend, .ack 0, .dyingClose,
    .feederSend 7, .feederRecv, .msgSend, .ack 1, .trigCloseBc 7 false, .unrefExit 7, .remove, .feederClose, .feederExit,
    .msgsClose, .errsClose] = true := rfl
-- slow reader, broker worker aborts, redispatch fails once, then closed at the dispatcher
example : accepts step {} [.start, .inputSend .new 7, .feederSend 7, .feederRecv, .ack 2, .msgSend, .inputSend .feeder 7, .errSend,
    .trigSendBc 7, .dispToken, .unrefRedispatch 7, .errSend, .trigSendDisp, .dyingClose, .dispToken, .trigCloseDisp, .remove,
    .feederClose, .feederExit, .msgsClose, .errsClose] = true := rfl
example : accepts step {} [.start, .inputSend .new 7, .dyingClose, .dyingClose] = false := rfl   -- AsyncClose without closeOnce
example : accepts step {} [.start, .inputSend .new 7, .dyingClose, .trigCloseBc 7 false, .unrefExit 7, .remove, .feederClose,
    .msgsClose] = false := rfl   -- messages closed before the feeder left its loop
example : accepts step {} [.start, .inputSend .new 7, .dyingClose, .trigCloseBc 7 false, .trigSendBc 7] = false := rfl
example : accepts step {} [.start, .inputSend .new 7, .feederSend 7, .dyingClose, .trigCloseBc 7 false, .unrefExit 7, .remove,
    .feederClose, .feederExit] = false := rfl   -- feeder left with a response still in the channel

end PC

end Props.C12life
