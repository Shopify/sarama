import SaramaVerif.Model.SyncShim
import SaramaVerif.Lemmas.Acceptor
import SaramaVerif.Lemmas.AssocFind
/-
  C01, SyncProducer part: SendMessage / SendMessages return, for each message, exactly the outcome of that message.
-/
namespace Props.C01sync
open Model.SyncShim Lemmas.Acceptor

theorem step_read (s s' : St) (id : Int) (h : step s (.read id) = .ok s') :
    ∃ o, slotOf s id = some (some o) ∧ s' = { s with returns := (id, o) :: s.returns } := by
  simp only [step] at h
  split at h
  · rename_i o ho; injection h with h; exact ⟨o, ho, h.symm⟩
  · cases h

/-- what a call reported is what sits in the slot of that very message -/
theorem read_returns_own_slot (s s' : St) (id : Int) (h : step s (.read id) = .ok s') :
    ∃ o, slotOf s id = some (some o) ∧ s'.returns = (id, o) :: s.returns :=
  have ⟨o, ho, hs⟩ := step_read s s' id h
  ⟨o, ho, hs ▸ rfl⟩

structure SInv (s : St) : Prop where
  slot_is_event : ∀ id o, slotOf s id = some (some o) → (id, o) ∈ s.events
  ret_is_event  : ∀ r ∈ s.returns, r ∈ s.events

private theorem slotOf_setSlot (s : St) (id k : Int) (v : Option Outcome) (r : List (Int × Outcome)) (ev : List (Int × Outcome)) :
    slotOf { slots := setSlot s id v, returns := r, events := ev } k = if id = k then some v else slotOf s k := by
  unfold slotOf setSlot slotOfL setSlotL
  rw [Lemmas.Assoc.find?_replace Prod.fst]
  by_cases hk : id = k <;> simp only [hk, ↓reduceIte]

theorem step_inv (s s' : St) (e : Ev) (h : step s e = .ok s') (hi : SInv s) : SInv s' := by
  cases e with
  | submit id =>
    simp only [step] at h
    split at h
    · cases h
    · injection h with h; subst h
      refine ⟨?_, hi.ret_is_event⟩
      intro k o hk
      rw [slotOf_setSlot] at hk
      split at hk
      · cases hk
      · exact hi.slot_is_event k o hk
  | event id o =>
    simp only [step] at h
    split at h
    · cases h
    · cases h
    · injection h with h; subst h
      refine ⟨?_, ?_⟩
      · intro k o' hk
        rw [slotOf_setSlot] at hk
        split at hk
        · rename_i hki; subst hki
          have : o' = o := by cases hk; rfl
          subst this; exact List.mem_cons_self
        · exact List.mem_cons_of_mem _ (hi.slot_is_event k o' hk)
      · intro r hr; exact List.mem_cons_of_mem _ (hi.ret_is_event r hr)
  | read id =>
    obtain ⟨o, ho, rfl⟩ := step_read s s' id h
    refine ⟨hi.slot_is_event, ?_⟩
    intro r hr
    rcases List.mem_cons.mp hr with rfl | hr
    · exact hi.slot_is_event id o ho
    · exact hi.ret_is_event r hr

theorem folds : Folds step run :=
  .ofExcept (fun _ => rfl) fun s e es => by rw [run]; cases step s e <;> rfl

/-- for every accepted sequence of submissions, terminal events and reads, whatever
    SendMessage / SendMessages reported for a message is a terminal event of exactly that message (and the model accepts
    at most one terminal event per message, which the producer theorems of Props/C01 guarantee) -/
theorem sync_return_is_own_outcome (es : List Ev) (s : St) (h : run {} es = .ok s) :
    ∀ r ∈ s.returns, r ∈ s.events :=
  (folds.inv SInv step_inv es {} s h ⟨fun _ _ h => (by cases h), fun _ h => (by cases h)⟩).ret_is_event

example : (run {} [.submit 1, .submit 2, .event 2 (.err 7), .event 1 .ok, .read 1, .read 2]).toOption.map (·.returns) =
    some [(2, .err 7), (1, .ok)] := by decide
/-- a second event for one message is not accepted -/
example : (run {} [.submit 1, .event 1 .ok, .event 1 (.err 3)]).toOption.isNone = true := by decide

end Props.C01sync
