import SaramaVerif.Model.LifecycleConn
import SaramaVerif.Props.C12lifeRun
/-
  C12 for the client and the broker connection (acceptors `Cli`, `Br` of Model/LifecycleConn.lean).
-/
namespace Props.C12life
open Model.Lifecycle Lemmas.Acceptor

namespace Cli
open Model.Lifecycle.Cli

local macro "acc" h:ident : tactic =>
  `(tactic| (simp only [step] at $h:ident <;> (repeat' split at $h:ident) <;> simp_all <;> (try (subst $h:ident; simp_all))))

structure Flags (s : St) (e : Ev) (s' : St) : Prop where
  closer : s'.closer = true ↔ s.closer = true ∨ e = .closerClose
  closed : s'.closed = true ↔ s.closed = true ∨ e = .closedClose
  waited : s'.waited = true ↔ s.waited = true ∨ e = .closedRecv
  nilled : s'.nilled = true ↔ s.nilled = true ∨ e = .mapsNil

theorem flags {s : St} {e : Ev} {s' : St} (h : step s e = .ok s') : Flags s e s' := by
  revert h
  cases e <;> unfold step <;> accepted <;> constructor <;> simp

theorem closer_latch : Latch step (·.closer) (· = .closerClose) := fun _ _ _ h => (flags h).closer
theorem closed_latch : Latch step (·.closed) (· = .closedClose) := fun _ _ _ h => (flags h).closed
theorem waited_latch : Latch step (·.waited) (· = .closedRecv) := fun _ _ _ h => (flags h).waited
theorem nilled_latch : Latch step (·.nilled) (· = .mapsNil) := fun _ _ _ h => (flags h).nilled

/-- `closer` and `closed` are closed at most once, the maps are dropped at most once (a second close of `closer` -
    e.g. a Close that does not notice the client is closed already - is not accepted) -/
theorem never_double_close_client {evs : List Ev} {s : St} (h : run {} evs = .ok s) :
    evs.count .closerClose ≤ 1 ∧ evs.count .closedClose ≤ 1 ∧ evs.count .mapsNil ≤ 1 :=
  ⟨closer_latch.count_le_one (by intro s s'; unfold step; accepted; simp_all) h, closed_latch.count_le_one (by intro s s'; unfold step; accepted; simp_all) h,
    nilled_latch.count_le_one (by intro s s'; unfold step; accepted; simp_all) h⟩

/-- the documented order of Client.Close: closer closed, then the background updater's `closed` awaited (and the
    updater has closed it before), then the brokers are closed, then the maps are dropped; ErrClosedClient only
    from a client whose maps were dropped -/
theorem close_order_client {evs : List Ev} {s : St} (h : run {} evs = .ok s) :
    Precedes (· = .closerClose) (fun _ => False) (· = .closedRecv) evs ∧
    Precedes (· = .closedClose) (fun _ => False) (· = .closedRecv) evs ∧
    Precedes (· = .closedRecv) (fun _ => False) (· = .brokerClose) evs ∧
    Precedes (· = .closedRecv) (fun _ => False) (· = .mapsNil) evs ∧
    Precedes (· = .mapsNil) (fun _ => False) (· = .closeAgain) evs :=
  ⟨closer_latch.precedes rfl (by rintro s _ s' rfl; unfold step; accepted; simp_all) h, closed_latch.precedes rfl (by rintro s _ s' rfl; unfold step; accepted; simp_all) h,
    waited_latch.precedes rfl (by rintro s _ s' rfl; unfold step; accepted; simp_all) h, waited_latch.precedes rfl (by rintro s _ s' rfl; unfold step; accepted; simp_all) h,
    nilled_latch.precedes rfl (by rintro s _ s' rfl; unfold step; accepted; simp_all) h⟩

/-- no broker is closed through the client after its maps were dropped -/
theorem no_broker_close_after_maps_nil {pre post : List Ev} {s : St} (h : run {} (pre ++ .mapsNil :: post) = .ok s) :
    ∀ e ∈ post, e ≠ .brokerClose :=
  nilled_latch.none_after (by rintro s _ s' rfl; unfold step; accepted; simp_all) h rfl

/-- closing twice is harmless: the second Close touches no channel -/
theorem close_twice_harmless_client (s s' : St) (h : step s .closeAgain = .ok s') :
    s.nilled = true ∧ s' = { s with again := s.again + 1 } := by
  revert h; unfold step; accepted; simp_all

/-- after Close started (closer closed) and until the maps are dropped, Close or the updater can always move -/
theorem no_deadlock_after_close_client (s : St) (hc : s.closer = true) (hn : s.nilled = false) :
    ∃ e s', internal e = true ∧ step s e = .ok s' := by
  by_cases h1 : s.closed = true
  · by_cases h2 : s.waited = true
    · exact enabled .mapsNil rfl (by simp [step, h2, hn])
    · exact enabled .closedRecv rfl (by simp [step, hc, h1, h2])
  · exact enabled .closedClose rfl (by simp [step, h1])

/-- every move of Close or of the updater except closing one more broker (a loop over the finite broker maps) decreases
    the rank -/
theorem close_terminates_client (s : St) (e : Ev) (s' : St) (h : step s e = .ok s') (hi : internal e = true) :
    (e ≠ .brokerClose → rank s' < rank s) ∧ (e = .brokerClose → rank s' = rank s) := by
  revert h
  cases e with
  | closerClose | closeAgain => cases hi
  | _ => unfold step <;> accepted <;> simp_all [rank]

example : accepts step {} [.closedClose, .closerClose, .closedRecv, .brokerClose, .brokerClose, .mapsNil, .closeAgain] = true := rfl
example : accepts step {} [.closerClose, .closedClose, .closedRecv, .mapsNil, .closerClose] = false := rfl  -- closer closed twice
example : accepts step {} [.closerClose, .closedRecv] = false := rfl  -- Close went on before the updater returned

end Cli


namespace Br
open Model.Lifecycle.Br

local macro "acc" h:ident : tactic =>
  `(tactic| (simp only [step] at $h:ident <;> (repeat' split at $h:ident) <;>
      first | (cases $h:ident; done) | (injection $h:ident with $h:ident; subst $h:ident; simp_all)))

def respOpen (s : St) : Bool := s.conn && !s.respClosed
def draining (s : St) : Bool := s.respClosed && !s.doneClosed

structure BInv (s : St) : Prop where
  resp_conn : s.respClosed = true → s.conn = true
  done_resp : s.doneClosed = true → s.respClosed = true ∧ s.pending = 0

theorem init_inv : BInv {} := ⟨by simp, by simp⟩
theorem step_inv (s : St) (e : Ev) (s' : St) (hi : BInv s) (h : step s e = .ok s') : BInv s' := by
  obtain ⟨h1, h2⟩ := hi
  revert h
  cases e <;> unfold step <;> accepted <;> constructor <;> first | assumption | simp_all
theorem reach_inv {evs : List Ev} {s : St} (h : run {} evs = .ok s) : BInv s :=
  runs.inv BInv step_inv h init_inv

structure Flags (s : St) (e : Ev) (s' : St) : Prop where
  respOpen : respOpen s' = true → (respOpen s = true ∧ ¬ (e = .respClose ∨ e = .connClose)) ∨ e = .open_
  draining : draining s' = true → (draining s = true ∧ ¬ (e = .doneClose ∨ e = .connClose)) ∨ e = .respClose
  done : s'.doneClosed = true → (s.doneClosed = true ∧ ¬ e = .connClose) ∨ e = .doneClose

theorem flags {s : St} {e : Ev} {s' : St} (h : step s e = .ok s') : Flags s e s' := by
  revert h
  -- a clause of a flag that the event neither sets nor resets is `flag_kept`; the others compute
  cases e <;> unfold step <;> accepted <;> constructor <;> first | exact flag_kept (by simp) | simp [respOpen, draining]

/-- per connection, `responses` and `done` are closed at most once: every close is preceded by the Open of this
    connection (resp. the close of `responses`) with no other close of the same channel in between -/
theorem never_double_close_broker {evs : List Ev} {s : St} (h : run {} evs = .ok s) :
    Precedes (· = .open_) (fun e => e = .respClose ∨ e = .connClose) (· = .respClose) evs ∧
    Precedes (· = .respClose) (fun e => e = .doneClose ∨ e = .connClose) (· = .doneClose) evs :=
  ⟨needs respOpen _ _ _ {} rfl (fun _ _ _ h => Flags.respOpen (flags h)) (by rintro s _ s' rfl; unfold step; accepted; simp_all [respOpen]) h,
    needs draining _ _ _ {} rfl (fun _ _ _ h => Flags.draining (flags h)) (by rintro s _ s' rfl; unfold step; accepted; simp_all [draining]) h⟩

/-- a promise is only sent on `responses` of the current connection while it is open -/
theorem no_send_after_close_broker {evs : List Ev} {s : St} (h : run {} evs = .ok s) :
    Precedes (· = .open_) (fun e => e = .respClose ∨ e = .connClose) (· = .send) evs :=
  needs respOpen _ _ _ {} rfl (fun _ _ _ h => Flags.respOpen (flags h)) (by rintro s _ s' rfl; unfold step; accepted; simp_all [respOpen]) h

/-- Close: `responses` closed, then the receiver closes `done` (awaited), then the connection is closed -/
theorem close_order_broker {evs : List Ev} {s : St} (h : run {} evs = .ok s) :
    Precedes (· = .respClose) (fun e => e = .doneClose ∨ e = .connClose) (· = .doneClose) evs ∧
    Precedes (· = .doneClose) (fun e => e = .connClose) (· = .connClose) evs := by
  refine ⟨(never_double_close_broker h).2, ?_⟩
  exact needs (fun s : St => s.doneClosed) _ _ _ {} rfl (fun _ _ _ h => Flags.done (flags h))
      (by rintro s _ s' rfl; unfold step; accepted; simp_all) h

theorem pending_count {l r : List Ev} {s : St} (h : run {} (l ++ .open_ :: r) = .ok s) (hno : .open_ ∉ r) :
    s.pending + r.count .recv = r.count .send := by
  obtain ⟨_, s1, _, h1, h2⟩ := runs.mid h
  have h0 : s1.pending = 0 := by revert h1; unfold step; accepted; simp
  have := runs.counts (·.pending) (· == .send) (· == .recv) (· = .open_)
    (by intro s e s' hne; cases e <;> unfold step <;> accepted <;> first | exact absurd rfl hne | (simp <;> omega)) h2 (fun x hx hc => hno (hc ▸ hx))
  simpa [h0, List.count] using this

/-- the receiver drains: when `done` is closed every promise sent on this connection has been taken -/
theorem outputs_closed_after_last_event_broker {pre : List Ev} {s : St} (h : run {} (pre ++ [.doneClose]) = .ok s) :
    ∀ l r, pre = l ++ .open_ :: r → .open_ ∉ r → r.count .recv = r.count .send := by
  intro l r he hno
  subst he
  obtain ⟨s1, _, h1, h3, _⟩ := runs.mid h
  have hp : s1.pending = 0 := by revert h3; unfold step; accepted; simp_all
  simpa [hp] using pending_count h1 hno

/-- a second Close finds the broker not connected and touches nothing -/
theorem close_twice_harmless_broker (s s' : St) (h : step s .closeNotConn = .ok s') : s.conn = false ∧ s' = s := by
  revert h; unfold step; accepted; simp_all

set_option linter.unusedVariables false in
/-- once `responses` is closed, the receiver or Close can always move until the connection is closed (their guards
    cover every state with `responses` closed: the statement carries `h`, which the proof does not use) -/
theorem no_deadlock_after_close_broker {evs : List Ev} {s : St} (h : run {} evs = .ok s) (hc : s.respClosed = true) :
    ∃ e s', internal e = true ∧ step s e = .ok s' := by
  by_cases hd : s.doneClosed = true
  · exact enabled .connClose rfl (by simp [step, hd])
  · by_cases hp : s.pending = 0
    · exact enabled .doneClose rfl (by simp [step, hc, hp, hd])
    · exact enabled .recv rfl (by simp [step, hp, hd])

/-- each move of the receiver or of Close on a closing connection decreases the rank (promises still to drain + steps of
    Close) -/
theorem close_terminates_broker {evs : List Ev} {s : St} (h : run {} evs = .ok s) (hc : s.respClosed = true)
    (e : Ev) (s' : St) (hs : step s e = .ok s') (hi : internal e = true) : rank s' < rank s := by
  have hconn := (reach_inv h).resp_conn hc
  revert hs
  cases e with
  | recv | doneClose | connClose => unfold step <;> accepted <;> simp_all [rank] <;> omega
  | _ => cases hi

example : accepts step {} [.closeNotConn, .open_, .send, .send, .recv, .respClose, .recv, .doneClose, .connClose, .closeNotConn,
    .open_, .send, .respClose, .recv, .doneClose, .connClose] = true := rfl
example : accepts step {} [.open_, .send, .respClose, .doneClose] = false := rfl   -- done closed with a promise pending
example : accepts step {} [.open_, .respClose, .connClose] = false := rfl         -- Close did not wait for the receiver
example : accepts step {} [.open_, .respClose, .respClose] = false := rfl
example : accepts step {} [.open_, .respClose, .send] = false := rfl
end Br

end Props.C12life
