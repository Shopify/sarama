/-
  System level: the bridge of a shared worker - it takes the buffer as a produce set (`handover`) and the broker
  processes the set (`broker`) - seen from partition `p`.
  A hand-over is HIDDEN from `p` when the buffer holds nothing of `p` and no message of `p` is held: no step of the
  projection, and the one-partition worker has no set at its bridge.  Otherwise it is visible: the `handover` step of
  the one-partition model, and the set at its bridge is the projection of the set.  Both are `bpRunN_lift_none` /
  `bpRunN_lift_step` (Props/C02multiM.lean) with what the hand-over does to the fields (`handover_hidden_proj`,
  `handover_visible_proj`): `proj_handover_hidden_p`, `proj_handover_visible_p` for `BRp`, which the step theorem
  (Props/C02multiK.lean) uses; `proj_handover_hidden`, `proj_handover_visible` for `BRh`, which is
  `BRp` with `SeenAs` spelt out field by field (of the retry marks, that of `p` only) and, of the pending answers, only
  that a worker without a set has none.
  The broker: the log of `p` changes exactly as in the one-partition `broker` step on the PROJECTED set
  (`proj_broker_log`).  A hidden set: no step of the projection (`proj_broker_hidden_p`).  A visible set: the `broker`
  step of `Model.Pipeline` with the projected answer `projV p r`, and the pending answers stay related
  (`proj_broker_visible_p`); its hypotheses (decided by `brOK`, Props/C02multiZ.lean): the answer is well-formed for `p`
  (`(projV p r).appends = r.appends p`) and the one-partition step is enabled (an appending answer comes from the
  leader of `p`; implied by the enabledness of the N-step when the set holds a message of `p`).
-/
import SaramaVerif.Props.C02multiM
import SaramaVerif.Props.C02multiB

namespace Props.C02sys
open Model Model.Pipeline Model.PipelineN Model.BrokerProd Lemmas.C02sys

def BRh (p : Int) (k : WorkerN) (j : Worker) : Prop :=
  ∃ hid : Bool,
    j.bp.closing = k.bp.closing ∧ j.bp.cr 0 = k.bp.cr p ∧ j.bp.buffer = projL p k.bp.buffer ∧
    j.bp.wait = projWait p k.bp.wait ∧ j.bp.sets = (if hid then [] else k.bp.sets.map (projL p)) ∧
    (hid = true → k.bp.sets ≠ [] ∧ ∀ x ∈ k.bp.sets, projL p x = []) ∧
    (k.bp.sets = [] → k.pend = none) ∧ (j.bp.sets = [] → j.pend = none)

theorem innerOnly_BRh (p : Int) : InnerOnly (BRh p) := by
  intro k k' j j' h1 h2 h3 h4 ⟨hid, a⟩
  exact ⟨hid, by rw [h3, h1, h2, h4]; exact a⟩

theorem proj_handover_hidden {M : Nat} {p : Int} {sN sN' : SysN} {s : Sys} {w : Nat} (h : WRel (BRh p) p sN s)
    (hbuf : projL p (sN.wk w).bp.buffer = []) (hwt : projWait p (sN.wk w).bp.wait = none)
    (hs : sysStepN M sN (.handover w) = some sN') : WRel (BRh p) p sN' s := by
  -- `sysStepN M sN (.handover w)` unfolds to `bpRunN M sN w .. .handover`: `hs` is a `bpRunN` equation as it stands
  have hd := bpRunN_enabled hs
  obtain ⟨_, f2, f3, _⟩ := handover_fields M _ hd
  obtain ⟨c3, c4, c5, c6, cA⟩ := handover_hidden_proj hd hbuf hwt
  obtain ⟨hid, a1, a2, a3, a4, a5, a6, a7, a8⟩ := h.br w
  have hj : (s.wk w).bp.sets = [] := by rw [a5, handover_free M _ hd]; cases hid <;> rfl
  exact bpRunN_lift_none h hs (h.inq w) cA ⟨true, a1.trans f2.symm, by rw [f3]; exact a2, a3.trans c3.symm,
    a4.trans c4.symm, hj, fun _ => ⟨c5, c6⟩, fun e => absurd e c5, a8⟩

theorem proj_handover_visible {M : Nat} {p : Int} {sN sN' : SysN} {s : Sys} {w : Nat} (h : WRel (BRh p) p sN s)
    (hvis : projL p (sN.wk w).bp.buffer ≠ [] ∨ projWait p (sN.wk w).bp.wait ≠ none)
    (hs : sysStepN M sN (.handover w) = some sN') :
    ∃ s', sysStep M s (.handover w) = some s' ∧ WRel (BRh p) p sN' s' := by
  have hd := bpRunN_enabled hs
  obtain ⟨f1, f2, f3, _⟩ := handover_fields M _ hd
  obtain ⟨hid, a1, a2, a3, a4, a5, a6, a7, a8⟩ := h.br w
  have hj : (s.wk w).bp.sets = [] := by rw [a5, handover_free M _ hd]; cases hid <;> rfl
  have hen := handover_visible_enabled (M := M) hj a3 a4 hvis
  obtain ⟨g1, g2, g3, _⟩ := handover_fields M _ hen
  obtain ⟨c3, c4, c5, cA⟩ := handover_visible_proj hd hen a3 a4
  refine ⟨_, step_handover.2 ⟨hen, rfl⟩, bpRunN_lift_step h hs (h.inq w) _ cA
    ⟨false, g2.trans (a1.trans f2.symm), by rw [g3, f3]; exact a2, c3, c4, c5, nofun, fun e => ?_, fun e => ?_⟩⟩
  · rw [f1] at e; cases e
  · rw [g1] at e; cases e

theorem proj_handover_hidden_p {M : Nat} {p : Int} {sN sN' : SysN} {s : Sys} {w : Nat} (h : WRel (BRp p) p sN s)
    (hbuf : projL p (sN.wk w).bp.buffer = []) (hwt : projWait p (sN.wk w).bp.wait = none)
    (hs : sysStepN M sN (.handover w) = some sN') : WRel (BRp p) p sN' s := by
  have hd := bpRunN_enabled hs
  obtain ⟨_, f2, f3, _⟩ := handover_fields M _ hd
  obtain ⟨c3, c4, c5, c6, cA⟩ := handover_hidden_proj hd hbuf hwt
  obtain ⟨hj, _, hjp⟩ := brp_free (h.br w) (handover_free M _ hd)
  have a := (h.br w).seenAs
  exact bpRunN_lift_none h hs (h.inq w) cA (.hidden ⟨a.closing.trans f2.symm, a.cr.trans (projB_cr f3).symm,
    a.buffer.trans c3.symm, a.wait.trans c4.symm⟩ hj c5 c6 hjp)

theorem proj_handover_visible_p {M : Nat} {p : Int} {sN sN' : SysN} {s : Sys} {w : Nat} (h : WRel (BRp p) p sN s)
    (hvis : projL p (sN.wk w).bp.buffer ≠ [] ∨ projWait p (sN.wk w).bp.wait ≠ none)
    (hs : sysStepN M sN (.handover w) = some sN') :
    ∃ s', sysStep M s (.handover w) = some s' ∧ WRel (BRp p) p sN' s' := by
  have hd := bpRunN_enabled hs
  obtain ⟨f1, f2, f3, _⟩ := handover_fields M _ hd
  obtain ⟨hj, hkp, hjp⟩ := brp_free (h.br w) (handover_free M _ hd)
  have a := (h.br w).seenAs
  have hen := handover_visible_enabled (M := M) hj a.buffer a.wait hvis
  obtain ⟨_, g2, g3, _⟩ := handover_fields M _ hen
  obtain ⟨c3, c4, c5, cA⟩ := handover_visible_proj hd hen a.buffer a.wait
  exact ⟨_, step_handover.2 ⟨hen, rfl⟩, bpRunN_lift_step h hs (h.inq w) _ cA
    (.visible ⟨g2.trans (a.closing.trans f2.symm), g3.trans (a.cr.trans (projB_cr f3).symm), c3, c4⟩ c5
      (fun e => by rw [f1] at e; cases e) (by rw [hjp, hkp]; rfl))⟩

theorem dataIds_projL (p : Int) (l : List Pipeline.Tok) : dataIds (projL p l) = dataIdsOf p l := by
  simp only [dataIds, projL, List.filter_map, List.map_map]
  rfl

theorem brokerN_spec {M : Nat} {sN sN' : SysN} {w : Nat} {r : RespN} (hs : sysStepN M sN (.broker w r) = some sN') :
    ∃ sent rest, (sN.wk w).bp.sets = sent :: rest ∧ (sN.wk w).pend = none ∧
      sN' = { sN with log := fun q => if r.appends q then sN.log q ++ dataIdsOf q sent else sN.log q,
                      wk := setWN sN.wk w ⟨(sN.wk w).inq, (sN.wk w).bp, some (r, fun q => (sN.log q).length)⟩ } := by
  simp only [sysStepN] at hs
  split at hs
  · rename_i sent rest hsets hp
    split at hs
    · cases hs
    · exact ⟨sent, rest, hsets, hp, (Option.some.inj hs).symm⟩
  · cases hs

theorem proj_broker_log {M : Nat} {p : Int} {sN sN' : SysN} {s : Sys} {w : Nat} {r : RespN} (h : QRel p sN s)
    (hs : sysStepN M sN (.broker w r) = some sN') :
    ∃ sent rest, (sN.wk w).bp.sets = sent :: rest ∧
      QRel p sN' { s with log := if r.appends p then s.log ++ dataIds (projL p sent) else s.log } := by
  obtain ⟨sent, rest, hsets, _, rfl⟩ := brokerN_spec hs
  exact ⟨sent, rest, hsets, { h with log := by simp only [dataIds_projL, h.log] }⟩

theorem proj_broker_hidden_p {M : Nat} {p : Int} {sN sN' : SysN} {s : Sys} {w : Nat} {r : RespN}
    (h : WRel (BRp p) p sN s) (hj : (s.wk w).bp.sets = [])
    (hs : sysStepN M sN (.broker w r) = some sN') : WRel (BRp p) p sN' s := by
  obtain ⟨sent, rest, hsets, hp, rfl⟩ := brokerN_spec hs
  have hne : (sN.wk w).bp.sets ≠ [] := hsets ▸ List.cons_ne_nil _ _
  obtain ⟨hall, hjp⟩ := brp_hidden (h.br w) hj hne
  have hlog : (if r.appends p then sN.log p ++ dataIdsOf p sent else sN.log p) = sN.log p := by
    rw [← dataIds_projL, hall sent (hsets ▸ List.mem_cons_self ..)]; simp [dataIds]
  have h1 := h.setWkN w (k' := ⟨(sN.wk w).inq, (sN.wk w).bp, some (r, fun q => (sN.log q).length)⟩) (h.inq w)
    (.hidden (h.br w).seenAs hj hne hall hjp)
  exact ⟨{ h1.q with log := h.q.log.trans hlog.symm }, h1.cur, h1.inq, h1.br⟩

theorem proj_broker_visible_p {M : Nat} {p : Int} {sN sN' : SysN} {s : Sys} {w : Nat} {r : RespN}
    (h : WRel (BRp p) p sN s) (hj : (s.wk w).bp.sets ≠ [])
    (hwf : (projV p r).appends = r.appends p)
    (hen : ¬(((projV p r).appends && !(brokerOf w == s.ldr)) = true))
    (hs : sysStepN M sN (.broker w r) = some sN') :
    ∃ s', sysStep M s (.broker w (projV p r)) = some s' ∧ WRel (BRp p) p sN' s' := by
  obtain ⟨sent, rest, hsets, hp, rfl⟩ := brokerN_spec hs
  obtain ⟨hs1, hpend⟩ := brp_visible (h.br w) hj
  have hjs : (s.wk w).bp.sets = projL p sent :: rest.map (projL p) := by rw [hs1, hsets]; rfl
  have hjp : (s.wk w).pend = none := by rw [hpend, hp]; rfl
  have h1 := h.setWk w (k' := ⟨(sN.wk w).inq, (sN.wk w).bp, some (r, fun q => (sN.log q).length)⟩)
    (j' := ⟨(s.wk w).inq, (s.wk w).bp, some (projV p r, s.log.length)⟩) (h.inq w)
    (.visible (h.br w).seenAs hs1 (fun e => by rw [hsets] at e; cases e) (by rw [h.q.log]; rfl))
  refine ⟨_, step_iff.2 (.broker hjs hjp hen), ⟨{ h1.q with log := ?_ }, h1.cur, h1.inq, h1.br⟩⟩
  simp only [hwf, dataIds_projL, h.q.log]

example : WRel (BRh 0) 0 {} {} :=
  ⟨qrel_init 0, rfl, fun _ => rfl, fun _ => ⟨false, rfl, rfl, rfl, rfl, rfl, (fun e => by cases e), fun _ => rfl, fun _ => rfl⟩⟩

example : ((runN 2 {} (exTwo.take 14)).bind (fun s => sysStepN 2 s (.handover 0))).isSome = true := by decide +kernel
example : ((runN 2 {} (exTwo.take 14)).map (fun s => (projL 0 (s.wk 0).bp.buffer).length)) = some 2 := by decide +kernel
example : ((runN 2 {} (exTwo.take 14)).map (fun s => (projL 1 (s.wk 0).bp.buffer).length)) = some 1 := by decide +kernel

example : ((runN 2 {} (exTwo.take 15)).bind (fun s => sysStepN 2 s
    (.broker 0 (.parts (fun q => if q = 1 then .retriable false else .ok))))).isSome = true := by decide +kernel
example : (projV 0 (.parts (fun q => if q = 1 then Pipeline.Verdict.retriable false else .ok))).appends = true := by decide
example : (projV 1 (.parts (fun q => if q = 1 then Pipeline.Verdict.retriable false else .ok))).appends = false := by decide
example : ((runN 2 {} (exTwo.take 16)).map (fun s => (s.log 0, s.log 1))) = some ([0, 1], []) := by decide +kernel

end Props.C02sys
