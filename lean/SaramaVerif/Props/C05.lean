import SaramaVerif.Model.IdemBroker
import SaramaVerif.Lemmas.AssocFind
/-
  C05 — the idempotent producer never writes a message twice.

  Broker side (this file): for EVERY arrival history of batches - any resends, reorderings, epochs -
  a leader enforcing Kafka's rules never appends two records with the same (epoch, sequence): the stamps in the
  log are strictly increasing in lexicographic order.  Hence a message is appended at most once PROVIDED the
  producer always sends a given message under the same (epoch, sequence) stamp (`StampFunctional`).
  Producer side (`Props/C05stamps.lean`): the accounting model stamps a message at most once, only on its first
  forward.
  What is NOT proved - because it is false of the pinned tree - is that the stamp on the wire is the message's
  stamp: after an epoch bump a resend of an old-epoch message is put into a batch of the new epoch (known
  finding C05:duplicate-append:copies-in-different-epochs); see `no_duplicate_append` for the exact hypothesis.
-/
namespace Props.C05
open Model.IdemBroker

def lexLt (a b : Int × Nat) : Prop := a.1 < b.1 ∨ (a.1 = b.1 ∧ a.2 < b.2)

def stamp (r : Rec) : Int × Nat := (r.epoch, r.seq)

structure BInv (s : PState) : Prop where
  sorted : (s.log.map stamp).Pairwise lexLt
  below  : ∀ r ∈ s.log, r.epoch < s.epoch ∨ (r.epoch = s.epoch ∧ r.seq < s.nextSeq)
  fresh  : s.known = false → s.log = []

private theorem stamps_mkRecs (epoch : Int) (f : Nat) (ps : List Int) :
    (mkRecs epoch f ps).map stamp = (List.range' f ps.length).map (epoch, ·) := by
  induction ps generalizing f with
  | nil => rfl
  | cons p ps ih => simp only [mkRecs, List.map_cons, List.length_cons, List.range'_succ, ih]; rfl

private theorem mkRecs_mem (epoch : Int) (f : Nat) (ps : List Int) (r : Rec) (hr : r ∈ mkRecs epoch f ps) :
    r.epoch = epoch ∧ f ≤ r.seq ∧ r.seq < f + ps.length := by
  have : stamp r ∈ (List.range' f ps.length).map (epoch, ·) := stamps_mkRecs .. ▸ List.mem_map_of_mem hr
  obtain ⟨k, hk, e⟩ := List.mem_map.mp this
  have := List.mem_range'_1.mp hk
  cases r; cases e; exact ⟨rfl, this⟩

private theorem mkRecs_sorted (epoch : Int) (f : Nat) (ps : List Int) :
    ((mkRecs epoch f ps).map stamp).Pairwise lexLt := by
  rw [stamps_mkRecs, List.pairwise_map]
  exact (List.pairwise_lt_range' (s := f) (n := ps.length)).imp fun h => Or.inr ⟨rfl, h⟩

theorem init_inv : BInv {} := ⟨by simp, by simp, by simp⟩

private theorem same_epoch_inv (s : PState) (epoch : Int) (f : Nat) (ps : List Int) (hi : BInv s)
    (he : epoch = s.epoch) (hk : s.known = true) : BInv (arriveSameEpoch s epoch f ps).1 := by
  unfold arriveSameEpoch
  by_cases hf : f = s.nextSeq
  · -- appended: the new records carry the current epoch and the sequences from `nextSeq` on, above every old record
    rw [if_pos hf]
    refine ⟨?_, fun r hr => ?_, fun hkn => nomatch hk.symm.trans hkn⟩
    · simp only [List.map_append, List.pairwise_append]
      refine ⟨hi.sorted, mkRecs_sorted epoch f ps, ?_⟩
      intro a ha b hb
      rcases List.mem_map.mp ha with ⟨r, hr, rfl⟩
      rcases List.mem_map.mp hb with ⟨q, hq, rfl⟩
      have h1 := hi.below r hr
      have h2 := mkRecs_mem epoch f ps q hq
      simp only [lexLt, stamp]; omega
    · rcases List.mem_append.mp hr with hr | hr
      · have := hi.below r hr; simp only; omega
      · have := mkRecs_mem epoch f ps r hr; simp only; omega
  · rw [if_neg hf]; split <;> exact hi

theorem arrive_inv (s : PState) (epoch : Int) (f : Nat) (ps : List Int) (hi : BInv s) :
    BInv (arrive s epoch f ps).1 := by
  unfold arrive
  by_cases h1 : s.known ∧ epoch < s.epoch
  · rw [if_pos h1]; exact hi
  rw [if_neg h1]
  by_cases h2 : ¬ s.known ∨ epoch > s.epoch
  · rw [if_pos h2]
    by_cases h3 : f ≠ 0
    · rw [if_pos h3]; exact hi
    rw [if_neg h3]
    -- new epoch (or first batch): the state is reset, every old record has a smaller epoch
    refine same_epoch_inv _ epoch f ps ⟨hi.sorted, fun r hr => ?_, nofun⟩ rfl rfl
    rcases h2 with hk | hgt
    · rw [hi.fresh (eq_false_of_ne_true hk)] at hr; cases hr
    · have := hi.below r hr; simp only; omega
  · rw [if_neg h2]
    have hk : s.known = true := Decidable.not_not.mp fun hk => h2 (Or.inl hk)
    have : ¬ epoch < s.epoch := fun h => h1 ⟨hk, h⟩
    have : ¬ epoch > s.epoch := fun h => h2 (Or.inr h)
    exact same_epoch_inv s epoch f ps hi (by omega) hk

theorem arriveAll_inv (s : PState) (bs : List (Int × Nat × List Int)) (hi : BInv s) : BInv (arriveAll s bs) := by
  induction bs generalizing s with
  | nil => exact hi
  | cons b bs ih => obtain ⟨e, f, ps⟩ := b; exact ih _ (arrive_inv s e f ps hi)

/-- For every arrival history, no two positions of the log carry the same (epoch, sequence) stamp. -/
theorem no_two_records_share_stamp (bs : List (Int × Nat × List Int)) (i j : Nat)
    (hi : i < (arriveAll {} bs).log.length) (hj : j < (arriveAll {} bs).log.length)
    (h : stamp ((arriveAll {} bs).log[i]) = stamp ((arriveAll {} bs).log[j])) : i = j :=
  Lemmas.Assoc.getElem_inj_of_sorted (fun a h => by simp [lexLt] at h) (arriveAll_inv {} bs init_inv).sorted hi hj h

/-- The producer-side obligation under which the broker rules give exactly-once appends: a message (payload)
    always travels with one and the same stamp. -/
def StampFunctional (log : List Rec) : Prop :=
  ∀ r ∈ log, ∀ q ∈ log, r.payload = q.payload → stamp r = stamp q

/-- no message is appended twice, for every arrival history whose log satisfies the producer obligation -/
theorem no_duplicate_append (bs : List (Int × Nat × List Int)) (hf : StampFunctional (arriveAll {} bs).log)
    (i j : Nat) (hi : i < (arriveAll {} bs).log.length) (hj : j < (arriveAll {} bs).log.length)
    (h : (arriveAll {} bs).log[i].payload = (arriveAll {} bs).log[j].payload) : i = j :=
  no_two_records_share_stamp bs i j hi hj
    (hf _ (List.getElem_mem hi) _ (List.getElem_mem hj) h)

/-- The producer obligation in the form the trace rules check it: if what goes on the wire for a message is always the
    stamp THAT message was given (a function of the message: `sequence_assigned_once` says a message is stamped at most
    once, rule R2 that a resend keeps the stamp), the log satisfies `StampFunctional` - and with
    `Props.C05stamps.stamps_never_repeat` (no two messages are given the same stamp) every message is appended at most
    once.  The pinned producer breaks the hypothesis on the retry paths listed as known findings. -/
theorem stampFunctional_of_wire_stamp_function (log : List Rec) (f : Int → Int × Nat)
    (h : ∀ r ∈ log, stamp r = f r.payload) : StampFunctional log := by
  intro r hr q hq hp
  rw [h r hr, h q hq, hp]

/-- exactly-once append for every arrival history whose records travel under their own message's stamp -/
theorem no_duplicate_append_of_wire_stamp_function (bs : List (Int × Nat × List Int)) (f : Int → Int × Nat)
    (h : ∀ r ∈ (arriveAll {} bs).log, stamp r = f r.payload)
    (i j : Nat) (hi : i < (arriveAll {} bs).log.length) (hj : j < (arriveAll {} bs).log.length)
    (hp : (arriveAll {} bs).log[i].payload = (arriveAll {} bs).log[j].payload) : i = j :=
  no_duplicate_append bs (stampFunctional_of_wire_stamp_function _ f h) i j hi hj hp

/-- a resent batch that is still among the last five is recognised: nothing is appended and the answer carries
    the base offset that the cache recorded at its append -/
theorem resend_is_deduplicated (s : PState) (epoch : Int) (f : Nat) (ps : List Int)
    (hk : s.known = true) (he : epoch = s.epoch) (hne : f ≠ s.nextSeq) (b : Nat)
    (hd : findDup s.cache f ps.length = some b) :
    arrive s epoch f ps = (s, .duplicate b) := by
  unfold arrive
  have h1 : ¬ (s.known = true ∧ epoch < s.epoch) := by omega
  have h2 : ¬ (¬ s.known = true ∨ epoch > s.epoch) := by simp [hk]; omega
  simp only [h1, h2, ↓reduceIte, arriveSameEpoch, hne, hd]

/-! a lost acknowledgement, the resend is de-duplicated, the log holds each message once -/
example :
    let s := arriveAll {} [(0, 0, [1, 2]), (0, 2, [3]), (0, 2, [3]), (0, 3, [4])]
    s.log.map (·.payload) = [1, 2, 3, 4] ∧ (arrive (arriveAll {} [(0, 0, [1, 2]), (0, 2, [3])]) 0 2 [3]).2 = .duplicate 2 := by
  decide
/-- … whereas the pinned producer's behaviour after an epoch bump violates `StampFunctional`: message 3, first
    sent as (epoch 0, sequence 2), is sent again inside a batch of epoch 1 and is appended twice -/
example :
    let s := arriveAll {} [(0, 0, [1, 2]), (0, 2, [3]), (1, 0, [3, 4])]
    s.log.map (·.payload) = [1, 2, 3, 3, 4] := by decide +kernel

end Props.C05
