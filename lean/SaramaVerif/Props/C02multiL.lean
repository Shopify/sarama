/-
  System level: the answer reaches the run loop of a shared worker (`deliver`), seen from partition `p`.
  The step is the worker run on the prepared answer (`deliverN_run`), so every case is `bpRunN_lift`
  (Props/C02multiM.lean) with what the `resp` arm does for `p` at worker level.  The cases: the one-partition worker
  has the set at its bridge (`proj_deliver_visible`: the `deliver` step with the answer as `p` sees it - also for a
  set that is empty for `p`, which a hand-over while a message of `p` was held and none was buffered produces), or the
  set is hidden and the answer is per-partition with no message of `p` held (`proj_deliver_hidden_parts_p`: no step).
  `proj_deliver_c` puts them together: under `delOK` the step is no step (hidden set) or the `deliver` step (visible
  set); `StepRes M p sN' s c'` says that a step of the model with several partitions that ends in `sN'` is, for `p`,
  the step `c'` of the one-partition model from `s` (`none`: no step).
  Of what `delOK` excludes, two sub-cases of a connection error for a hidden set while nothing of `p` is buffered or
  held are covered: the worker is `p`'s current one, in normal mode, syn consumed, `p` not in retry mode - the `closeW`
  step (`proj_deliver_hidden_conn_closeW_p`); it is closing already - no step (`proj_deliver_hidden_conn_closing_p`).
  Not covered: the worker is in normal mode and is not `p`'s current worker, or the syn of `p` is still the first token
  of `p` in its channel, or `p` is in retry mode there.  `closeW` is not enabled then, and the step cannot be no step
  of the projection either, because `BRp` equates the closing modes.
  Names: a suffix `_p` marks a statement for the relation `BRp p` (as in Props/C02multiR.lean); `_c` (computed) one
  whose conclusion names the step of the one-partition model - `StepRes` at a computed choice, or the case said - where
  `proj_deliver_noneOfP_p` says `∃ c'`; `_j` one that takes the visibility of the set as `(s.wk w).bp.sets ≠ []`, a fact
  about the one-partition worker (the `j` of `BRp p k j`), where the `_p` version takes `projL p sent ≠ []`.
-/
import SaramaVerif.Props.C02multiZ
import SaramaVerif.Props.C02multiM
import SaramaVerif.Props.C02multiB

namespace Props.C02sys
open Model Model.Pipeline Model.PipelineN Model.BrokerProd Lemmas.C02sys
open Props.C02bp (resp_sets)

theorem deliverN_run {M : Nat} {sN sN' : SysN} {w : Nat} {st : Bool} {r : RespN} {base : Int → Nat}
    (hpd : (sN.wk w).pend = some (r, base)) (hs : sysStepN M sN (.deliver w st) = some sN') :
    bpRunN M sN w (sN.wk w).inq none base (.resp r.toResp st) = some sN' := by
  simpa only [sysStepN, hpd] using hs

theorem deliver_sets {M : Nat} {p : Int} {sN sN' : SysN} {s : Sys} {w : Nat} {st : Bool} (h : WRel (BRp p) p sN s)
    (hs : sysStepN M sN (.deliver w st) = some sN') :
    ∃ sent rest r base, (sN.wk w).bp.sets = sent :: rest ∧ (sN.wk w).pend = some (r, base) := by
  cases hpd : (sN.wk w).pend with
  | none => simp [sysStepN, hpd] at hs
  | some rb =>
    cases hsets : (sN.wk w).bp.sets with
    | nil => rw [(brp_free (h.br w) hsets).2.1] at hpd; cases hpd
    | cons sent rest => exact ⟨sent, rest, rb.1, rb.2, rfl, rfl⟩

theorem hidden_noneOfP {p : Int} {sN : SysN} {s : Sys} {w : Nat} {sent : List Pipeline.Tok}
    {rest : List (List Pipeline.Tok)} (h : WRel (BRp p) p sN s) (hsets : (sN.wk w).bp.sets = sent :: rest)
    (hj : (s.wk w).bp.sets = []) : projL p sent = [] :=
  (brp_hidden (h.br w) hj (hsets ▸ List.cons_ne_nil _ _)).1 sent (hsets ▸ List.mem_cons_self ..)

theorem brp_after_hidden {M : Nat} {p : Int} {sN : SysN} {s : Sys} {w : Nat} {sent : List Pipeline.Tok}
    {rest : List (List Pipeline.Tok)} (h : WRel (BRp p) p sN s) (hsets : (sN.wk w).bp.sets = sent :: rest)
    (hj : (s.wk w).bp.sets = []) (r : Resp) (st : Bool) {j' : Worker}
    (c : SeenAs p (resp M (sN.wk w).bp r st).1 j'.bp) (hjs : j'.bp.sets = []) (hjp : j'.pend = none) :
    BRp p ⟨(sN.wk w).inq, (resp M (sN.wk w).bp r st).1, none⟩ j' := by
  have hall := (brp_hidden (h.br w) hj (hsets ▸ List.cons_ne_nil _ _)).1
  have hr := resp_sets M r st hsets
  by_cases he : rest = []
  · exact .visible c (by rw [hjs, hr, he]; rfl) (fun _ => rfl) (by rw [hjp]; rfl)
  · exact .hidden c hjs (hr ▸ he) (fun x hx => hall x (by rw [hsets]; exact List.mem_cons_of_mem _ (hr ▸ hx))) hjp

theorem proj_deliver_visible {M : Nat} {p : Int} {sN sN' : SysN} {s : Sys} {w : Nat} {still : Bool} {r : RespN}
    {base : Int → Nat} {sent : List Pipeline.Tok} {rest : List (List Pipeline.Tok)}
    (h : WRel (BRp p) p sN s) (hpd : (sN.wk w).pend = some (r, base))
    (hsets : (sN.wk w).bp.sets = sent :: rest) (hj : (s.wk w).bp.sets ≠ [])
    (hs : sysStepN M sN (.deliver w still) = some sN') :
    ∃ s', sysStep M s (.deliver w still) = some s' ∧ WRel (BRp p) p sN' s' := by
  obtain ⟨hs1, hpend⟩ := brp_visible (h.br w) hj
  have hjs : (s.wk w).bp.sets = projL p sent :: rest.map (projL p) := by rw [hs1, hsets]; rfl
  have hjp : (s.wk w).pend = some (projV p r, base p) := by rw [hpend, hpd]; rfl
  obtain ⟨a, c⟩ := resp_proj_out M r still hsets hjs (h.br w).seenAs
  exact ⟨_, step_deliver.2 ⟨_, _, hjp, resp_enabled M _ _ still hj, rfl⟩,
    bpRunN_lift_step h (deliverN_run hpd hs) (h.inq w) none a
      (.visible c ((resp_sets M _ still hjs).trans (congrArg _ (resp_sets M _ still hsets).symm)) (fun _ => rfl) rfl)⟩

theorem proj_deliver_hidden_parts_p {M : Nat} {p : Int} {sN sN' : SysN} {s : Sys} {w : Nat} {still : Bool}
    {v : Int → Pipeline.Verdict} {base : Int → Nat} {sent : List Pipeline.Tok} {rest : List (List Pipeline.Tok)}
    (h : WRel (BRp p) p sN s) (hpd : (sN.wk w).pend = some (.parts v, base))
    (hsets : (sN.wk w).bp.sets = sent :: rest) (he : projL p sent = [])
    (hwt : projWait p (sN.wk w).bp.wait = none) (hj : (s.wk w).bp.sets = [])
    (hs : sysStepN M sN (.deliver w still) = some sN') : WRel (BRp p) p sN' s := by
  obtain ⟨a, c⟩ := resp_hidden M (fun q => bvOf (v q)) still hsets he hwt (h.br w).seenAs
  exact bpRunN_lift_none h (deliverN_run hpd hs) (h.inq w) a
    (brp_after_hidden h hsets hj _ still c hj (brp_hidden (h.br w) hj (hsets ▸ List.cons_ne_nil _ _)).2)

def StepRes (M : Nat) (p : Int) (sN' : SysN) (s : Sys) : Option Choice → Prop
  | none => WRel (BRp p) p sN' s
  | some c' => ∃ s', sysStep M s c' = some s' ∧ WRel (BRp p) p sN' s'

theorem StepRes.toOr {M : Nat} {p : Int} {sN' : SysN} {s : Sys} {oc : Option Choice} (h : StepRes M p sN' s oc) :
    WRel (BRp p) p sN' s ∨ ∃ c' s', sysStep M s c' = some s' ∧ WRel (BRp p) p sN' s' :=
  match oc, h with
  | none, h => Or.inl h
  | some _, h => Or.inr ⟨_, h⟩

theorem proj_deliver_c {M : Nat} {p : Int} {sN sN' : SysN} {s : Sys} {w : Nat} {st : Bool}
    (h : WRel (BRp p) p sN s) (hd : delOK p sN w = true) (hs : sysStepN M sN (.deliver w st) = some sN') :
    StepRes M p sN' s (if (s.wk w).bp.sets = [] then none else some (.deliver w st)) := by
  obtain ⟨sent, rest, r, base, hsets, hpd⟩ := deliver_sets h hs
  by_cases hj : (s.wk w).bp.sets = []
  · have he := hidden_noneOfP h hsets hj
    obtain ⟨⟨v, rfl⟩, hwt⟩ := delOK_noneOfP hd hsets hpd he
    rw [if_pos hj]
    exact proj_deliver_hidden_parts_p h hpd hsets he hwt hj hs
  · rw [if_neg hj]
    exact proj_deliver_visible h hpd hsets hj hs

section
set_option linter.unusedVariables false

/-- `hsets` and `he` are not used, here and in `proj_deliver_noneOfP_c` -/
theorem proj_deliver_noneOfP_p {M : Nat} {p : Int} {sN sN' : SysN} {s : Sys} {w : Nat} {still : Bool}
    {sent : List Pipeline.Tok} {rest : List (List Pipeline.Tok)}
    (h : WRel (BRp p) p sN s) (hd : delOK p sN w = true)
    (hsets : (sN.wk w).bp.sets = sent :: rest) (he : projL p sent = [])
    (hs : sysStepN M sN (.deliver w still) = some sN') :
    WRel (BRp p) p sN' s ∨ ∃ c' s', sysStep M s c' = some s' ∧ WRel (BRp p) p sN' s' :=
  (proj_deliver_c h hd hs).toOr

theorem proj_deliver_noneOfP_c {M : Nat} {p : Int} {sN sN' : SysN} {s : Sys} {w : Nat} {still : Bool}
    {sent : List Pipeline.Tok} {rest : List (List Pipeline.Tok)}
    (h : WRel (BRp p) p sN s) (hd : delOK p sN w = true)
    (hsets : (sN.wk w).bp.sets = sent :: rest) (he : projL p sent = [])
    (hs : sysStepN M sN (.deliver w still) = some sN') :
    ((s.wk w).bp.sets = [] ∧ WRel (BRp p) p sN' s) ∨
      ((s.wk w).bp.sets ≠ [] ∧ ∃ s', sysStep M s (.deliver w still) = some s' ∧ WRel (BRp p) p sN' s') := by
  have c := proj_deliver_c h hd hs
  by_cases hj : (s.wk w).bp.sets = []
  · exact Or.inl ⟨hj, by rwa [if_pos hj] at c⟩
  · exact Or.inr ⟨hj, by rwa [if_neg hj] at c⟩

end

theorem visible_of_ne {p : Int} {sN : SysN} {s : Sys} {w : Nat} {sent : List Pipeline.Tok}
    {rest : List (List Pipeline.Tok)} (h : WRel (BRp p) p sN s) (hsets : (sN.wk w).bp.sets = sent :: rest)
    (hne : projL p sent ≠ []) : (s.wk w).bp.sets ≠ [] := fun hj => hne (hidden_noneOfP h hsets hj)

theorem proj_deliver_visible_conn_j {M : Nat} {p : Int} {sN sN' : SysN} {s : Sys} {w : Nat} {still : Bool}
    {a : Bool} {base : Int → Nat} {sent : List Pipeline.Tok} {rest : List (List Pipeline.Tok)}
    (h : WRel (BRp p) p sN s) (hpd : (sN.wk w).pend = some (.conn a, base))
    (hsets : (sN.wk w).bp.sets = sent :: rest) (hj : (s.wk w).bp.sets ≠ [])
    (hs : sysStepN M sN (.deliver w still) = some sN') :
    ∃ s', sysStep M s (.deliver w still) = some s' ∧ WRel (BRp p) p sN' s' :=
  proj_deliver_visible h hpd hsets hj hs

theorem proj_deliver_visible_parts_p {M : Nat} {p : Int} {sN sN' : SysN} {s : Sys} {w : Nat} {still : Bool}
    {v : Int → Pipeline.Verdict} {base : Int → Nat} {sent : List Pipeline.Tok} {rest : List (List Pipeline.Tok)}
    (h : WRel (BRp p) p sN s) (hpd : (sN.wk w).pend = some (.parts v, base))
    (hsets : (sN.wk w).bp.sets = sent :: rest) (hne : projL p sent ≠ [])
    (hs : sysStepN M sN (.deliver w still) = some sN') :
    ∃ s', sysStep M s (.deliver w still) = some s' ∧ WRel (BRp p) p sN' s' :=
  proj_deliver_visible h hpd hsets (visible_of_ne h hsets hne) hs

theorem proj_deliver_visible_conn_p {M : Nat} {p : Int} {sN sN' : SysN} {s : Sys} {w : Nat} {still : Bool}
    {a : Bool} {base : Int → Nat} {sent : List Pipeline.Tok} {rest : List (List Pipeline.Tok)}
    (h : WRel (BRp p) p sN s) (hpd : (sN.wk w).pend = some (.conn a, base))
    (hsets : (sN.wk w).bp.sets = sent :: rest) (hne : projL p sent ≠ [])
    (hs : sysStepN M sN (.deliver w still) = some sN') :
    ∃ s', sysStep M s (.deliver w still) = some s' ∧ WRel (BRp p) p sN' s' :=
  proj_deliver_visible h hpd hsets (visible_of_ne h hsets hne) hs

theorem proj_deliver_hidden_conn_core {M : Nat} {p : Int} {sN sN' : SysN} {s : Sys} {w : Nat} {still : Bool}
    {a : Bool} {base : Int → Nat} {sent : List Pipeline.Tok} {rest : List (List Pipeline.Tok)} (B1 : St)
    (h : WRel (BRp p) p sN s) (hpd : (sN.wk w).pend = some (.conn a, base))
    (hsets : (sN.wk w).bp.sets = sent :: rest) (he : projL p sent = [])
    (hbuf : projL p (sN.wk w).bp.buffer = []) (hwt : projWait p (sN.wk w).bp.wait = none)
    (hj : (s.wk w).bp.sets = [])
    (hB1 : B1.closing = true ∧ B1.cr = (s.wk w).bp.cr ∧ B1.buffer = [] ∧ B1.wait = none ∧ B1.sets = [])
    (hs : sysStepN M sN (.deliver w still) = some sN') :
    WRel (BRp p) p sN' { s with wk := setW s.wk w ⟨(s.wk w).inq, B1, none⟩ } := by
  have sa := (h.br w).seenAs
  obtain ⟨a0, c⟩ := resp_hidden_conn_seenAs M still hsets he hbuf hwt sa
  obtain ⟨b1, b2, b3, b4, b5⟩ := hB1
  have c' : SeenAs p (resp M (sN.wk w).bp (.connErr [] []) still).1 B1 :=
    ⟨b1.trans c.closing, b2.trans c.cr, (b3.trans (sa.buffer.trans hbuf).symm).trans c.buffer,
      (b4.trans (sa.wait.trans hwt).symm).trans c.wait⟩
  exact bpRunN_lift h (deliverN_run hpd hs) ⟨_, B1, none⟩ (h.inq w) (A1 := [])
    (congrArg (List.map relabA) a0).symm
    (brp_after_hidden h hsets hj _ still c' b5 rfl)

theorem proj_deliver_hidden_conn_closeW_p {M : Nat} {p : Int} {sN sN' : SysN} {s : Sys} {w : Nat} {still : Bool}
    {a : Bool} {base : Int → Nat} {sent : List Pipeline.Tok} {rest : List (List Pipeline.Tok)}
    (h : WRel (BRp p) p sN s) (hpd : (sN.wk w).pend = some (.conn a, base))
    (hsets : (sN.wk w).bp.sets = sent :: rest) (he : projL p sent = [])
    (hbuf : projL p (sN.wk w).bp.buffer = []) (hwt : projWait p (sN.wk w).bp.wait = none)
    (hj : (s.wk w).bp.sets = [])
    (hcur : sN.cur p = some w) (hsyn : headSyn (projQ p (sN.wk w).inq) = false)
    (hcl : (sN.wk w).bp.closing = false) (hcr : (sN.wk w).bp.cr p = false)
    (hs : sysStepN M sN (.deliver w still) = some sN') :
    ∃ s', sysStep M s (.closeW w) = some s' ∧ WRel (BRp p) p sN' s' := by
  obtain ⟨_, hjp⟩ := brp_hidden (h.br w) hj (hsets ▸ List.cons_ne_nil _ _)
  have hb := (h.br w).seenAs
  have hcan : canClose s w = true := by
    simp only [canClose, Bool.and_eq_true, decide_eq_true_eq, Bool.not_eq_true']
    refine ⟨⟨⟨⟨⟨⟨⟨?_, ?_⟩, ?_⟩, ?_⟩, ?_⟩, ?_⟩, ?_⟩, ?_⟩
    · rw [h.cur, hcur]
    · rw [h.inq w]; exact hsyn
    · rw [hb.closing]; exact hcl
    · rw [hb.cr]; simpa [projB] using hcr
    · rw [hj]; rfl
    · rw [hb.buffer, hbuf]; rfl
    · rw [hb.wait, hwt]; rfl
    · rw [hjp]; rfl
  exact ⟨_, step_iff.2 (.closeW hcan),
    proj_deliver_hidden_conn_core { (s.wk w).bp with closing := true } h hpd hsets he hbuf hwt hj
      ⟨rfl, rfl, hb.buffer.trans hbuf, hb.wait.trans hwt, hj⟩ hs⟩

theorem proj_deliver_hidden_conn_closing_p {M : Nat} {p : Int} {sN sN' : SysN} {s : Sys} {w : Nat} {still : Bool}
    {a : Bool} {base : Int → Nat} {sent : List Pipeline.Tok} {rest : List (List Pipeline.Tok)}
    (h : WRel (BRp p) p sN s) (hpd : (sN.wk w).pend = some (.conn a, base))
    (hsets : (sN.wk w).bp.sets = sent :: rest) (he : projL p sent = [])
    (hbuf : projL p (sN.wk w).bp.buffer = []) (hwt : projWait p (sN.wk w).bp.wait = none)
    (hj : (s.wk w).bp.sets = []) (hcl : (sN.wk w).bp.closing = true)
    (hs : sysStepN M sN (.deliver w still) = some sN') : WRel (BRp p) p sN' s := by
  obtain ⟨_, hjp⟩ := brp_hidden (h.br w) hj (hsets ▸ List.cons_ne_nil _ _)
  have hb := (h.br w).seenAs
  have W := proj_deliver_hidden_conn_core (s.wk w).bp h hpd hsets he hbuf hwt hj
    ⟨hb.closing.trans hcl, rfl, hb.buffer.trans hbuf, hb.wait.trans hwt, hj⟩ hs
  rwa [show (⟨(s.wk w).inq, (s.wk w).bp, none⟩ : Worker) = s.wk w by rw [← hjp], setW_self] at W

end Props.C02sys
