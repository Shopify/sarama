import SaramaVerif.Model.LifecycleGrp
import SaramaVerif.Props.C12lifeRun
/-
  C12 for the consumer group and the session that holds its lock (acceptor `Grp` of Model/LifecycleGrp.lean).
-/
namespace Props.C12life
open Model.Lifecycle Lemmas.Acceptor

namespace Grp
open Model.Lifecycle.Grp

local macro "acc" h:ident : tactic =>
  `(tactic| (simp only [step] at $h:ident <;> (repeat' split at $h:ident) <;>
      first | (cases $h:ident; done) | (injection $h:ident with $h:ident; subst $h:ident; simp_all)))

def isSessStart : Ev → Prop | .sessStart _ => True | _ => False
def isClaimAdd : Ev → Bool | .claimAdd _ => true | _ => false
def isClaimDone : Ev → Bool | .claimDone _ => true | _ => false
attribute [local simp] isSessStart isClaimAdd isClaimDone

/-- Each flag of the running session is set by one event and cleared by the start of the next session.  Three derived
    flags carry what needs two fields: `cleanable` (Cleanup after the claims are joined and before the offset manager is
    closed), `dyingOpen` and `deadOpen` (`hbDying`, `hbDead` are open from the start of a session to their close; taking
    or giving back the Consume lock drops the session and so ends that too). -/
structure Flags (s : St) (e : Ev) (s' : St) : Prop where
  closed : s'.closed = true ↔ s.closed = true ∨ e = .closedClose
  left : s'.left = true ↔ s.left = true ∨ e = .leaveUnlock
  errs : s'.errsClosed = true ↔ s.errsClosed = true ∨ e = .errorsClose
  client : s'.clientClosed = true ↔ s.clientClosed = true ∨ e = .clientClose
  leaving : decide (s'.lock = .leave) = true → (decide (s.lock = .leave) = true ∧ ¬ e = .leaveUnlock) ∨ e = .leaveLock
  releasing : s'.releasing = true → (s.releasing = true ∧ ¬ isSessStart e) ∨ ∃ n, e = .release n
  joined : s'.joined = true → (s.joined = true ∧ ¬ isSessStart e) ∨ ∃ n, e = .claimsJoined n
  cleanable : (s'.joined && !s'.omClosed) = true →
    ((s.joined && !s.omClosed) = true ∧ ¬ (isSessStart e ∨ ∃ n, e = .offsetsClose n)) ∨ ∃ n, e = .claimsJoined n
  omClosed : s'.omClosed = true → (s.omClosed = true ∧ ¬ isSessStart e) ∨ ∃ n, e = .offsetsClose n
  hbDying : s'.hbDying = true → (s.hbDying = true ∧ ¬ isSessStart e) ∨ ∃ n, e = .hbDyingClose n
  hbDead : s'.hbDead = true → (s.hbDead = true ∧ ¬ isSessStart e) ∨ ∃ n, e = .hbDeadClose n
  hbRecv : s'.hbRecv = true → (s.hbRecv = true ∧ ¬ isSessStart e) ∨ ∃ n, e = .hbDeadRecv n
  dyingOpen : (s'.sess.isSome && !s'.hbDying) = true → ((s.sess.isSome && !s.hbDying) = true ∧
    ¬ ((∃ n, e = .hbDyingClose n) ∨ e = .consumeLock ∨ e = .consumeUnlock)) ∨ isSessStart e
  deadOpen : (s'.sess.isSome && !s'.hbDead) = true → ((s.sess.isSome && !s.hbDead) = true ∧
    ¬ ((∃ n, e = .hbDeadClose n) ∨ e = .consumeLock ∨ e = .consumeUnlock)) ∨ isSessStart e
  claims : ¬ isSessStart e → s'.claims = s.claims + (if isClaimAdd e then 1 else 0)
  claimsDone : ¬ isSessStart e → s'.claimsDone = s.claimsDone + (if isClaimDone e then 1 else 0)

theorem flags {s : St} {e : Ev} {s' : St} (h : step s e = .ok s') : Flags s e s' := by
  revert h
  -- a clause of a flag that the event neither sets nor resets is `flag_kept`; the others compute
  cases e <;> unfold step <;> accepted <;> constructor <;> first | exact flag_kept (by simp) | simp

theorem closed_latch : Latch step (·.closed) (· = .closedClose) := fun _ _ _ h => (flags h).closed
theorem left_latch : Latch step (·.left) (· = .leaveUnlock) := fun _ _ _ h => (flags h).left
theorem errs_latch : Latch step (·.errsClosed) (· = .errorsClose) := fun _ _ _ h => (flags h).errs
theorem client_latch : Latch step (·.clientClosed) (· = .clientClose) := fun _ _ _ h => (flags h).client

/-- the group's `closed` and `errors` channels are closed at most once (closeOnce); per session `hbDying` and
    `hbDead` are closed at most once: each close is preceded by the start of its session with no other close of
    the same channel (and no change of the Consume lock) in between -/
theorem never_double_close_group {evs : List Ev} {s : St} (h : run {} evs = .ok s) :
    evs.count .closedClose ≤ 1 ∧ evs.count .errorsClose ≤ 1 ∧
    Precedes isSessStart (fun e => (∃ n, e = .hbDyingClose n) ∨ e = .consumeLock ∨ e = .consumeUnlock) (fun e => ∃ n, e = .hbDyingClose n) evs ∧
    Precedes isSessStart (fun e => (∃ n, e = .hbDeadClose n) ∨ e = .consumeLock ∨ e = .consumeUnlock) (fun e => ∃ n, e = .hbDeadClose n) evs :=
  ⟨closed_latch.count_le_one (by intro s s'; unfold step; accepted; simp_all) h, errs_latch.count_le_one (by intro s s'; unfold step; accepted; simp_all) h,
    needs (fun s : St => s.sess.isSome && !s.hbDying) _ _ _ {} rfl (fun _ _ _ h => Flags.dyingOpen (flags h))
      (by rintro s _ s' ⟨n, rfl⟩; unfold step; accepted; simp_all) h,
    needs (fun s : St => s.sess.isSome && !s.hbDead) _ _ _ {} rfl (fun _ _ _ h => Flags.deadOpen (flags h))
      (by rintro s _ s' ⟨n, rfl⟩; unfold step; accepted; simp_all) h⟩

/-- nothing is sent on the group's errors channel after it was closed -/
theorem no_send_after_close_group {pre post : List Ev} {s : St} (h : run {} (pre ++ .errorsClose :: post) = .ok s) :
    ∀ e ∈ post, e ≠ .errorsSend :=
  errs_latch.none_after (by rintro s _ s' rfl; unfold step; accepted; simp_all) h rfl

structure GInv (s : St) : Prop where
  lock_sess : s.lock ≠ .consume → s.sess = none
  claims_le : s.claimsDone ≤ s.claims

theorem init_inv : GInv {} := ⟨by simp, by simp⟩
theorem step_inv (s : St) (e : Ev) (s' : St) (hi : GInv s) (h : step s e = .ok s') : GInv s' := by
  obtain ⟨h1, h2⟩ := hi
  revert h
  cases e <;> unfold step <;> accepted <;> constructor <;> first | assumption | (dsimp only; omega) | simp_all
theorem reach_inv {evs : List Ev} {s : St} (h : run {} evs = .ok s) : GInv s :=
  runs.inv GInv step_inv h init_inv

theorem released_or_running {l r : List Ev} {n : Nat} {s : St} (h : run {} (l ++ .sessStart n :: r) = .ok s) :
    .releaseDone n ∈ r ∨ (s.sess = some n ∧ s.released = false) := by
  obtain ⟨s2, s3, h2, h4, h5⟩ := runs.mid h
  have h0 : s3.sess = some n ∧ s3.released = false := by revert h4; unfold step; accepted; simp
  have key := (runs (step := step)).hist
    (fun hst (s : St) => GInv s ∧ (.releaseDone n ∈ hst ∨ (s.sess = some n ∧ s.released = false)))
    (by
      intro hst s e s' ⟨hi, ih⟩ hs
      refine ⟨step_inv s e s' hi hs, ?_⟩
      rcases ih with hm | ⟨hs1, hs2⟩
      · left; simp [hm]
      · -- only `releaseDone n` ends the session: the lock keeps Consume and leave() out, a new session needs `sess = none`
        have hl := hi.lock_sess
        revert hs
        cases e <;> unfold step <;> accepted <;> first | exact .inr ⟨hs1, hs2⟩ | simp_all)
    (h0 := []) h5 ⟨step_inv _ _ _ (reach_inv h2) h4, .inr h0⟩
  exact key.2

/-- the group's Errors channel is closed only after leave(), leave() takes the lock only when no session is running:
    every session that was started before has been released completely (release returned); and no session is
    started after leave() -/
theorem outputs_closed_after_last_event_group {evs : List Ev} {s : St} (h : run {} evs = .ok s) :
    Precedes (· = .leaveUnlock) (fun _ => False) (· = .errorsClose) evs ∧
    (∀ pre post, evs = pre ++ .leaveLock :: post → ∀ l n r, pre = l ++ .sessStart n :: r → .releaseDone n ∈ r) ∧
    (∀ pre post, evs = pre ++ .leaveUnlock :: post → ∀ e ∈ post, ∀ n, e ≠ .sessStart n) := by
  refine ⟨left_latch.precedes rfl (by rintro s _ s' rfl; unfold step; accepted; simp_all) h, ?_, ?_⟩
  · intro pre post he l n r hp
    subst he hp
    obtain ⟨s1, _, h1, h3, _⟩ := runs.mid h
    have hfree : s1.lock = .free := by revert h3; unfold step; accepted; simp_all
    have hnone : s1.sess = none := (reach_inv h1).lock_sess (by simp [hfree])
    exact (released_or_running h1).resolve_right (by simp [hnone])
  · intro pre post he e hmem n hc
    subst he
    exact left_latch.none_after (pb := fun e => ∃ n, e = .sessStart n)
      (by rintro s _ s' ⟨n, rfl⟩; unfold step; accepted; simp_all) h rfl e hmem ⟨n, hc⟩

/-- ConsumerGroup.Close: closed closed → leave under the lock → errors closed → client closed → done -/
theorem close_order_group {evs : List Ev} {s : St} (h : run {} evs = .ok s) :
    Precedes (· = .closedClose) (fun _ => False) (· = .leaveLock) evs ∧
    Precedes (· = .leaveLock) (fun e => e = .leaveUnlock) (· = .leaveUnlock) evs ∧
    Precedes (· = .leaveUnlock) (fun _ => False) (· = .errorsClose) evs ∧
    Precedes (· = .errorsClose) (fun _ => False) (· = .clientClose) evs ∧
    Precedes (· = .clientClose) (fun _ => False) (· = .closeDone) evs :=
  ⟨closed_latch.precedes rfl (by rintro s _ s' rfl; unfold step; accepted; simp_all) h,
    needs (fun s : St => decide (s.lock = .leave)) _ _ _ {} rfl (fun _ _ _ h => Flags.leaving (flags h))
      (by rintro s _ s' rfl; unfold step; accepted; simp_all) h,
    (outputs_closed_after_last_event_group h).1,
    errs_latch.precedes rfl (by rintro s _ s' rfl; unfold step; accepted; simp_all) h, client_latch.precedes rfl (by rintro s _ s' rfl; unfold step; accepted; simp_all) h⟩

/-- release of a session: cancel → claim goroutines joined → Cleanup (before the offset manager is closed) →
    offsets.Close → hbDying closed → hbDead awaited (the heartbeat loop has closed it) → release returns; each step
    with no start of a session since the one before it (the session numbers that the events carry are not compared) -/
theorem close_order_session {evs : List Ev} {s : St} (h : run {} evs = .ok s) :
    Precedes (fun e => ∃ n, e = .release n) isSessStart (fun e => ∃ n, e = .claimsJoined n) evs ∧
    Precedes (fun e => ∃ n, e = .claimsJoined n) (fun e => isSessStart e ∨ ∃ n, e = .offsetsClose n) (fun e => ∃ n, e = .cleanup n) evs ∧
    Precedes (fun e => ∃ n, e = .claimsJoined n) isSessStart (fun e => ∃ n, e = .offsetsClose n) evs ∧
    Precedes (fun e => ∃ n, e = .offsetsClose n) isSessStart (fun e => ∃ n, e = .hbDyingClose n) evs ∧
    Precedes (fun e => ∃ n, e = .hbDyingClose n) isSessStart (fun e => ∃ n, e = .hbDeadRecv n) evs ∧
    Precedes (fun e => ∃ n, e = .hbDeadClose n) isSessStart (fun e => ∃ n, e = .hbDeadRecv n) evs ∧
    Precedes (fun e => ∃ n, e = .hbDeadRecv n) isSessStart (fun e => ∃ n, e = .releaseDone n) evs :=
  ⟨needs (·.releasing) _ _ _ {} rfl (fun _ _ _ h => Flags.releasing (flags h)) (by rintro s _ s' ⟨n, rfl⟩; unfold step; accepted; simp_all) h,
    needs (fun s : St => s.joined && !s.omClosed) _ _ _ {} rfl (fun _ _ _ h => Flags.cleanable (flags h))
      (by rintro s _ s' ⟨n, rfl⟩; unfold step; accepted; simp_all) h,
    needs (·.joined) _ _ _ {} rfl (fun _ _ _ h => Flags.joined (flags h)) (by rintro s _ s' ⟨n, rfl⟩; unfold step; accepted; simp_all) h,
    needs (·.omClosed) _ _ _ {} rfl (fun _ _ _ h => Flags.omClosed (flags h)) (by rintro s _ s' ⟨n, rfl⟩; unfold step; accepted; simp_all) h,
    needs (·.hbDying) _ _ _ {} rfl (fun _ _ _ h => Flags.hbDying (flags h)) (by rintro s _ s' ⟨n, rfl⟩; unfold step; accepted; simp_all) h,
    needs (·.hbDead) _ _ _ {} rfl (fun _ _ _ h => Flags.hbDead (flags h)) (by rintro s _ s' ⟨n, rfl⟩; unfold step; accepted; simp_all) h,
    needs (·.hbRecv) _ _ _ {} rfl (fun _ _ _ h => Flags.hbRecv (flags h)) (by rintro s _ s' ⟨n, rfl⟩; unfold step; accepted; simp_all) h⟩

theorem claims_count {l r : List Ev} {n : Nat} {s : St} (h : run {} (l ++ .sessStart n :: r) = .ok s) (hno : ∀ m, .sessStart m ∉ r) :
    s.claims = r.countP isClaimAdd ∧ s.claimsDone = r.countP isClaimDone := by
  obtain ⟨_, s1, _, h1, h2⟩ := runs.mid h
  have h0 : s1.claims = 0 ∧ s1.claimsDone = 0 := by revert h1; unfold step; accepted; simp
  have hr : ∀ x ∈ r, ¬ isSessStart x := fun x hx hc => by cases x <;> first | exact hc | exact hno _ hx
  have ha := runs.counts (·.claims) isClaimAdd (fun _ => false) isSessStart (fun _ _ _ hn h => by simpa using Flags.claims (flags h) hn) h2 hr
  have hd := runs.counts (·.claimsDone) isClaimDone (fun _ => false) isSessStart (fun _ _ _ hn h => by simpa using Flags.claimsDone (flags h) hn) h2 hr
  simpa [h0] using And.intro ha hd

/-- when waitGroup.Wait() returns in release, every ConsumeClaim goroutine of the session has returned -/
theorem claims_joined_after_all_claims_done {pre : List Ev} {n : Nat} {s : St} (h : run {} (pre ++ [.claimsJoined n]) = .ok s) :
    ∀ l r, pre = l ++ .sessStart n :: r → (∀ m, .sessStart m ∉ r) → r.countP isClaimDone = r.countP isClaimAdd := by
  intro l r he hno
  subst he
  obtain ⟨s1, _, h1, h3, _⟩ := runs.mid h
  have hp : s1.claimsDone = s1.claims := by revert h3; unfold step; accepted; simp_all
  have := claims_count h1 hno
  omega

/-- after Close started (closed closed) some goroutine of the group can always move until Close is done -/
theorem no_deadlock_after_close_group {evs : List Ev} {s : St} (h : run {} evs = .ok s) (hc : s.closed = true) (hd : s.done = false) :
    ∃ e s', internal e = true ∧ step s e = .ok s' := by
  have hi := reach_inv h
  cases hl : s.lock with
  | leave => exact enabled .leaveUnlock rfl (by simp [step, hl])
  | free =>
    by_cases h1 : s.left = true
    · by_cases h2 : s.errsClosed = true
      · by_cases h3 : s.clientClosed = true
        · exact enabled .closeDone rfl (by simp [step, h3, hd])
        · exact enabled .clientClose rfl (by simp [step, h2, h3])
      · exact enabled .errorsClose rfl (by simp [step, h1, h2])
    · exact enabled .leaveLock rfl (by simp [step, hc, hl, h1])
  | consume =>
    cases hs : s.sess with
    | none => exact enabled .consumeUnlock rfl (by simp [step, hl, hs])
    | some n =>
      by_cases h1 : s.released = true
      · exact enabled .consumeUnlock rfl (by simp [step, hl, hs, h1])
      by_cases h2 : s.hbRecv = true
      · exact enabled (.releaseDone n) rfl (by simp [step, hs, h2])
      by_cases h3 : s.hbDying = true
      · by_cases h4 : s.hbDead = true
        · exact enabled (.hbDeadRecv n) rfl (by simp [step, hs, h3, h4])
        · exact enabled (.hbDeadClose n) rfl (by simp [step, hs, h4])
      by_cases h4 : s.omClosed = true
      · exact enabled (.hbDyingClose n) rfl (by simp [step, hs, h3, h4])
      by_cases h5 : s.joined = true
      · exact enabled (.offsetsClose n) rfl (by simp [step, hs, h4, h5])
      by_cases h6 : s.releasing = true
      · by_cases h7 : s.claimsDone = s.claims
        · exact enabled (.claimsJoined n) rfl (by simp [step, hs, h6, h7])
        · have := hi.claims_le
          have h8 : ¬ s.claims ≤ s.claimsDone := by omega
          exact enabled (.claimDone n) rfl (by simp [step, hs, h8])
      · exact enabled (.release n) rfl (by simp [step, hs])

example : accepts step {} [.consumeLock, .sessStart 1, .claimAdd 1, .claimAdd 1, .errorsSend, .closedClose, .claimDone 1, .release 1,
    .claimDone 1, .claimsJoined 1, .cleanup 1, .offsetsClose 1, .hbDyingClose 1, .hbDeadClose 1, .hbDeadRecv 1, .releaseDone 1,
    .consumeUnlock, .leaveLock, .leaveUnlock, .errorsClose, .clientClose, .closeDone] = true := rfl
example : accepts step {} [.consumeLock, .sessStart 1, .release 1, .claimsJoined 1, .offsetsClose 1, .hbDyingClose 1, .hbDeadRecv 1] = false := rfl  -- release did not wait for the heartbeat loop
example : accepts step {} [.consumeLock, .sessStart 1, .closedClose, .leaveLock] = false := rfl    -- leave while a session holds the lock
example : accepts step {} [.closedClose, .leaveLock, .leaveUnlock, .errorsClose, .errorsSend] = false := rfl
example : accepts step {} [.closedClose, .closedClose] = false := rfl
end Grp

end Props.C12life
