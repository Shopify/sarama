/-
  C02 composition, SEVERAL PARTITIONS (`Model.PipelineN`) and their projections on one partition.
  A run with several partitions is followed, partition by partition, by a run of the one-partition model
  `Model.Pipeline`: the shared FIFOs project by filtering on the partition and relabelling it to 0 (`projQ`), a step
  that concerns another partition is no step of the projection, a step that concerns `p` is the same step.
  `ProjSim` states this for a whole run and every partition with no side condition: OPEN.  It is what the projection
  replay checks for every partition of every real run with several partitions; `log_order_every_partition` is LogOrder
  for every partition, from `ProjSim`.  What is proved is the projection under two DECIDABLE side conditions checked
  along the run (`brOK`: every broker answer is well-formed for `p` and, if it appends for `p`, comes from the leader
  of `p`; `delOK`: no `deliver` of a connection error, or while a message of `p` is held, for a set that holds nothing
  of `p`), and LogOrder for every partition of a run that passes the checks.
  This file: the state outside the workers (`QRel`) and the steps that do not involve workers (`proj_plain_choice`);
  `exTwo`, two partitions sharing a worker, the example the later files are instantiated on.
-/
import SaramaVerif.Model.PipelineN
import SaramaVerif.Lemmas.C02sysBP
import SaramaVerif.Props.C02bp

namespace Props.C02sys
open Model Model.Pipeline Model.PipelineN Lemmas.C02sys

def relab (t : Pipeline.Tok) : Pipeline.Tok := { t with part := 0 }

def projQ (p : Int) (l : List Pipeline.Tok) : List Pipeline.Tok := (l.filter (fun t => t.part == p)).map relab

theorem projQ_append (p : Int) (a b : List Pipeline.Tok) : projQ p (a ++ b) = projQ p a ++ projQ p b := by
  simp [projQ]

theorem projQ_cons_same {p : Int} {t : Pipeline.Tok} (h : t.part = p) (l : List Pipeline.Tok) : projQ p (t :: l) = relab t :: projQ p l := by
  simp [projQ, h]

theorem projQ_cons_other {p : Int} {t : Pipeline.Tok} (h : t.part ≠ p) (l : List Pipeline.Tok) : projQ p (t :: l) = projQ p l := by
  simp [projQ, h]

theorem projQ_push_other (p : Int) (l : List Pipeline.Tok) {t : Pipeline.Tok} (ht : t.part ≠ p) :
    projQ p (l ++ [t]) = projQ p l := by
  rw [projQ_append, projQ_cons_other ht]; exact List.append_nil _

theorem projQ_push_same (p : Int) (l : List Pipeline.Tok) {t : Pipeline.Tok} (ht : t.part = p) :
    projQ p (l ++ [t]) = projQ p l ++ [relab t] := by
  rw [projQ_append, projQ_cons_same ht]; rfl

theorem upd_same {α : Type} (f : Int → α) (p : Int) (v : α) : PipelineN.upd f p v p = v := if_pos rfl

theorem upd_other {α : Type} (f : Int → α) {q p : Int} (h : q ≠ p) (v : α) : PipelineN.upd f q v p = f p :=
  if_neg (Ne.symm h)

theorem setCr_other (c : Int → Bool) {q p : Int} (h : q ≠ p) (v : Bool) : BrokerProd.setCr c q v p = c p :=
  upd_other c h v

/-- what the one-partition state `s` shares with partition `p` of the state `sN` outside the workers -/
structure QRel (p : Int) (sN : SysN) (s : Sys) : Prop where
  next : s.next = sN.next p
  dq   : s.dq = projQ p sN.dq
  pq   : s.pq = projQ p (sN.pq p)
  pp   : s.pp = sN.pp p
  ret  : s.ret = projQ p sN.ret
  ldr  : s.ldr = sN.ldr p
  log  : s.log = sN.log p
  succ : s.succ = sN.succ p
  errs : s.errs = sN.errs p
  pqp  : ∀ q, ∀ t ∈ sN.pq q, t.part = q

theorem qrel_init (p : Int) : QRel p {} {} :=
  ⟨rfl, rfl, rfl, rfl, rfl, rfl, rfl, rfl, rfl, fun _ _ h => by cases h⟩

def plainChoice (p : Int) (sN : SysN) : ChoiceN → Option Choice
  | .submit q => if q = p then some .submit else none
  | .retryOut => match sN.ret with
    | t :: _ => if t.part = p then some .retryOut else none
    | [] => none
  | .dispatch => match sN.dq with
    | t :: _ => if t.part = p then some .dispatch else none
    | [] => none
  | .moveLeader q b => if q = p then some (.moveLeader b) else none
  | _ => none

theorem proj_plain_choice {M : Nat} {p : Int} {sN sN' : SysN} {s : Sys} (h : QRel p sN s) (c : ChoiceN)
    (hc : (∃ q, c = .submit q) ∨ c = .retryOut ∨ c = .dispatch ∨ ∃ q b, c = .moveLeader q b)
    (hs : sysStepN M sN c = some sN') :
    match plainChoice p sN c with
    | none => QRel p sN' s
    | some c' => ∃ s', sysStep M s c' = some s' ∧ QRel p sN' s' ∧ s'.wk = s.wk ∧ s'.cur = s.cur := by
  rcases hc with ⟨q, rfl⟩ | rfl | rfl | ⟨q, b, rfl⟩
  · cases hs
    by_cases hq : q = p
    · subst hq
      simp only [plainChoice, if_true]
      refine ⟨_, rfl, { h with next := by simp only [upd_same, h.next], dq := ?_ }, rfl, rfl⟩
      dsimp only
      rw [projQ_push_same q _ (t := mkTokP q _ 0 false) rfl, h.dq, h.next]; rfl
    · simp only [plainChoice, hq, if_false]
      refine { h with next := h.next.trans (upd_other _ hq _).symm, dq := ?_ }
      dsimp only
      rw [projQ_push_other _ _ (show (mkTokP q _ 0 false).part ≠ p from hq)]; exact h.dq
  · cases hr : sN.ret with
    | nil => simp [sysStepN, hr] at hs
    | cons t r =>
      simp only [sysStepN, hr, Option.some.injEq] at hs; subst hs
      by_cases ht : t.part = p
      · have hr' : s.ret = relab t :: projQ p r := by rw [h.ret, hr, projQ_cons_same ht]
        simp only [plainChoice, hr, ht, if_true]
        exact ⟨_, step_iff.2 (.retryOut hr'),
          { h with ret := rfl, dq := by dsimp only; rw [projQ_push_same _ _ ht, h.dq] }, rfl, rfl⟩
      · simp only [plainChoice, hr, ht, if_false]
        exact { h with ret := by rw [h.ret, hr, projQ_cons_other ht],
                       dq := by dsimp only; rw [projQ_push_other _ _ ht]; exact h.dq }
  · cases hd : sN.dq with
    | nil => simp [sysStepN, hd] at hs
    | cons t r =>
      simp only [sysStepN, hd, Option.some.injEq] at hs; subst hs
      have hpqp : ∀ q, ∀ x ∈ PipelineN.upd sN.pq t.part (sN.pq t.part ++ [t]) q, x.part = q := by
        intro q x hx
        by_cases hq : q = t.part
        · subst hq
          rw [upd_same] at hx
          rcases List.mem_append.1 hx with e | e
          · exact h.pqp _ x e
          · rw [List.mem_singleton.1 e]
        · rw [upd_other _ (Ne.symm hq)] at hx; exact h.pqp q x hx
      by_cases ht : t.part = p
      · subst ht
        have hd' : s.dq = relab t :: projQ t.part r := by rw [h.dq, hd, projQ_cons_same rfl]
        simp only [plainChoice, hd, if_true]
        exact ⟨_, step_iff.2 (.dispatch hd'),
          { h with dq := rfl, pqp := hpqp,
                   pq := by dsimp only; rw [upd_same, projQ_push_same _ _ rfl, h.pq] }, rfl, rfl⟩
      · simp only [plainChoice, hd, ht, if_false]
        exact { h with dq := by rw [h.dq, hd, projQ_cons_other ht], pqp := hpqp,
                       pq := h.pq.trans (congrArg (projQ p) (upd_other _ ht _).symm) }
  · cases hs
    by_cases hq : q = p
    · subst hq
      simp only [plainChoice, if_true]
      exact ⟨{ s with ldr := b }, rfl, { h with ldr := (upd_same ..).symm }, rfl, rfl⟩
    · simp only [plainChoice, hq, if_false]
      exact { h with ldr := h.ldr.trans (upd_other _ hq _).symm }

theorem proj_plain {M : Nat} {p : Int} {sN sN' : SysN} {s : Sys} (h : QRel p sN s) (c : ChoiceN)
    (hc : (∃ q, c = .submit q) ∨ c = .retryOut ∨ c = .dispatch ∨ ∃ q b, c = .moveLeader q b)
    (hs : sysStepN M sN c = some sN') :
    QRel p sN' s ∨ ∃ c' s', sysStep M s c' = some s' ∧ QRel p sN' s' ∧ s'.wk = s.wk ∧ s'.cur = s.cur := by
  have := proj_plain_choice h c hc hs
  split at this
  · exact Or.inl this
  · exact Or.inr ⟨_, this⟩

/-- every step of a worker conserves every partition separately (what leaves + what is inside afterwards = what was
    inside + what arrived, per partition) -/
theorem worker_step_partition_local (M : Nat) (b : BrokerProd.St) (i : BrokerProd.In) (h : Props.C02bp.PInv b) (p : Int) :
    Props.C02bp.outData p (BrokerProd.step M b i).2 ++
        Props.C02bp.ids (BrokerProd.onPart p (Props.C02bp.inside (BrokerProd.step M b i).1)) =
      Props.C02bp.ids (BrokerProd.onPart p (Props.C02bp.inside b)) ++ Props.C02bp.ids (Props.C02bp.dataArrived p b i) :=
  (Props.C02bp.step_fifo M b i h).1 p

/-! ### an instance: two partitions share worker 0; partition 1 gets a retriable error for its message while
    partition 0's message in the same set is acknowledged -/

def exTwo : List ChoiceN :=
  [.submit 0, .submit 1, .submit 0, .dispatch, .dispatch, .dispatch,
   .ppRecv 0 [some 0], .ppRecv 1 [some 0], .ppRecv 0 [],
   .bpRecv 0 false, .bpRecv 0 false, .bpRecv 0 false, .bpRecv 0 false, .bpRecv 0 false,
   .handover 0,
   .broker 0 (.parts (fun q => if q = 1 then .retriable false else .ok)), .deliver 0 false,
   .retryOut, .dispatch, .ppRecv 1 [some 0],
   .bpRecv 0 false, .retryOut, .dispatch, .ppRecv 1 [],
   .bpRecv 0 false, .bpRecv 0 false, .handover 0, .broker 0 (.parts (fun _ => .ok)), .deliver 0 false]

theorem exTwo_end0 : (runN 2 {} exTwo).map (fun s => (s.log 0, s.succ 0)) = some ([0, 1], [(0, 0), (1, 1)]) := by
  decide +kernel

theorem exTwo_runs : ∃ sN, runN 2 {} exTwo = some sN := by
  obtain ⟨sN, hr, _⟩ := Option.map_eq_some_iff.1 exTwo_end0
  exact ⟨sN, hr⟩

example : (runN 2 {} exTwo).map (fun s => (s.log 0, s.succ 0)) = some ([0, 1], [(0, 0), (1, 1)]) := exTwo_end0
example : (runN 2 {} exTwo).map (fun s => (s.log 1, s.succ 1, s.errs 0 ++ s.errs 1)) = some ([0], [(0, 0)], []) := by
  decide +kernel

end Props.C02sys
