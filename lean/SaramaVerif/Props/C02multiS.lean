/-
  System level: the relation between a state of the model with several partitions and its projection on partition `p`
  INCLUDING the workers, and the projection of the steps that leave the workers' inner states alone.
  `WRel BR p sN s` is `QRel`, the same current worker, every worker's input channel projected by filtering (`projQ`),
  and a relation `BR` between the workers' inner states: a parameter.  The steps proved here - those that do not
  involve workers (`proj_plain_wrel`) and those of the partition producers (`proj_ppRecv_other`: of ANOTHER partition,
  no step of the projection; `proj_ppRecv_own`: of `p`, the same `ppRecv` step) - need only that `BR` looks at the
  inner state (`InnerOnly`); the worker steps replace one worker, in both models (`WRel.setWk`) or in the model with
  several partitions only (`WRel.setWkN`).  The `BR` that every worker step keeps, `BRp p`, is in Props/C02multiB.lean.
-/
import SaramaVerif.Props.C02multi

namespace Props.C02sys
open Model Model.Pipeline Model.PipelineN Lemmas.C02sys

structure WRel (BR : WorkerN → Worker → Prop) (p : Int) (sN : SysN) (s : Sys) : Prop where
  q   : QRel p sN s
  cur : s.cur = sN.cur p
  inq : ∀ w, (s.wk w).inq = projQ p (sN.wk w).inq
  br  : ∀ w, BR (sN.wk w) (s.wk w)

def InnerOnly (BR : WorkerN → Worker → Prop) : Prop :=
  ∀ k k' j j', k'.bp = k.bp → k'.pend = k.pend → j'.bp = j.bp → j'.pend = j.pend → BR k j → BR k' j'

section
variable {BR : WorkerN → Worker → Prop} {M : Nat} {p : Int} {sN sN' : SysN} {s : Sys}

theorem setW_rel {R : WorkerN → Worker → Prop} {fN : Nat → WorkerN} {f : Nat → Worker} (hf : ∀ k, R (fN k) (f k))
    (w : Nat) {k' : WorkerN} {j' : Worker} (hw : R k' j') : ∀ k, R (setWN fN w k' k) (setW f w j' k) := by
  intro k
  simp only [setWN, setW]
  split
  · exact hw
  · exact hf k

theorem WRel.setWk (h : WRel BR p sN s) (w : Nat) {k' : WorkerN} {j' : Worker} (hinq : j'.inq = projQ p k'.inq)
    (hbr : BR k' j') : WRel BR p { sN with wk := setWN sN.wk w k' } { s with wk := setW s.wk w j' } :=
  ⟨{ h.q with }, h.cur, setW_rel (R := fun k j => j.inq = projQ p k.inq) h.inq w hinq, setW_rel h.br w hbr⟩

theorem WRel.setWkN (h : WRel BR p sN s) (w : Nat) {k' : WorkerN} (hinq : (s.wk w).inq = projQ p k'.inq)
    (hbr : BR k' (s.wk w)) : WRel BR p { sN with wk := setWN sN.wk w k' } s := by
  have := h.setWk w hinq hbr
  rwa [setW_self] at this

theorem WRel.frame {s' : Sys} (h : WRel BR p sN s) (hq : QRel p sN' s') (hcur : s'.cur = sN'.cur p)
    (hN : sN'.wk = sN.wk) (hS : s'.wk = s.wk) : WRel BR p sN' s' :=
  ⟨hq, hcur, by rw [hS, hN]; exact h.inq, by rw [hS, hN]; exact h.br⟩

theorem plainN_frame {M : Nat} {sN sN' : SysN} (c : ChoiceN)
    (hc : (∃ q, c = .submit q) ∨ c = .retryOut ∨ c = .dispatch ∨ ∃ q b, c = .moveLeader q b)
    (hs : sysStepN M sN c = some sN') : sN'.wk = sN.wk ∧ sN'.cur = sN.cur := by
  rcases hc with ⟨q, rfl⟩ | rfl | rfl | ⟨q, b, rfl⟩
  · cases hs; exact ⟨rfl, rfl⟩
  · simp only [sysStepN] at hs
    split at hs <;> cases hs
    exact ⟨rfl, rfl⟩
  · simp only [sysStepN] at hs
    split at hs <;> cases hs
    exact ⟨rfl, rfl⟩
  · cases hs; exact ⟨rfl, rfl⟩

theorem proj_plain_wrel (h : WRel BR p sN s) (c : ChoiceN)
    (hc : (∃ q, c = .submit q) ∨ c = .retryOut ∨ c = .dispatch ∨ ∃ q b, c = .moveLeader q b)
    (hs : sysStepN M sN c = some sN') :
    match plainChoice p sN c with
    | none => WRel BR p sN' s
    | some c' => ∃ s', sysStep M s c' = some s' ∧ WRel BR p sN' s' := by
  obtain ⟨fw, fc⟩ := plainN_frame c hc hs
  have := proj_plain_choice h.q c hc hs
  cases hpc : plainChoice p sN c with
  | none =>
    rw [hpc] at this
    exact h.frame this (fc ▸ h.cur) fw rfl
  | some c' =>
    rw [hpc] at this
    obtain ⟨s', h1, hq, e1, e2⟩ := this
    exact ⟨s', h1, h.frame hq (e2 ▸ fc ▸ h.cur) fw e1⟩

theorem WRel.push (hio : InnerOnly BR) (h : WRel BR p sN s) (w : Nat) {t : Pipeline.Tok} (ht : t.part = p) :
    WRel BR p { sN with wk := pushWN sN.wk w t } { s with wk := pushW s.wk w (relab t) } :=
  h.setWk w (by rw [projQ_push_same p _ ht, h.inq]) (hio (sN.wk w) _ (s.wk w) _ rfl rfl rfl rfl (h.br w))

theorem WRel.pushN (hio : InnerOnly BR) (h : WRel BR p sN s) (w : Nat) {t : Pipeline.Tok} (ht : t.part ≠ p) :
    WRel BR p { sN with wk := pushWN sN.wk w t } s :=
  h.setWkN w (by rw [projQ_push_other p _ ht, h.inq]) (hio (sN.wk w) _ (s.wk w) _ rfl rfl rfl rfl (h.br w))

theorem ppActN_other (hio : InnerOnly BR) {q : Int} (hq : q ≠ p) (h : WRel BR p sN s) (lks : List (Option Nat))
    (a : PartProd.Action) : WRel BR p (ppActN q sN lks a).1 s := by
  have hcur : ∀ c, s.cur = upd sN.cur q c p := fun c => h.cur.trans (upd_other _ hq c).symm
  cases a with
  | park i => exact h
  | finDone => exact h
  | finSend l =>
    simp only [ppActN]
    split
    · exact ⟨{ h.q with }, h.cur, h.inq, h.br⟩
    · rename_i w _
      have h1 := h.pushN hio w (t := finTokP q l) hq
      exact ⟨{ h1.q with }, hcur _, h1.inq, h1.br⟩
  | emit i l fin =>
    simp only [ppActN]
    split
    · rename_i w _
      exact h.pushN hio w (t := mkTokP q i l fin) hq
    · split
      · rename_i w r
        have h1 := (h.pushN hio w (t := synTokP q) hq).pushN hio w (t := mkTokP q i l fin) hq
        exact ⟨{ h1.q with }, hcur _, h1.inq, h1.br⟩
      · refine ⟨{ h.q with errs := ?_ }, h.cur, h.inq, h.br⟩
        dsimp only
        split
        · exact h.q.errs
        · exact h.q.errs.trans (upd_other _ hq _).symm

theorem ppActsN_other (hio : InnerOnly BR) {q : Int} (hq : q ≠ p) (as : List PartProd.Action) :
    ∀ {sN : SysN} (lks : List (Option Nat)), WRel BR p sN s → WRel BR p (ppActsN q sN lks as) s := by
  induction as with
  | nil => intro sN lks h; exact h
  | cons a r ih => intro sN lks h; exact ih _ (ppActN_other hio hq h lks a)

theorem pqp_tail {q : Int} {x : Pipeline.Tok} {r : List Pipeline.Tok} (hpq : sN.pq q = x :: r)
    (h : ∀ q, ∀ t ∈ sN.pq q, t.part = q) : ∀ q', ∀ t ∈ upd sN.pq q r q', t.part = q' := by
  intro q' t ht
  by_cases e : q' = q
  · subst e
    rw [upd_same] at ht
    exact h q' t (hpq ▸ List.mem_cons_of_mem _ ht)
  · rw [upd_other _ (Ne.symm e)] at ht; exact h q' t ht

theorem proj_ppRecv_other {BR : WorkerN → Worker → Prop} (hio : InnerOnly BR) {M : Nat} {p q : Int} (hq : q ≠ p)
    {sN sN' : SysN} {s : Sys} {lks : List (Option Nat)} (h : WRel BR p sN s)
    (hs : sysStepN M sN (.ppRecv q lks) = some sN') : WRel BR p sN' s := by
  cases hpq : sN.pq q with
  | nil => simp [sysStepN, hpq] at hs
  | cons x r =>
    simp only [sysStepN, hpq, Option.some.injEq] at hs
    rw [← hs]
    refine ppActsN_other hio hq _ lks ⟨{ h.q with pq := ?_, pp := ?_, pqp := pqp_tail hpq h.q.pqp }, h.cur, h.inq, h.br⟩
    · exact h.q.pq.trans (congrArg (projQ p) (upd_other _ hq _).symm)
    · exact h.q.pp.trans (upd_other _ hq _).symm

theorem ppActN_own (hio : InnerOnly BR) (h : WRel BR p sN s) (lks : List (Option Nat)) (a : PartProd.Action) :
    WRel BR p (ppActN p sN lks a).1 (ppAct s lks a).1 ∧ (ppActN p sN lks a).2 = (ppAct s lks a).2 := by
  cases a with
  | park i => exact ⟨h, rfl⟩
  | finDone => exact ⟨h, rfl⟩
  | finSend l =>
    cases hc : s.cur with
    | none =>
      have hcN : sN.cur p = none := h.cur ▸ hc
      simp only [ppActN, ppAct, hc, hcN]
      exact ⟨⟨{ h.q with }, hcN.symm, h.inq, h.br⟩, trivial⟩
    | some w =>
      have hcN : sN.cur p = some w := h.cur ▸ hc
      simp only [ppActN, ppAct, hc, hcN]
      have h1 := h.push hio w (t := finTokP p l) rfl
      exact ⟨⟨{ h1.q with }, (upd_same ..).symm, h1.inq, h1.br⟩, trivial⟩
  | emit i l fin =>
    cases hc : s.cur with
    | some w =>
      have hcN : sN.cur p = some w := h.cur ▸ hc
      simp only [ppActN, ppAct, hc, hcN]
      have h1 := h.push hio w (t := mkTokP p i l fin) rfl
      exact ⟨⟨{ h1.q with }, hcN.symm, h1.inq, h1.br⟩, trivial⟩
    | none =>
      have hcN : sN.cur p = none := h.cur ▸ hc
      have herr : (if fin = true then s.errs else s.errs ++ [i]) =
          (if fin = true then sN.errs else upd sN.errs p (sN.errs p ++ [i])) p := by
        split
        · exact h.q.errs
        · rw [upd_same, h.q.errs]
      -- the look-up fails (or there is none left): the message is returned with an error
      have hfail : WRel BR p { sN with errs := if fin = true then sN.errs else upd sN.errs p (sN.errs p ++ [i]) }
          { s with cur := none, errs := if fin = true then s.errs else s.errs ++ [i] } :=
        ⟨{ h.q with errs := herr }, hcN.symm, h.inq, h.br⟩
      rcases lks with _ | ⟨_ | w, r⟩
      · simp only [ppActN, ppAct, hc, hcN]; exact ⟨hfail, trivial⟩
      · simp only [ppActN, ppAct, hc, hcN]; exact ⟨hfail, trivial⟩
      · simp only [ppActN, ppAct, hc, hcN]
        have h1 := (h.push hio w (t := synTokP p) rfl).push hio w (t := mkTokP p i l fin) rfl
        exact ⟨⟨{ h1.q with }, (upd_same ..).symm, h1.inq, h1.br⟩, trivial⟩

theorem ppActsN_own (hio : InnerOnly BR) (as : List PartProd.Action) :
    ∀ {sN : SysN} {s : Sys} (lks : List (Option Nat)), WRel BR p sN s →
    WRel BR p (ppActsN p sN lks as) (ppActs s lks as) := by
  induction as with
  | nil => intro sN s lks h; exact h
  | cons a r ih =>
    intro sN s lks h
    obtain ⟨h1, h2⟩ := ppActN_own hio h lks a
    simp only [ppActsN, ppActs, h2]
    exact ih _ h1

theorem proj_ppRecv_own {BR : WorkerN → Worker → Prop} (hio : InnerOnly BR) {M : Nat} {p : Int}
    {sN sN' : SysN} {s : Sys} {lks : List (Option Nat)} (h : WRel BR p sN s)
    (hs : sysStepN M sN (.ppRecv p lks) = some sN') :
    ∃ s', sysStep M s (.ppRecv lks) = some s' ∧ WRel BR p sN' s' := by
  cases hpq : sN.pq p with
  | nil => simp [sysStepN, hpq] at hs
  | cons x r =>
    have hx : x.part = p := h.q.pqp p x (by rw [hpq]; exact List.mem_cons_self ..)
    have hsq : s.pq = relab x :: projQ p r := by rw [h.q.pq, hpq, projQ_cons_same hx]
    simp only [sysStepN, hpq, Option.some.injEq] at hs
    refine ⟨_, step_iff.2 (.ppRecv lks hsq), ?_⟩
    rw [← hs, show Pipeline.toPP (relab x) = PipelineN.toPP x from rfl, h.q.pp]
    exact ppActsN_own hio _ lks
      ⟨{ h.q with pq := (congrArg (projQ p) (upd_same ..)).symm, pp := (upd_same ..).symm,
                  pqp := pqp_tail hpq h.q.pqp }, h.cur, h.inq, h.br⟩

end

example : WRel (fun _ _ => True) 0 {} {} := ⟨qrel_init 0, rfl, fun _ => rfl, fun _ => trivial⟩
example : InnerOnly (fun _ _ => True) := fun _ _ _ _ _ _ _ _ _ => trivial
example : ((runN 2 {} (exTwo.take 6)).bind (fun s => sysStepN 2 s (.ppRecv 0 [some 0]))).isSome = true := by decide +kernel
example : ((runN 2 {} (exTwo.take 7)).bind (fun s => sysStepN 2 s (.ppRecv 1 [some 0]))).isSome = true := by decide +kernel

end Props.C02sys
