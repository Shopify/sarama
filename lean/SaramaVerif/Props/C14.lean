import SaramaVerif.Lemmas.C14Wire
import SaramaVerif.Lemmas.C14Fifo
import SaramaVerif.Lemmas.C14Recv
import SaramaVerif.Lemmas.AssocFind
/-
  C14 — each broker call gets its own response or an error.

  All theorems quantify over every configuration (MaxOpenRequests ≥ 1, any MaxResponseSize, both variants of
  the write/enqueue order where stated), every first correlation id and EVERY event trace accepted by the
  model's `step` (any number of callers, any interleaving, any server behaviour incl. arbitrary bytes, close,
  silence/time-outs, and Close racing with calls): `Reach cfg c0 s`.
-/
namespace Props.C14
open Model.BrokerConn Lemmas.C14

private theorem step_cfg {s s' : State} {e : Event} (h : step s e = .ok s') : s'.cfg = s.cfg ∧ s'.cid0 = s.cid0 := by
  cases step_sound h <;> exact ⟨rfl, rfl⟩

structure PInv (s : State) : Prop where
  a : InvA s
  b : InvB s
  c : InvC s

private theorem pinv_step {s s' : State} {e : Event} (h : step s e = .ok s') (I : PInv s) : PInv s' :=
  ⟨invA_step h I.a, invB_step h I.b, invC_step h I.c⟩

theorem folds : Lemmas.Acceptor.Folds step run :=
  .ofExcept (fun _ => rfl) fun s e es => by rw [run]; cases step s e <;> rfl

theorem reach_inv {cfg : Cfg} {c0 : Int} {s : State} (hm : 1 ≤ cfg.maxOpen) (hr : Reach cfg c0 s) :
    PInv s ∧ s.cfg = cfg ∧ s.cid0 = c0 := by
  obtain ⟨evs, h⟩ := hr
  exact folds.inv (fun s => PInv s ∧ s.cfg = cfg ∧ s.cid0 = c0)
    (fun _ _ _ hs I => ⟨pinv_step hs I.1, (step_cfg hs).1.trans I.2.1, (step_cfg hs).2.trans I.2.2⟩)
    evs _ _ h ⟨⟨invA_init cfg c0, invB_init cfg c0 hm, invC_init cfg c0⟩, rfl, rfl⟩

/-- The requests that expect a response appear on the wire in exactly the order in which their promises are
    completed / held by the receiver / queued / about to be queued by the lock holder; correlation ids on
    the wire are `c0, c0+1, …` (strictly increasing), so the k-th written request carries id `c0 + k`. -/
theorem wire_order_is_promise_order {cfg : Cfg} {c0 : Int} {s : State} (hm : 1 ≤ cfg.maxOpen)
    (hr : Reach cfg c0 s) :
    (s.wire.filter (·.2)).map (·.1) = s.done.map (·.p) ++ curList s ++ s.queue ++ holderWritten s ∧
    s.wire.map (·.1.cid) = (List.range s.wire.length).map (fun (i : Nat) => c0 + (i : Int)) ∧
    s.wire.Pairwise (fun a b => a.1.cid < b.1.cid) ∧
    s.nextCid = c0 + s.wire.length := by
  obtain ⟨I, _, h0⟩ := reach_inv hm hr
  refine ⟨?_, ?_, I.a.cid_sorted, ?_⟩
  · rw [I.a.wire_enq, I.b.fifo]
  · rw [← h0]; exact I.a.cid_exact
  · rw [← h0]; exact I.a.cid_next

example : ∃ s, Reach ⟨2, 1000, false⟩ 7 s ∧ s.wire.length = 2 ∧ s.queue.length = 1 ∧ (holderWritten s).length = 1 :=
  ⟨_, ⟨[.sendBegin 0 0 true, .write 0, .enqueue 0, .sendBegin 1 0 true, .write 1], rfl⟩, by decide +kernel⟩

/-- The completion log is: deliveries first, failures after; the frames of the delivered promises (raw header
    bytes ++ body), concatenated in completion order, are a prefix of the byte stream the server sent – the
    k-th promise was served from the k-th frame of the stream and from nothing else; every delivered record is
    well-formed (length and tag checks passed, header id = the promise's own id, body of the announced size);
    and while the connection is alive everything completed so far was delivered and the receiver consumed
    exactly those frames plus the header of the promise in its hand. -/
theorem fifo_matching {cfg : Cfg} {c0 : Int} {s : State} (hm : 1 ≤ cfg.maxOpen) (hr : Reach cfg c0 s) :
    s.done = s.done.filter isDeliv ++ s.done.filter (fun d => !isDeliv d) ∧
    goodBytes s <+: s.sent ∧
    (∀ d ∈ s.done, isDeliv d = true → WF cfg.maxResp d) ∧
    (s.dead = none → (∀ d ∈ s.done, isDeliv d = true) ∧ s.consumed = goodBytes s ++ curHdr s) := by
  obtain ⟨I, hc, _⟩ := reach_inv hm hr
  refine ⟨I.c.split, ?_, ?_, ?_⟩
  · rw [I.c.bytes]
    exact List.IsPrefix.trans I.c.good_pref (List.prefix_append _ _)
  · rw [← hc]; exact I.c.wf_done
  · intro hd; exact ⟨I.c.alive_all hd, I.c.alive_cons hd⟩

private theorem flatten_take_prefix {α : Type} (l : List (List α)) (n : Nat) :
    (l.take n).flatten <+: l.flatten := by
  conv => rhs; rw [← List.take_append_drop n l]
  rw [List.flatten_append]
  exact List.prefix_append _ _

/-- index form: if the k-th completed promise was delivered, then all earlier ones were delivered too, and the
    server's stream starts with the frames of promises 0..k-1 followed by the frame of promise k -/
theorem fifo_matching_kth {cfg : Cfg} {c0 : Int} {s : State} (hm : 1 ≤ cfg.maxOpen) (hr : Reach cfg c0 s)
    (k : Nat) (d : DoneRec) (hk : s.done[k]? = some d) (hd : isDeliv d = true) :
    (∀ j, j < k → ∀ d', s.done[j]? = some d' → isDeliv d' = true) ∧
    ((s.done.take k).map rawFrame).flatten ++ rawFrame d <+: s.sent := by
  obtain ⟨hsplit, hpre, _, _⟩ := fifo_matching hm hr
  -- k lies in the delivered part
  have hkG : k < (s.done.filter isDeliv).length := by
    apply Classical.byContradiction
    intro hn
    have hn' : (s.done.filter isDeliv).length ≤ k := by omega
    rw [hsplit, List.getElem?_append_right hn'] at hk
    have hmem := List.mem_of_getElem? hk
    simp only [List.mem_filter, Bool.not_eq_eq_eq_not, Bool.not_true] at hmem
    rw [hmem.2] at hd; cases hd
  have htake : ∀ n, n ≤ (s.done.filter isDeliv).length → s.done.take n = (s.done.filter isDeliv).take n := by
    intro n hn
    conv => lhs; rw [hsplit]
    exact List.take_append_of_le_length hn
  constructor
  · intro j hj d' hj'
    have hjG : j < (s.done.filter isDeliv).length := by omega
    rw [hsplit, List.getElem?_append_left hjG] at hj'
    have := List.mem_of_getElem? hj'
    exact (List.mem_filter.1 this).2
  · have h1 : s.done.take (k + 1) = s.done.take k ++ [d] := by
      rw [List.take_add_one, hk]; rfl
    have h2 : ((s.done.take k).map rawFrame).flatten ++ rawFrame d =
        (((s.done.filter isDeliv).map rawFrame).take (k + 1)).flatten := by
      rw [← List.map_take, ← htake (k + 1) (by omega), h1]
      simp
    rw [h2]
    exact List.IsPrefix.trans (flatten_take_prefix _ _) hpre

theorem decodeHeader_ok {maxResp : Int} {hv : Nat} {hdr : Bytes} {len cid : Int}
    (h : decodeHeader maxResp hv hdr = .ok len cid) :
    lengthBad maxResp (be32 hdr 0) = false ∧ be32 hdr 0 = len ∧ be32 hdr 4 = cid := by
  unfold decodeHeader at h
  split at h
  · cases h
  · rename_i hlb
    split at h
    · cases h
    · injection h with h1 h2
      exact ⟨Bool.eq_false_iff.mpr hlb, h1, h2⟩

/-- A caller never receives another caller's frame: the header of a delivered frame carries the correlation id
    of the promise it was delivered to, and no other promise of the connection has that id. -/
theorem no_foreign_frame {cfg : Cfg} {c0 : Int} {s : State} (hm : 1 ≤ cfg.maxOpen) (hr : Reach cfg c0 s)
    (d : DoneRec) (hd : d ∈ s.done) (hdl : isDeliv d = true) :
    be32 d.hdr 4 = d.p.cid ∧ ∀ q ∈ s.enq, q.cid = be32 d.hdr 4 → q = d.p := by
  obtain ⟨I, hc, _⟩ := reach_inv hm hr
  obtain ⟨len, hdec, _, _⟩ := I.c.wf_done d hd hdl
  have hid := (decodeHeader_ok hdec).2.2
  refine ⟨hid, ?_⟩
  intro q hq hqc
  have hsorted : s.enq.Pairwise (fun a b => a.cid < b.cid) := by
    have h1 : ((s.wire.filter (·.2)).map (·.1)).Pairwise (fun a b => a.cid < b.cid) := by
      rw [List.pairwise_map]
      exact List.Pairwise.sublist List.filter_sublist I.a.cid_sorted
    rw [I.a.wire_enq] at h1
    exact (List.pairwise_append.1 h1).1
  have hdp : d.p ∈ s.enq := by
    rw [I.b.fifo]
    simp only [List.mem_append, List.mem_map]
    exact .inl (.inl ⟨d, hd, rfl⟩)
  exact Lemmas.Assoc.key_inj_of_sorted Int.lt_irrefl (List.pairwise_map.mpr hsorted) hq hdp (by rw [hqc, hid])

/-- If the header the receiver reads for the oldest promise decodes to a different correlation id, the
    promise is failed (nothing is delivered), and the connection is dead from then on. -/
theorem mismatch_is_fault (s : State) (p : Promise) (len cid : Int)
    (hcur : s.cur = some (p, .header)) (hav : headerLength p.hv ≤ s.inbuf.length)
    (hdec : decodeHeader s.cfg.maxResp p.hv (s.inbuf.take (headerLength p.hv)) = .ok len cid)
    (hne : cid ≠ p.cid) :
    ∃ s', step s .recvHeader = .ok s' ∧ s'.dead = some .cidMismatch ∧ s'.cur = none ∧
      s'.done = s.done ++ [⟨p, .failed .cidMismatch, s.inbuf.take (headerLength p.hv)⟩] := by
  refine ⟨failCur { s with inbuf := s.inbuf.drop (headerLength p.hv),
                            consumed := s.consumed ++ s.inbuf.take (headerLength p.hv) }
      p (s.inbuf.take (headerLength p.hv)) .cidMismatch, ?_, rfl, rfl, rfl⟩
  show stepRecvHeader s = _
  simp only [stepRecvHeader, hcur]
  rw [if_neg (Nat.not_lt.mpr hav), hdec]
  exact if_pos hne

/-- … and a matching, valid header is NOT a fault: the receiver goes on to read exactly the announced body.
    With `mismatch_is_fault`: reading a header that decodes fails the oldest promise iff its id is not that promise's. -/
theorem match_is_not_fault (s : State) (p : Promise) (len : Int)
    (hcur : s.cur = some (p, .header)) (hav : headerLength p.hv ≤ s.inbuf.length)
    (hdec : decodeHeader s.cfg.maxResp p.hv (s.inbuf.take (headerLength p.hv)) = .ok len p.cid) :
    ∃ s1, step s .recvHeader = .ok s1 ∧ s1.dead = s.dead ∧ s1.done = s.done ∧
      s1.cur = some (p, .body (s.inbuf.take (headerLength p.hv)) (bodyLength len (headerLength p.hv))) ∧
      s1.inbuf = s.inbuf.drop (headerLength p.hv) := by
  refine ⟨{ s with inbuf := s.inbuf.drop (headerLength p.hv),
                   consumed := s.consumed ++ s.inbuf.take (headerLength p.hv),
                   cur := some (p, .body (s.inbuf.take (headerLength p.hv)) (bodyLength len (headerLength p.hv))) },
    ?_, rfl, rfl, rfl, rfl⟩
  show stepRecvHeader s = _
  simp only [stepRecvHeader, hcur]
  rw [if_neg (Nat.not_lt.mpr hav), hdec]
  exact if_neg (Decidable.not_not.mpr rfl)

/-- once the announced number of body bytes is there, they are delivered to the promise whose header was read,
    and to nobody else -/
theorem body_is_delivered (s : State) (p : Promise) (hdr : Bytes) (need : Nat)
    (hcur : s.cur = some (p, .body hdr need)) (hav : need ≤ s.inbuf.length) :
    ∃ s2, step s .recvBody = .ok s2 ∧ s2.dead = s.dead ∧ s2.cur = none ∧
      s2.done = s.done ++ [⟨p, .delivered (s.inbuf.take need), hdr⟩] := by
  refine ⟨{ s with inbuf := s.inbuf.drop need, consumed := s.consumed ++ s.inbuf.take need, cur := none,
                   done := s.done ++ [⟨p, .delivered (s.inbuf.take need), hdr⟩] }, ?_, rfl, rfl, rfl⟩
  show stepRecvBody s = _
  simp only [stepRecvBody, hcur]
  exact if_neg (Nat.not_lt.mpr hav)

/-- conversely, on every reachable state: whatever was delivered had the promise's own id in its header and a
    valid length -/
theorem delivered_ids_match {cfg : Cfg} {c0 : Int} {s : State} (hm : 1 ≤ cfg.maxOpen) (hr : Reach cfg c0 s)
    (d : DoneRec) (hd : d ∈ s.done) (body : Bytes) (hout : d.out = .delivered body) :
    be32 d.hdr 4 = d.p.cid ∧ lengthBad cfg.maxResp (be32 d.hdr 0) = false ∧
      body.length = bodyLength (be32 d.hdr 0) (headerLength d.p.hv) := by
  have hdl : isDeliv d = true := by simp [isDeliv, hout]
  obtain ⟨_, _, hwf, _⟩ := fifo_matching hm hr
  obtain ⟨len, hdec, _, hbl⟩ := hwf d hd hdl
  obtain ⟨hlb, h1, h2⟩ := decodeHeader_ok hdec
  simp only [bodyOf, hout] at hbl
  exact ⟨h2, hlb, by rw [hbl, h1]⟩

theorem dead_is_sticky_step {s s' : State} {e : Event} {x : Err} (I : PInv s) (hd : s.dead = some x)
    (h : step s e = .ok s') :
    s'.dead = some x ∧ s'.consumed = s.consumed ∧
    ∃ extra, s'.done = s.done ++ extra ∧ ∀ d ∈ extra, d.out = .failed x := by
  have hcur : s.cur = none := I.c.dead_cur x hd
  cases step_sound h with
  | recvDeqDead p rest e' _ _ _ he' =>
    cases hd.symm.trans he'
    exact ⟨hd, rfl, [⟨p, .failed x, []⟩], rfl, fun d hd => List.mem_singleton.mp hd ▸ rfl⟩
  -- the receiver has nothing in its hand on a dead connection
  | recvHeaderFail _ _ hc | recvHeader _ _ hc | recvBody _ _ _ hc | recvEOF _ _ hc | recvTimeout _ _ hc => cases hcur.symm.trans hc
  | _ => exact ⟨hd, rfl, [], (List.append_nil _).symm, fun _ h => nomatch h⟩

/-- After the first read / header / id / body failure (`dead = some x`), along EVERY continuation of the trace:
    `dead` never changes, the receiver never consumes another byte, and every promise completed from then on –
    outstanding at the time of the fault or issued later – is failed with the error of the first fault;
    nothing is delivered any more. -/
theorem dead_is_sticky {cfg : Cfg} {c0 : Int} {s s' : State} {x : Err} (hm : 1 ≤ cfg.maxOpen)
    (hr : Reach cfg c0 s) (hd : s.dead = some x) (evs : List Event) (h : run s evs = .ok s') :
    s'.dead = some x ∧ s'.consumed = s.consumed ∧
    ∃ extra, s'.done = s.done ++ extra ∧ ∀ d ∈ extra, d.out = .failed x :=
  (folds.inv (fun t => PInv t ∧ t.dead = some x ∧ t.consumed = s.consumed ∧
      ∃ extra, t.done = s.done ++ extra ∧ ∀ d ∈ extra, d.out = .failed x)
    (fun t t' _ ht ⟨It, hdt, hct, ex1, hdone1, hall1⟩ => by
      obtain ⟨hd2, hc2, ex2, hdone2, hall2⟩ := dead_is_sticky_step It hdt ht
      exact ⟨pinv_step ht It, hd2, hc2.trans hct, ex1 ++ ex2, by rw [hdone2, hdone1, List.append_assoc],
        fun d hdm => (List.mem_append.1 hdm).elim (hall1 d) (hall2 d)⟩)
    evs s s' h ⟨(reach_inv hm hr).1, hd, rfl, [], (List.append_nil _).symm, fun _ h => nomatch h⟩).2

/-- all failures on a connection carry one and the same error: the one stored in `dead` -/
theorem failures_carry_first_error {cfg : Cfg} {c0 : Int} {s : State} (hm : 1 ≤ cfg.maxOpen)
    (hr : Reach cfg c0 s) (d : DoneRec) (hd : d ∈ s.done) (e : Err) (he : d.out = .failed e) :
    s.dead = some e :=
  (reach_inv hm hr).1.c.fail_err d hd e he

/-- Nothing is left pending once the receiver has run: when the receiver is idle with an empty FIFO and no
    caller is between write and enqueue, every request written with a response expected has been completed
    (delivered or failed), in wire order. -/
theorem none_pending {cfg : Cfg} {c0 : Int} {s : State} (hm : 1 ≤ cfg.maxOpen) (hr : Reach cfg c0 s)
    (hcur : s.cur = none) (hq : s.queue = []) (hh : holderWritten s = []) :
    (s.wire.filter (·.2)).map (·.1) = s.done.map (·.p) := by
  obtain ⟨h1, _⟩ := wire_order_is_promise_order hm hr
  rw [h1, hq, hh]
  simp [curList, hcur]

private theorem drain (n : Nat) : ∀ (s : State) (x : Err), PInv s → s.dead = some x → s.queue.length = n →
    ∃ s', run s (List.replicate n .recvDeq) = .ok s' ∧ PInv s' ∧ s'.dead = some x ∧ s'.queue = [] ∧
      s'.cur = none ∧ s'.holder = s.holder := by
  induction n with
  | zero =>
    intro s x I hd hq
    exact ⟨s, rfl, I, hd, List.length_eq_zero_iff.1 hq, I.c.dead_cur x hd, rfl⟩
  | succ n ih =>
    intro s x I hd hq
    have hcur := I.c.dead_cur x hd
    match hqq : s.queue with
    | [] => rw [hqq] at hq; cases hq
    | p :: rest =>
      have hx : s.recvExited = false := by
        cases hxx : s.recvExited
        · rfl
        · have := (I.b.exited hxx).2.1; rw [hqq] at this; cases this
      have hstep : step s .recvDeq = .ok { s with queue := rest, done := s.done ++ [⟨p, .failed x, []⟩] } := by
        show stepRecvDeq s = _
        simp [stepRecvDeq, hx, hcur, hqq, hd]
      have I1 := pinv_step hstep I
      obtain ⟨s', hrun, I', hd', hq', hc', hh'⟩ := ih _ x I1 hd (by simp [hqq] at hq; simpa using hq)
      refine ⟨s', ?_, I', hd', hq', hc', hh'⟩
      simp only [List.replicate_succ, run, hstep]
      exact hrun

/-- After a fault the receiver never blocks again: from every reachable dead state there is a continuation
    consisting only of receiver dequeues and the lock holder's enqueue (no byte from the server, no time-out
    needed) after which no promise is outstanding – every outstanding call gets its error. -/
theorem dead_drains {cfg : Cfg} {c0 : Int} {s : State} {x : Err} (hm : 1 ≤ cfg.maxOpen)
    (hr : Reach cfg c0 s) (hd : s.dead = some x) :
    ∃ evs s', run s evs = .ok s' ∧ (∀ e ∈ evs, e = .recvDeq ∨ ∃ c, e = .enqueue c) ∧
      s'.cur = none ∧ s'.queue = [] ∧ holderWritten s' = [] ∧ s'.dead = some x := by
  obtain ⟨I, _, _⟩ := reach_inv hm hr
  obtain ⟨s1, hrun1, I1, hd1, hq1, hc1, hh1⟩ := drain _ s x I hd rfl
  match hh : s.holder with
  | .written p =>
    have hstep : step s1 (.enqueue p.call) =
        .ok { s1 with queue := s1.queue ++ [p], enq := s1.enq ++ [p], holder := .free } := by
      show stepEnqueue s1 p.call = _
      simp [stepEnqueue, hh1, hh, hq1, hc1]
    have I2 := pinv_step hstep I1
    obtain ⟨s3, hrun3, _, hd3, hq3, hc3, hh3⟩ := drain 1 _ x I2 hd1 (by simp [hq1])
    refine ⟨List.replicate s.queue.length .recvDeq ++ ([.enqueue p.call] ++ List.replicate 1 .recvDeq), s3,
      ?_, ?_, hc3, hq3, by simp [holderWritten, hh3], hd3⟩
    · exact folds.append.mpr ⟨s1, hrun1, folds.cons.mpr ⟨_, hstep, hrun3⟩⟩
    · intro e he
      simp only [List.mem_append, List.mem_replicate, List.mem_singleton] at he
      rcases he with ⟨_, rfl⟩ | rfl | ⟨_, rfl⟩
      · exact .inl rfl
      · exact .inr ⟨_, rfl⟩
      · exact .inl rfl
  | .free | .closing | .sending _ _ _ =>
    refine ⟨List.replicate s.queue.length .recvDeq, s1, hrun1, ?_, hc1, hq1, by simp [holderWritten, hh1, hh], hd1⟩
    intro e he
    exact .inl (List.mem_replicate.1 he).2

/-- what awaits a response is bounded by MaxOpenRequests plus the caller between write and enqueue, if there is
    one; reserving the slot before the write takes that caller into the bound -/
theorem on_wire_le {cfg : Cfg} {c0 : Int} {s : State} (hm : 1 ≤ cfg.maxOpen) (hr : Reach cfg c0 s) :
    onWire s ≤ cfg.maxOpen + (holderWritten s).length ∧ (cfg.reserve = true → onWire s ≤ cfg.maxOpen) := by
  obtain ⟨I, hc, _⟩ := reach_inv hm hr
  have hb := I.b.bound
  have hbr := I.b.bound_res
  rw [hc] at hb hbr
  unfold onWire
  refine ⟨by omega, fun hres => ?_⟩
  unfold holderWritten
  split
  · have := hbr hres _ ‹_›; simp only [List.length_singleton]; omega
  · simp only [List.length_nil]; omega

/-- repaired order (`reservePromiseBeforeWrite`): never more than MaxOpenRequests requests await a response -/
theorem on_wire_bound {cfg : Cfg} {c0 : Int} {s : State} (hm : 1 ≤ cfg.maxOpen) (hres : cfg.reserve = true)
    (hr : Reach cfg c0 s) : onWire s ≤ cfg.maxOpen :=
  (on_wire_le hm hr).2 hres

/-- either order, in particular the pinned one (request written before the blocking enqueue): the bound that holds is
    MaxOpenRequests + 1; the extra hypothesis that restores the stated bound is that no caller sits between write and
    enqueue -/
theorem on_wire_bound_partial {cfg : Cfg} {c0 : Int} {s : State} (hm : 1 ≤ cfg.maxOpen)
    (hr : Reach cfg c0 s) :
    onWire s ≤ cfg.maxOpen + 1 ∧ (holderWritten s = [] → onWire s ≤ cfg.maxOpen) := by
  have h := (on_wire_le hm hr).1
  refine ⟨Nat.le_trans h (Nat.add_le_add_left ?_ _), fun hh => by rwa [hh] at h⟩
  unfold holderWritten
  split
  · exact Nat.le_refl 1
  · exact Nat.zero_le 1

/-- the trace that puts MaxOpenRequests + 1 requests on the wire under the pinned order (MaxOpenRequests = 1):
    call 0 is written and handed to the receiver, call 1 takes the lock and writes before it blocks -/
def overTrace1 : List Event :=
  [.sendBegin 0 0 true, .write 0, .enqueue 0, .recvDeq, .sendBegin 1 0 true, .write 1]

def overTrace2 : List Event :=
  [.sendBegin 0 0 true, .write 0, .enqueue 0, .recvDeq, .sendBegin 1 0 true, .write 1, .enqueue 1,
   .sendBegin 2 0 true, .write 2]

def onWireAfter (cfg : Cfg) (evs : List Event) : Option Nat :=
  match run (init cfg 0) evs with | .ok s => some (onWire s) | .error _ => none

/-- kernel-checked counter-example: the pinned order reaches MaxOpenRequests + 1 -/
theorem on_wire_defect_reaches_plus_one :
    onWireAfter ⟨1, 1000, false⟩ overTrace1 = some 2 ∧ onWireAfter ⟨2, 1000, false⟩ overTrace2 = some 3 := by
  decide +kernel

/-- the repaired order refuses exactly the last write of these traces -/
theorem on_wire_fixed_rejects :
    onWireAfter ⟨1, 1000, true⟩ overTrace1 = none ∧ onWireAfter ⟨2, 1000, true⟩ overTrace2 = none ∧
    onWireAfter ⟨1, 1000, true⟩ overTrace1.dropLast = some 1 := by
  decide +kernel

/-- frame with length 6 (= id + 2 body bytes), correlation id `c`, body aa bb -/
def frame6 (c : UInt8) : Bytes := [0, 0, 0, 6, 0, 0, 0, c, 0xaa, 0xbb]

/-- two concurrent callers on MaxOpenRequests = 2; the server answers both in order, in three chunks -/
def goodTrace : List Event :=
  [.sendBegin 10 0 true, .write 10, .enqueue 10, .recvDeq, .sendBegin 11 0 true, .write 11, .enqueue 11,
   .srvBytes [0, 0, 0, 6, 0], .srvBytes [0, 0, 7, 0xaa, 0xbb, 0, 0], .recvHeader, .recvBody,
   .srvBytes [0, 6, 0, 0, 0, 8, 0xaa, 0xbb], .recvDeq, .recvHeader, .recvBody]

def outcomes (cfg : Cfg) (c0 : Int) (evs : List Event) : Option (List (Nat × Outcome)) :=
  match run (init cfg c0) evs with | .ok s => some (s.done.map fun d => (d.p.call, d.out)) | .error _ => none

example : outcomes ⟨2, 1000, false⟩ 7 goodTrace =
    some [(10, .delivered [0xaa, 0xbb]), (11, .delivered [0xaa, 0xbb])] := by decide +kernel

/-- the server answers the second request first: the first caller gets an error (not the other's frame), the
    second caller gets the same error although a frame with its id is in the stream -/
def swappedTrace : List Event :=
  [.sendBegin 10 0 true, .write 10, .enqueue 10, .recvDeq, .sendBegin 11 0 true, .write 11, .enqueue 11,
   .srvBytes (frame6 8 ++ frame6 7), .recvHeader, .recvDeq]

example : outcomes ⟨2, 1000, false⟩ 7 swappedTrace =
    some [(10, .failed .cidMismatch), (11, .failed .cidMismatch)] := by decide +kernel

/-- oversize length, truncated body + close, silence: each is a fault of its own kind -/
example : outcomes ⟨1, 1000, false⟩ 7
    [.sendBegin 1 0 true, .write 1, .enqueue 1, .recvDeq, .srvBytes [0, 0, 4, 0, 0, 0, 0, 7], .recvHeader] =
    some [(1, .failed .badLength)] := by decide +kernel
example : outcomes ⟨1, 1000, false⟩ 7
    [.sendBegin 1 0 true, .write 1, .enqueue 1, .recvDeq, .srvBytes [0, 0, 0, 6, 0, 0, 0, 7, 0xaa], .recvHeader,
     .srvClose, .recvEOF] = some [(1, .failed .io)] := by decide +kernel
example : outcomes ⟨1, 1000, false⟩ 7
    [.sendBegin 1 0 true, .write 1, .enqueue 1, .recvDeq, .srvBytes [0, 0, 0], .recvTimeout,
     .closeBegin, .recvExit, .closeEnd, .sendBegin 2 0 true] = some [(1, .failed .timeout)] := by decide +kernel

end Props.C14
