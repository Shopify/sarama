/-
  The end statement of the several-partitions part: LogOrder for every partition from the projection `ProjSim`.
-/
import SaramaVerif.Model.PipelineN
import SaramaVerif.Props.C02split

namespace Props.C02sys
open Model Model.Pipeline Model.PipelineN Lemmas.C02sys

def LogOrderOf (log : List Int) (succ : List (Int × Nat)) : Prop :=
  (∀ a b oa ob, (a, oa) ∈ succ → (b, ob) ∈ succ → a < b → oa < ob) ∧
  (∀ a b, a < b → a ∈ log → b ∈ log → log.idxOf a < log.idxOf b)

theorem logOrder_iff (s : Sys) : LogOrder s ↔ LogOrderOf s.log s.succ := Iff.rfl

/-- **the projection of a run with several partitions on a partition** (OPEN): there is a run of the one-partition
    model, inside the scope of `log_order_reselect`, with the log, successes and errors of partition `p` -/
def ProjSim (M : Nat) : Prop :=
  ∀ (cs : List ChoiceN) (sN : SysN) (p : Int), runN M {} cs = some sN →
    ∃ (cs' : List Choice) (s : Sys), splitOKs M cs' = true ∧ run M {} cs' = some s ∧
      s.log = sN.log p ∧ s.succ = sN.succ p ∧ s.errs = sN.errs p

theorem logOrder_of_run {M : Nat} (hM : 1 ≤ M) {p : Int} {sN : SysN} {cs' : List Choice} {s : Sys}
    (h1 : run M {} cs' = some s) (h2 : s.log = sN.log p) (h3 : s.succ = sN.succ p) (hsp : splitOKs M cs' = true) :
    LogOrderOf (sN.log p) (sN.succ p) := by
  have := log_order_reselect hM cs' hsp h1
  rwa [logOrder_iff, h2, h3] at this

theorem log_order_every_partition {M : Nat} (hM : 1 ≤ M) (hp : ProjSim M) (cs : List ChoiceN) (sN : SysN)
    (hr : runN M {} cs = some sN) (p : Int) : LogOrderOf (sN.log p) (sN.succ p) := by
  obtain ⟨_, _, hok, hr', hl, hs, _⟩ := hp cs sN p hr
  exact logOrder_of_run hM hr' hl hs hok

end Props.C02sys
