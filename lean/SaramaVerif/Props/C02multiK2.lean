/-
  The run level.
  `projRunWith_sound` is the ONE run-level theorem: if under a step condition `ok` every step is, for `p`, what a choice
  function `pc` computes, then along a run whose steps satisfy `ok` (`okRun`) the projection computed with `pc`
  succeeds and is a run of `Model.Pipeline` that ends in a related state - so it has the log, successes and errors of
  `p`.  `projOK` (Props/C02multiZ.lean), `projOKn`, `projOKp`, `projOK2` are `okRun` with four conditions on `deliver`
  (`delOKn`, nothing of `p` is delivered, and `delOKp`, per-partition answers only, each imply `delOK`; `delOK2` is
  `delOK` or `hidConnOK`); `projRun`, `projRun2` are `projRunWith` with `projChoice`, `projChoice2`.  Each of the six is
  written out as a recursion of its own: it is the decidable condition, or the computed projection, that the statements
  of the run theorems name and that `decide` evaluates on the example runs; it is then identified with the instance
  (`projOK_eq`, `projOKn_eq`, `projOKp_eq`, `projOK2_eq` from `eq_okRun`; `projRun_eq`, `projRun2_eq`).
  The run-level theorems are instances: `projRun_sound`, `projRun2_sound`, `ProjSim_projOK`, `ProjSim_noneDelivered`,
  `ProjSim_parts` - these three give for one `p` the run that `ProjSim` asks for, WITHOUT its conjunct `splitOKs` - and
  LogOrder for `p` from each, with `splitOKs` of the exhibited one-partition run as a premise
  (`log_order_every_partition_projOK`, `_noneDelivered`, `_parts`), or with all premises decidable from the choice list
  (`log_order_every_partition_checked`, `_checked2`; `projSplitOK` is `splitOKs` of the computed projection).
  `ProjSim_partial` and `log_order_every_partition_partial` are `ProjSim_projOK` and `log_order_every_partition_projOK`
  with a single-step statement about `deliver` (Props/C02multiK.lean) as a further hypothesis: `DeliverProj`, with one
  prime `DeliverVisProj`, with two `DeliverVisConnProj`.
  Not established: the full `ProjSim` (what `projOK2` excludes is not covered), and that the computed projection always
  satisfies `splitOKs` (it is a checked premise of `log_order_every_partition_checked`).
-/
import SaramaVerif.Props.C02multiK
import SaramaVerif.Props.C02multiP

namespace Props.C02sys
open Model Model.Pipeline Model.PipelineN Model.BrokerProd Lemmas.C02sys

def okRun (M : Nat) (ok : SysN → ChoiceN → Bool) : SysN → List ChoiceN → Bool
  | _, [] => true
  | sN, c :: cs =>
    match sysStepN M sN c with
    | none => false
    | some sN' => ok sN c && okRun M ok sN' cs

theorem okRun_mono {M : Nat} {ok ok' : SysN → ChoiceN → Bool} (h : ∀ sN c, ok sN c = true → ok' sN c = true)
    (cs : List ChoiceN) : ∀ (sN : SysN), okRun M ok sN cs = true → okRun M ok' sN cs = true := by
  induction cs with
  | nil => intro _ _; rfl
  | cons c cs ih =>
    intro sN hr
    simp only [okRun] at hr ⊢
    cases hs : sysStepN M sN c with
    | none => rw [hs] at hr; cases hr
    | some sN' =>
      rw [hs] at hr
      simp only [Bool.and_eq_true] at hr ⊢
      exact ⟨h sN c hr.1, ih sN' hr.2⟩

theorem eq_okRun {M : Nat} {ok : SysN → ChoiceN → Bool} {f : SysN → List ChoiceN → Bool} (h0 : ∀ sN, f sN [] = true)
    (h1 : ∀ sN c cs, f sN (c :: cs) =
      match sysStepN M sN c with
      | none => false
      | some sN' => ok sN c && f sN' cs)
    (cs : List ChoiceN) : ∀ (sN : SysN), f sN cs = okRun M ok sN cs := by
  induction cs with
  | nil => exact h0
  | cons c cs ih =>
    intro sN
    rw [h1, okRun]
    cases sysStepN M sN c with
    | none => rfl
    | some sN' => exact congrArg (ok sN c && ·) (ih sN')

def projRunWith (M : Nat) (pc : SysN → Sys → ChoiceN → Option Choice) :
    SysN → Sys → List ChoiceN → Option (List Choice × Sys)
  | _, s, [] => some ([], s)
  | sN, s, c :: cs =>
    match sysStepN M sN c with
    | none => none
    | some sN' =>
      match pc sN s c with
      | none => projRunWith M pc sN' s cs
      | some c' =>
        match sysStep M s c' with
        | none => none
        | some s' => (projRunWith M pc sN' s' cs).map (fun r => (c' :: r.1, r.2))

theorem projRunWith_sound {M : Nat} {p : Int} {ok : SysN → ChoiceN → Bool}
    {pc : SysN → Sys → ChoiceN → Option Choice}
    (hstep : ∀ {sN sN' : SysN} {s : Sys} (c : ChoiceN), WRel (BRp p) p sN s → ok sN c = true →
      sysStepN M sN c = some sN' → StepRes M p sN' s (pc sN s c)) (cs : List ChoiceN) :
    ∀ {sN sNf : SysN} {s : Sys}, WRel (BRp p) p sN s → okRun M ok sN cs = true → runN M sN cs = some sNf →
    ∃ cs' sf, projRunWith M pc sN s cs = some (cs', sf) ∧ run M s cs' = some sf ∧ WRel (BRp p) p sNf sf := by
  induction cs with
  | nil =>
    intro sN sNf s h _ hr
    cases hr
    exact ⟨[], s, rfl, rfl, h⟩
  | cons c cs ih =>
    intro sN sNf s h hok hr
    simp only [runN, okRun] at hr hok
    cases hs : sysStepN M sN c with
    | none => rw [hs] at hr; cases hr
    | some sN1 =>
      rw [hs] at hr hok
      simp only [Bool.and_eq_true] at hok
      have hres := hstep c h hok.1 hs
      cases hpc : pc sN s c with
      | none =>
        rw [hpc] at hres
        obtain ⟨cs', sf, e1, e2, e3⟩ := ih hres hok.2 hr
        exact ⟨cs', sf, by simp only [projRunWith, hs, hpc]; exact e1, e2, e3⟩
      | some c' =>
        rw [hpc] at hres
        obtain ⟨s', h1, h2⟩ := hres
        obtain ⟨cs', sf, e1, e2, e3⟩ := ih h2 hok.2 hr
        exact ⟨c' :: cs', sf, by simp only [projRunWith, hs, hpc, h1, e1, Option.map_some],
          by simp only [run, h1]; exact e2, e3⟩

def stepOKd (d : SysN → Nat → Bool) (p : Int) (sN : SysN) : ChoiceN → Bool
  | .broker w r => brOK p sN w r
  | .deliver w _ => d sN w
  | _ => true

theorem okRun_deliver_mono {M : Nat} {p : Int} {d d' : SysN → Nat → Bool}
    (h : ∀ sN w, d sN w = true → d' sN w = true) (cs : List ChoiceN) (sN : SysN) :
    okRun M (stepOKd d p) sN cs = true → okRun M (stepOKd d' p) sN cs = true :=
  okRun_mono (fun sN c hc => by cases c <;> first | exact hc | exact h _ _ hc) cs sN

theorem projOK_eq (M : Nat) (p : Int) : ∀ (cs : List ChoiceN) (sN : SysN),
    projOK M p sN cs = okRun M (stepOKd (delOK p) p) sN cs :=
  eq_okRun (fun _ => rfl) (fun _ _ _ => rfl)

def projRun (M : Nat) (p : Int) : SysN → Sys → List ChoiceN → Option (List Choice × Sys)
  | _, s, [] => some ([], s)
  | sN, s, c :: cs =>
    match sysStepN M sN c with
    | none => none
    | some sN' =>
      match projChoice p sN s c with
      | none => projRun M p sN' s cs
      | some c' =>
        match sysStep M s c' with
        | none => none
        | some s' => (projRun M p sN' s' cs).map (fun r => (c' :: r.1, r.2))

theorem projRun_eq (M : Nat) (p : Int) (cs : List ChoiceN) : ∀ (sN : SysN) (s : Sys),
    projRun M p sN s cs = projRunWith M (projChoice p) sN s cs := by
  induction cs with
  | nil => intro _ _; rfl
  | cons c cs ih => intro sN s; simp only [projRun, projRunWith, ih]

theorem projRun_sound_gen {M : Nat} {p : Int} (cs : List ChoiceN) {sN sNf : SysN} {s : Sys}
    (h : WRel (BRp p) p sN s) (hok : projOK M p sN cs = true) (hr : runN M sN cs = some sNf) :
    ∃ cs' sf, projRun M p sN s cs = some (cs', sf) ∧ run M s cs' = some sf ∧ WRel (BRp p) p sNf sf := by
  rw [projOK_eq] at hok
  rw [projRun_eq]
  exact projRunWith_sound (ok := stepOKd (delOK p) p)
    (fun c h hc hs => proj_step_c h c (by cases c <;> exact hc) hs) cs h hok hr

theorem projRun_sound {M : Nat} {p : Int} (cs : List ChoiceN) (sN : SysN)
    (hok : projOK M p {} cs = true) (hr : runN M {} cs = some sN) :
    ∃ cs' s, projRun M p {} {} cs = some (cs', s) ∧ run M {} cs' = some s ∧ s.log = sN.log p ∧ s.succ = sN.succ p ∧
      s.errs = sN.errs p := by
  obtain ⟨cs', sf, e1, e2, e3⟩ := projRun_sound_gen cs (wrel_init p) hok hr
  exact ⟨cs', sf, e1, e2, e3.q.log, e3.q.succ, e3.q.errs⟩

theorem logOrder_of_exists_run {M : Nat} (hM : 1 ≤ M) {p : Int} {sN : SysN}
    (h : ∃ (cs' : List Choice) (s : Sys), run M {} cs' = some s ∧ s.log = sN.log p ∧ s.succ = sN.succ p ∧
      s.errs = sN.errs p) :
    ∃ (cs' : List Choice) (s : Sys), run M {} cs' = some s ∧ s.log = sN.log p ∧ s.succ = sN.succ p ∧
      (splitOKs M cs' = true → LogOrderOf (sN.log p) (sN.succ p)) := by
  obtain ⟨cs', s, h1, h2, h3, _⟩ := h
  exact ⟨cs', s, h1, h2, h3, logOrder_of_run hM h1 h2 h3⟩

def projSplitOK (M : Nat) (p : Int) (cs : List ChoiceN) : Bool :=
  match projRun M p {} {} cs with
  | some (cs', _) => splitOKs M cs'
  | none => false

theorem log_order_every_partition_checked {M : Nat} (hM : 1 ≤ M) {p : Int} (cs : List ChoiceN) (sN : SysN)
    (hok : projOK M p {} cs = true) (hsp : projSplitOK M p cs = true) (hr : runN M {} cs = some sN) :
    LogOrderOf (sN.log p) (sN.succ p) := by
  obtain ⟨cs', s, e1, e2, e3, e4, _⟩ := projRun_sound cs sN hok hr
  simp only [projSplitOK, e1] at hsp
  exact logOrder_of_run hM e2 e3 e4 hsp

theorem ProjSim_projOK {M : Nat} {p : Int} (cs : List ChoiceN) (sN : SysN)
    (hok : projOK M p {} cs = true) (hr : runN M {} cs = some sN) :
    ∃ (cs' : List Choice) (s : Sys), run M {} cs' = some s ∧ s.log = sN.log p ∧ s.succ = sN.succ p ∧
      s.errs = sN.errs p := by
  obtain ⟨cs', s, _, h⟩ := projRun_sound cs sN hok hr
  exact ⟨cs', s, h⟩

theorem log_order_every_partition_projOK {M : Nat} (hM : 1 ≤ M) {p : Int}
    (cs : List ChoiceN) (sN : SysN) (hok : projOK M p {} cs = true) (hr : runN M {} cs = some sN) :
    ∃ (cs' : List Choice) (s : Sys), run M {} cs' = some s ∧ s.log = sN.log p ∧ s.succ = sN.succ p ∧
      (splitOKs M cs' = true → LogOrderOf (sN.log p) (sN.succ p)) :=
  logOrder_of_exists_run hM (ProjSim_projOK cs sN hok hr)

section
set_option linter.unusedVariables false

/-- `hdel` holds outright (`deliverProj_holds`); the proof does not use it -/
theorem ProjSim_partial {M : Nat} {p : Int} (hdel : DeliverProj M p) (cs : List ChoiceN) (sN : SysN)
    (hok : projOK M p {} cs = true) (hr : runN M {} cs = some sN) :
    ∃ (cs' : List Choice) (s : Sys), run M {} cs' = some s ∧ s.log = sN.log p ∧ s.succ = sN.succ p ∧
      s.errs = sN.errs p :=
  ProjSim_projOK cs sN hok hr

end

theorem log_order_every_partition_partial {M : Nat} (hM : 1 ≤ M) {p : Int} (hdel : DeliverProj M p)
    (cs : List ChoiceN) (sN : SysN) (hok : projOK M p {} cs = true) (hr : runN M {} cs = some sN) :
    ∃ (cs' : List Choice) (s : Sys), run M {} cs' = some s ∧ s.log = sN.log p ∧ s.succ = sN.succ p ∧
      (splitOKs M cs' = true → LogOrderOf (sN.log p) (sN.succ p)) :=
  logOrder_of_exists_run hM (ProjSim_partial hdel cs sN hok hr)

theorem ProjSim_partial' {M : Nat} {p : Int} (hv : DeliverVisProj M p) (cs : List ChoiceN) (sN : SysN)
    (hok : projOK M p {} cs = true) (hr : runN M {} cs = some sN) :
    ∃ (cs' : List Choice) (s : Sys), run M {} cs' = some s ∧ s.log = sN.log p ∧ s.succ = sN.succ p ∧
      s.errs = sN.errs p :=
  ProjSim_partial (deliverProj_of_vis hv) cs sN hok hr

theorem log_order_every_partition_partial' {M : Nat} (hM : 1 ≤ M) {p : Int} (hv : DeliverVisProj M p)
    (cs : List ChoiceN) (sN : SysN) (hok : projOK M p {} cs = true) (hr : runN M {} cs = some sN) :
    ∃ (cs' : List Choice) (s : Sys), run M {} cs' = some s ∧ s.log = sN.log p ∧ s.succ = sN.succ p ∧
      (splitOKs M cs' = true → LogOrderOf (sN.log p) (sN.succ p)) :=
  log_order_every_partition_partial hM (deliverProj_of_vis hv) cs sN hok hr

theorem ProjSim_partial'' {M : Nat} {p : Int} (hc : DeliverVisConnProj M p) (cs : List ChoiceN) (sN : SysN)
    (hok : projOK M p {} cs = true) (hr : runN M {} cs = some sN) :
    ∃ (cs' : List Choice) (s : Sys), run M {} cs' = some s ∧ s.log = sN.log p ∧ s.succ = sN.succ p ∧
      s.errs = sN.errs p :=
  ProjSim_partial' (deliverVisProj_of_conn hc) cs sN hok hr

theorem log_order_every_partition_partial'' {M : Nat} (hM : 1 ≤ M) {p : Int} (hc : DeliverVisConnProj M p)
    (cs : List ChoiceN) (sN : SysN) (hok : projOK M p {} cs = true) (hr : runN M {} cs = some sN) :
    ∃ (cs' : List Choice) (s : Sys), run M {} cs' = some s ∧ s.log = sN.log p ∧ s.succ = sN.succ p ∧
      (splitOKs M cs' = true → LogOrderOf (sN.log p) (sN.succ p)) :=
  log_order_every_partition_partial' hM (deliverVisProj_of_conn hc) cs sN hok hr

def delOKn (p : Int) (sN : SysN) (w : Nat) : Bool :=
  match (sN.wk w).bp.sets, (sN.wk w).pend with
  | sent :: _, some (r, _) => (projL p sent).isEmpty && (!isConn r && (projWait p (sN.wk w).bp.wait).isNone)
  | _, _ => true

def projOKn (M : Nat) (p : Int) : SysN → List ChoiceN → Bool
  | _, [] => true
  | sN, c :: cs =>
    match sysStepN M sN c with
    | none => false
    | some sN' =>
      (match c with
        | .broker w r => brOK p sN w r
        | .deliver w _ => delOKn p sN w
        | _ => true) && projOKn M p sN' cs

def delOKp (p : Int) (sN : SysN) (w : Nat) : Bool :=
  match (sN.wk w).bp.sets, (sN.wk w).pend with
  | sent :: _, some (r, _) => !isConn r && (!(projL p sent).isEmpty || (projWait p (sN.wk w).bp.wait).isNone)
  | _, _ => true

def projOKp (M : Nat) (p : Int) : SysN → List ChoiceN → Bool
  | _, [] => true
  | sN, c :: cs =>
    match sysStepN M sN c with
    | none => false
    | some sN' =>
      (match c with
        | .broker w r => brOK p sN w r
        | .deliver w _ => delOKp p sN w
        | _ => true) && projOKp M p sN' cs

theorem delOKn_le {p : Int} {sN : SysN} {w : Nat} (h : delOKn p sN w = true) : delOK p sN w = true := by
  revert h
  unfold delOKn delOK
  cases (sN.wk w).bp.sets with
  | nil => exact id
  | cons sent rest =>
    cases (sN.wk w).pend with
    | none => exact id
    | some rb => exact fun h => Bool.or_eq_true_iff.2 (Or.inr (Bool.and_eq_true_iff.1 h).2)

theorem delOKp_le {p : Int} {sN : SysN} {w : Nat} (h : delOKp p sN w = true) : delOK p sN w = true := by
  revert h
  unfold delOKp delOK
  cases (sN.wk w).bp.sets with
  | nil => exact id
  | cons sent rest =>
    cases (sN.wk w).pend with
    | none => exact id
    | some rb =>
      intro h
      obtain ⟨h1, h2⟩ := Bool.and_eq_true_iff.1 h
      exact Bool.or_eq_true_iff.2 ((Bool.or_eq_true_iff.1 h2).imp_right fun e => Bool.and_eq_true_iff.2 ⟨h1, e⟩)

theorem projOKn_eq (M : Nat) (p : Int) : ∀ (cs : List ChoiceN) (sN : SysN),
    projOKn M p sN cs = okRun M (stepOKd (delOKn p) p) sN cs :=
  eq_okRun (fun _ => rfl) (fun _ _ _ => rfl)

theorem projOKp_eq (M : Nat) (p : Int) : ∀ (cs : List ChoiceN) (sN : SysN),
    projOKp M p sN cs = okRun M (stepOKd (delOKp p) p) sN cs :=
  eq_okRun (fun _ => rfl) (fun _ _ _ => rfl)

theorem projOK_of_projOKn {M : Nat} {p : Int} (cs : List ChoiceN) (sN : SysN) (h : projOKn M p sN cs = true) :
    projOK M p sN cs = true :=
  projOK_eq M p cs sN ▸ okRun_deliver_mono (fun _ _ => delOKn_le) cs sN (projOKn_eq M p cs sN ▸ h)

theorem projOK_of_projOKp {M : Nat} {p : Int} (cs : List ChoiceN) (sN : SysN) (h : projOKp M p sN cs = true) :
    projOK M p sN cs = true :=
  projOK_eq M p cs sN ▸ okRun_deliver_mono (fun _ _ => delOKp_le) cs sN (projOKp_eq M p cs sN ▸ h)

theorem ProjSim_noneDelivered {M : Nat} {p : Int} (cs : List ChoiceN) (sN : SysN)
    (hok : projOKn M p {} cs = true) (hr : runN M {} cs = some sN) :
    ∃ (cs' : List Choice) (s : Sys), run M {} cs' = some s ∧ s.log = sN.log p ∧ s.succ = sN.succ p ∧
      s.errs = sN.errs p :=
  ProjSim_projOK cs sN (projOK_of_projOKn cs _ hok) hr

theorem log_order_every_partition_noneDelivered {M : Nat} (hM : 1 ≤ M) {p : Int}
    (cs : List ChoiceN) (sN : SysN) (hok : projOKn M p {} cs = true) (hr : runN M {} cs = some sN) :
    ∃ (cs' : List Choice) (s : Sys), run M {} cs' = some s ∧ s.log = sN.log p ∧ s.succ = sN.succ p ∧
      (splitOKs M cs' = true → LogOrderOf (sN.log p) (sN.succ p)) :=
  logOrder_of_exists_run hM (ProjSim_noneDelivered cs sN hok hr)

theorem ProjSim_parts {M : Nat} {p : Int} (cs : List ChoiceN) (sN : SysN)
    (hok : projOKp M p {} cs = true) (hr : runN M {} cs = some sN) :
    ∃ (cs' : List Choice) (s : Sys), run M {} cs' = some s ∧ s.log = sN.log p ∧ s.succ = sN.succ p ∧
      s.errs = sN.errs p :=
  ProjSim_projOK cs sN (projOK_of_projOKp cs _ hok) hr

theorem log_order_every_partition_parts {M : Nat} (hM : 1 ≤ M) {p : Int}
    (cs : List ChoiceN) (sN : SysN) (hok : projOKp M p {} cs = true) (hr : runN M {} cs = some sN) :
    ∃ (cs' : List Choice) (s : Sys), run M {} cs' = some s ∧ s.log = sN.log p ∧ s.succ = sN.succ p ∧
      (splitOKs M cs' = true → LogOrderOf (sN.log p) (sN.succ p)) :=
  logOrder_of_exists_run hM (ProjSim_parts cs sN hok hr)

def projOK2 (M : Nat) (p : Int) : SysN → List ChoiceN → Bool
  | _, [] => true
  | sN, c :: cs =>
    match sysStepN M sN c with
    | none => false
    | some sN' => stepOK2 p sN c && projOK2 M p sN' cs

def projRun2 (M : Nat) (p : Int) : SysN → Sys → List ChoiceN → Option (List Choice × Sys)
  | _, s, [] => some ([], s)
  | sN, s, c :: cs =>
    match sysStepN M sN c with
    | none => none
    | some sN' =>
      match projChoice2 p sN s c with
      | none => projRun2 M p sN' s cs
      | some c' =>
        match sysStep M s c' with
        | none => none
        | some s' => (projRun2 M p sN' s' cs).map (fun r => (c' :: r.1, r.2))

theorem projOK2_eq (M : Nat) (p : Int) : ∀ (cs : List ChoiceN) (sN : SysN),
    projOK2 M p sN cs = okRun M (stepOK2 p) sN cs :=
  eq_okRun (fun _ => rfl) (fun _ _ _ => rfl)

theorem projRun2_eq (M : Nat) (p : Int) (cs : List ChoiceN) : ∀ (sN : SysN) (s : Sys),
    projRun2 M p sN s cs = projRunWith M (projChoice2 p) sN s cs := by
  induction cs with
  | nil => intro _ _; rfl
  | cons c cs ih => intro sN s; simp only [projRun2, projRunWith, ih]

theorem projRun2_sound_gen {M : Nat} {p : Int} (cs : List ChoiceN) {sN sNf : SysN} {s : Sys}
    (h : WRel (BRp p) p sN s) (hok : projOK2 M p sN cs = true) (hr : runN M sN cs = some sNf) :
    ∃ cs' sf, projRun2 M p sN s cs = some (cs', sf) ∧ run M s cs' = some sf ∧ WRel (BRp p) p sNf sf := by
  rw [projOK2_eq] at hok
  rw [projRun2_eq]
  exact projRunWith_sound (fun c h hc hs => proj_step_c2 h c hc hs) cs h hok hr

theorem projRun2_sound {M : Nat} {p : Int} (cs : List ChoiceN) (sN : SysN)
    (hok : projOK2 M p {} cs = true) (hr : runN M {} cs = some sN) :
    ∃ cs' s, projRun2 M p {} {} cs = some (cs', s) ∧ run M {} cs' = some s ∧ s.log = sN.log p ∧ s.succ = sN.succ p ∧
      s.errs = sN.errs p := by
  obtain ⟨cs', sf, e1, e2, e3⟩ := projRun2_sound_gen cs (wrel_init p) hok hr
  exact ⟨cs', sf, e1, e2, e3.q.log, e3.q.succ, e3.q.errs⟩

def projSplitOK2 (M : Nat) (p : Int) (cs : List ChoiceN) : Bool :=
  match projRun2 M p {} {} cs with
  | some (cs', _) => splitOKs M cs'
  | none => false

theorem log_order_every_partition_checked2 {M : Nat} (hM : 1 ≤ M) {p : Int} (cs : List ChoiceN) (sN : SysN)
    (hok : projOK2 M p {} cs = true) (hsp : projSplitOK2 M p cs = true) (hr : runN M {} cs = some sN) :
    LogOrderOf (sN.log p) (sN.succ p) := by
  obtain ⟨cs', s, e1, e2, e3, e4, _⟩ := projRun2_sound cs sN hok hr
  simp only [projSplitOK2, e1] at hsp
  exact logOrder_of_run hM e2 e3 e4 hsp

theorem exTwo_projOKp : projOKp 2 0 {} exTwo = true ∧ projOKp 2 1 {} exTwo = true := by decide +kernel

theorem exTwo_projOK : projOK 2 0 {} exTwo = true ∧ projOK 2 1 {} exTwo = true :=
  ⟨projOK_of_projOKp _ _ exTwo_projOKp.1, projOK_of_projOKp _ _ exTwo_projOKp.2⟩

theorem exTwo_projSplitOK : projSplitOK 2 0 exTwo = true ∧ projSplitOK 2 1 exTwo = true := by decide +kernel

example : projOK 2 0 {} exTwo = true := exTwo_projOK.1
example : projOK 2 1 {} exTwo = true := exTwo_projOK.2

example (h0 : DeliverProj 2 0) : ∃ (cs' : List Choice) (s : Sys), run 2 {} cs' = some s ∧
    (∃ sN, runN 2 {} exTwo = some sN ∧ s.log = sN.log 0) := by
  obtain ⟨sN, hr⟩ := exTwo_runs
  obtain ⟨cs', s, h1, h2, _⟩ := ProjSim_partial h0 exTwo sN exTwo_projOK.1 hr
  exact ⟨cs', s, h1, sN, hr, h2⟩

/-! `exHid`: a set of partition 1 is answered and delivered while a message of partition 0 is on its way; afterwards
    messages of both partitions share a set, which the broker appends (not yet delivered).  For `p = 0` the `deliver`
    step is hidden. -/

def exHid : List ChoiceN :=
  [.submit 0, .submit 1, .dispatch, .dispatch, .ppRecv 1 [some 0], .bpRecv 0 false, .bpRecv 0 false, .handover 0,
   .broker 0 (.parts (fun _ => .ok)), .deliver 0 false, .ppRecv 0 [some 0], .bpRecv 0 false, .bpRecv 0 false,
   .submit 1, .dispatch, .ppRecv 1 [], .bpRecv 0 false, .handover 0, .broker 0 (.parts (fun _ => .ok))]

theorem exHid_projOKn : projOKn 2 0 {} exHid = true := by decide +kernel

theorem exHid_end : (runN 2 {} exHid).map (fun s => (s.log 0, s.log 1, s.succ 0, s.succ 1)) =
    some ([0], [0, 1], [], [(0, 0)]) := by decide +kernel

example : projOKn 2 0 {} exHid = true := exHid_projOKn
example : (runN 2 {} exHid).map (fun s => (s.log 0, s.log 1, s.succ 0, s.succ 1)) =
    some ([0], [0, 1], [], [(0, 0)]) := exHid_end
/-- the first `deliver` of `exTwo` answers a set with messages of both partitions -/
example : projOKn 2 0 {} exTwo = false ∧ projOK 2 0 {} exTwo = true := ⟨by decide +kernel, exTwo_projOK.1⟩

example : ∃ (cs' : List Choice) (s : Sys), run 2 {} cs' = some s ∧ s.log = [0] ∧ s.succ = [] := by
  obtain ⟨sN, hr, e⟩ := Option.map_eq_some_iff.1 exHid_end
  obtain ⟨cs', s, h1, h2, h3, _⟩ := ProjSim_noneDelivered (M := 2) (p := 0) exHid sN exHid_projOKn hr
  exact ⟨cs', s, h1, h2.trans (congrArg (·.1) e), h3.trans (congrArg (·.2.2.1) e)⟩

example (hv : DeliverVisProj 2 0) : DeliverProj 2 0 := deliverProj_of_vis hv

example : projOKp 2 0 {} exTwo = true := exTwo_projOKp.1
example : projOKp 2 1 {} exTwo = true := exTwo_projOKp.2

example : ∃ (cs' : List Choice) (s : Sys), run 2 {} cs' = some s ∧ s.log = [0, 1] ∧ s.succ = [(0, 0), (1, 1)] := by
  obtain ⟨sN, hr, e⟩ := Option.map_eq_some_iff.1 exTwo_end0
  obtain ⟨cs', s, h1, h2, h3, _⟩ := ProjSim_parts (M := 2) (p := 0) exTwo sN exTwo_projOKp.1 hr
  exact ⟨cs', s, h1, h2.trans (congrArg (·.1) e), h3.trans (congrArg (·.2) e)⟩

example : ∃ (cs' : List Choice), (splitOKs 2 cs' = true → ∀ sN, runN 2 {} exTwo = some sN →
    LogOrderOf (sN.log 1) (sN.succ 1)) := by
  obtain ⟨sN, hr⟩ := exTwo_runs
  obtain ⟨cs', _, _, _, _, h4⟩ :=
    log_order_every_partition_parts (M := 2) (by decide) (p := 1) exTwo sN exTwo_projOKp.2 hr
  exact ⟨cs', fun hsp _ e => Option.some.inj (hr.symm.trans e) ▸ h4 hsp⟩

example : ∃ (cs' : List Choice) (s : Sys), run 2 {} cs' = some s ∧
    (∃ sN, runN 2 {} exTwo = some sN ∧ s.log = sN.log 1 ∧ s.succ = sN.succ 1) := by
  obtain ⟨sN, hr⟩ := exTwo_runs
  obtain ⟨cs', s, h1, h2, h3, _⟩ := ProjSim_projOK (M := 2) (p := 1) exTwo sN exTwo_projOK.2 hr
  exact ⟨cs', s, h1, sN, hr, h2, h3⟩

/-- a connection error for a set with messages of both partitions: both are re-queued, the worker is closing -/
def exConn : List ChoiceN :=
  [.submit 0, .submit 1, .dispatch, .dispatch, .ppRecv 0 [some 0], .ppRecv 1 [some 0],
   .bpRecv 0 false, .bpRecv 0 false, .bpRecv 0 false, .bpRecv 0 false, .handover 0,
   .broker 0 (.conn false), .deliver 0 false]

theorem exConn_projOK : projOK 2 0 {} exConn = true ∧ projOK 2 1 {} exConn = true := by decide +kernel

theorem exConn_projSplitOK : projSplitOK 2 0 exConn = true ∧ projSplitOK 2 1 exConn = true := by decide +kernel

theorem exConn_end : (runN 2 {} exConn).map (fun s => (s.log 0, s.log 1)) = some ([], []) := by decide +kernel

example : projOK 2 0 {} exConn = true ∧ projOK 2 1 {} exConn = true := exConn_projOK
example : (runN 2 {} exConn).map (fun s => (s.log 0, s.log 1)) = some ([], []) := exConn_end
example : (runN 2 {} exConn).map (fun s => s.ret.map (fun t => t.part)) = some [0, 1] := by decide +kernel
example : (runN 2 {} exConn).map (fun s => (s.wk 0).bp.closing) = some true := by decide +kernel
example : projOKp 2 0 {} exConn = false := by decide +kernel

example : ∃ (cs' : List Choice) (s : Sys), run 2 {} cs' = some s ∧
    (∃ sN, runN 2 {} exConn = some sN ∧ s.log = sN.log 0 ∧ s.errs = sN.errs 0) := by
  obtain ⟨sN, hr, _⟩ := Option.map_eq_some_iff.1 exConn_end
  obtain ⟨cs', s, h1, h2, _, h4⟩ := ProjSim_projOK (M := 2) (p := 0) exConn sN exConn_projOK.1 hr
  exact ⟨cs', s, h1, sN, hr, h2, h4⟩

example : (projRun 2 0 {} {} exTwo).map (fun r => r.1.length) = some 12 := by decide +kernel
example : projSplitOK 2 0 exTwo = true ∧ projSplitOK 2 1 exTwo = true := exTwo_projSplitOK
example : projSplitOK 2 0 exConn = true ∧ projSplitOK 2 1 exConn = true := exConn_projSplitOK

example : ∀ sN, runN 2 {} exTwo = some sN → LogOrderOf (sN.log 0) (sN.succ 0) ∧ LogOrderOf (sN.log 1) (sN.succ 1) :=
  fun sN hr => ⟨log_order_every_partition_checked (by decide) exTwo sN exTwo_projOK.1 exTwo_projSplitOK.1 hr,
    log_order_every_partition_checked (by decide) exTwo sN exTwo_projOK.2 exTwo_projSplitOK.2 hr⟩

example : ∀ sN, runN 2 {} exConn = some sN → LogOrderOf (sN.log 0) (sN.succ 0) ∧ LogOrderOf (sN.log 1) (sN.succ 1) :=
  fun sN hr => ⟨log_order_every_partition_checked (by decide) exConn sN exConn_projOK.1 exConn_projSplitOK.1 hr,
    log_order_every_partition_checked (by decide) exConn sN exConn_projOK.2 exConn_projSplitOK.2 hr⟩

/-! `exForeignConn`: a connection error for a set of partition 1 on worker 0, which is also the current worker of
    partition 0 (its syn consumed, nothing of partition 0 there): `closeW` is enabled in the projection -/

def exForeignConn : List ChoiceN :=
  [.submit 0, .dispatch, .ppRecv 0 [some 0], .bpRecv 0 false, .bpRecv 0 false, .handover 0,
   .broker 0 (.parts (fun _ => .ok)), .deliver 0 false,
   .submit 1, .dispatch, .ppRecv 1 [some 0], .bpRecv 0 false, .bpRecv 0 false, .handover 0,
   .broker 0 (.conn false), .deliver 0 false]

theorem exForeignConn_projOK2 : projOK2 2 0 {} exForeignConn = true ∧ projOK2 2 1 {} exForeignConn = true := by
  decide +kernel

theorem exForeignConn_projSplitOK2 : projSplitOK2 2 0 exForeignConn = true ∧ projSplitOK2 2 1 exForeignConn = true := by
  decide +kernel

example : (runN 2 {} exForeignConn).map (fun s => ((s.wk 0).bp.closing, s.cur 0, s.log 0, s.succ 0)) =
    some (true, some 0, [0], [(0, 0)]) := by decide +kernel

example : projOK 2 0 {} exForeignConn = false ∧ projOK2 2 0 {} exForeignConn = true :=
  ⟨by decide +kernel, exForeignConn_projOK2.1⟩
example : (projRun2 2 0 {} {} exForeignConn).map (fun r => r.1.length) = some 9 := by decide +kernel
example : projSplitOK2 2 0 exForeignConn = true ∧ projSplitOK2 2 1 exForeignConn = true := exForeignConn_projSplitOK2

example : ∀ sN, runN 2 {} exForeignConn = some sN →
    LogOrderOf (sN.log 0) (sN.succ 0) ∧ LogOrderOf (sN.log 1) (sN.succ 1) :=
  fun sN hr =>
    ⟨log_order_every_partition_checked2 (by decide) exForeignConn sN exForeignConn_projOK2.1
      exForeignConn_projSplitOK2.1 hr,
    log_order_every_partition_checked2 (by decide) exForeignConn sN exForeignConn_projOK2.2
      exForeignConn_projSplitOK2.2 hr⟩

example : projOK2 2 0 {} exTwo = true ∧ projSplitOK2 2 0 exTwo = true ∧ projOK2 2 1 {} exTwo = true ∧
    projSplitOK2 2 1 exTwo = true := by decide +kernel
example : projOK2 2 0 {} exConn = true ∧ projSplitOK2 2 0 exConn = true ∧ projOK2 2 1 {} exConn = true ∧
    projSplitOK2 2 1 exConn = true := by decide +kernel

end Props.C02sys
