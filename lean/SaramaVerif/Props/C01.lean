import SaramaVerif.Model.Producer
import SaramaVerif.Lemmas.Acceptor
/-
  C01 — every produced message gets exactly one terminal outcome.
  Theorems over ALL event sequences the accounting model accepts (any schedule, fault script, retry budget,
  flush setting: these only influence WHICH accepted sequence occurs).  Trace validation (harness) checks on
  every run that the real pipeline's event streams are accepted sequences.
-/
namespace Props.C01
open Model.Producer Lemmas.Acceptor

/-- 1 while the shutdown marker is in the pipeline -/
def pendingShutdown (s : St) : Nat := if s.shutdownStarted ∧ ¬ s.shutdownSeen then 1 else 0

structure PInv (s : St) : Prop where
  wg_eq      : s.wg = (s.live.length : Int) + (s.markers : Int) + (pendingShutdown s : Int)
  conserve   : ∀ id, s.live.count id + s.succ.count id + s.errs.count id = s.accepted.count id + s.rejected.count id
  once       : ∀ id, s.accepted.count id + s.rejected.count id ≤ 1
  live_pos   : ∀ id, id ∈ s.live → 0 < id
  rej_errs   : ∀ id, s.rejected.count id ≤ s.errs.count id
  retry_le   : ∀ id, s.retryLog.count id ≤ s.cfg.retryMax
  pass_le    : ∀ id, s.passLog.count id ≤ s.retryLog.count id + 1
  icept_le   : ∀ id, s.iceptLog.count id ≤ s.cfg.icepts
  icept_full : ∀ id, 0 < s.passLog.count id → s.iceptLog.count id = s.cfg.icepts
  seq_once   : ∀ id, s.seqLog.count id ≤ 1
  seen_start : s.shutdownSeen = true → s.shutdownStarted = true
  waited_emp : s.waited = true → s.live = [] ∧ s.markers = 0 ∧ s.shutdownSeen = true
  closed_w   : s.closed = true → s.waited = true

theorem init_inv (cfg : Cfg) : PInv (init cfg) := by
  constructor <;> simp [init, pendingShutdown]

private theorem count_cons_le (l : List Int) (a b : Int) : l.count a ≤ (b :: l).count a := by
  simp only [List.count_cons]; omega

private theorem count_erase_le (l : List Int) (a b : Int) : (l.erase b).count a ≤ l.count a := by
  by_cases h : a = b
  · subst h; rw [List.count_erase_self]; omega
  · rw [List.count_erase_of_ne h]; omega

theorem count_push_le {l : List Int} {B : Int → Nat} {id : Int} (h : ∀ a, l.count a ≤ B a) (hid : l.count id < B id) :
    ∀ a, (id :: l).count a ≤ B a := by
  intro a; have := h a; simp only [List.count_cons, beq_iff_eq]; split <;> subst_vars <;> omega

/-- The `.sent` event inverted.  First case: outside an idempotent produce set, or not an application message's id.
    Second: `(e, f)` is the stamp of the set, `idx` the position in it; `id ∈ s.viaBatch` says that the message's latest
    re-entry was a whole-batch resend. -/
theorem step_sent_cases (s s' : St) (id idx : Int) (h : step s (.sent id idx) = .ok s') :
    ((s.curStamp = none ∨ id ≤ 0) ∧ s' = s) ∨
    ∃ e f me mq, s' = { s with lastSent := insert3 s.lastSent id (e, f + idx) } ∧ s.curStamp = some (e, f) ∧
      0 < id ∧ lookup3 s.msgStamp id = some (me, mq) ∧ me ≤ e ∧
      (id ∈ s.viaBatch → ∀ prev, lookup3 s.lastSent id = some prev → prev = (e, f + idx)) := by
  revert h
  dsimp only [step]
  split
  · rename_i hc; rintro ⟨⟩; exact .inl ⟨.inl hc, rfl⟩
  rename_i e f hc
  refine ok_of_ite (fun hid => ?_) (fun hid => ?_)
  · rintro ⟨⟩; exact .inl ⟨.inr hid, rfl⟩
  split
  · nofun
  rename_i me mq hm
  refine ok_of_guard fun hlt => ?_
  split
  · rename_i prev hp
    refine ok_of_guard fun hne h => ?_
    cases h
    exact .inr ⟨e, f, me, mq, rfl, hc, Int.not_le.mp hid, hm, Int.not_lt.mp hlt, fun hv p hpp =>
      Decidable.byContradiction fun hh => hne ⟨hv, Option.some.inj (hp.symm.trans hpp) ▸ hh⟩⟩
  · rename_i hp
    rintro ⟨⟩
    exact .inr ⟨e, f, me, mq, rfl, hc, Int.not_le.mp hid, hm, Int.not_lt.mp hlt, fun _ p hpp =>
      nomatch hp.symm.trans hpp⟩

theorem step_sent (s s' : St) (id idx : Int) (h : step s (.sent id idx) = .ok s') :
    ∃ l, s' = { s with lastSent := l } := by
  rcases step_sent_cases s s' id idx h with ⟨_, rfl⟩ | ⟨_, _, _, _, rfl, -⟩ <;> exact ⟨_, rfl⟩

theorem step_inv (s s' : St) (e : Ev) (h : step s e = .ok s') (hi : PInv s) : PInv s' := by
  revert h
  cases e
  case accept id =>
    refine ok_of_guard fun hpos => ok_of_guard fun hdup => ok_of_guard fun hsd => ok_of_guard fun _ h => ?_
    cases h
    have hna : s.accepted.count id = 0 := List.count_eq_zero.mpr (fun hh => hdup (Or.inl hh))
    have hnr : s.rejected.count id = 0 := List.count_eq_zero.mpr (fun hh => hdup (Or.inr hh))
    refine { hi with wg_eq := ?_, conserve := ?_, once := ?_, live_pos := ?_, waited_emp := ?_ }
    · have := hi.wg_eq; simp only [List.length_cons, pendingShutdown] at this ⊢; omega
    · intro a; have := hi.conserve a; simp only [List.count_cons]; omega
    · intro a; have := hi.once a; simp only [List.count_cons, beq_iff_eq]; split <;> subst_vars <;> omega
    · intro a ha; rcases List.mem_cons.mp ha with rfl | h
      · omega
      · exact hi.live_pos a h
    · intro hw; exact absurd (hi.waited_emp hw).2.2 hsd
  case reject id =>
    refine ok_of_guard fun _ => ok_of_guard fun hdup => ok_of_guard fun _ => ok_of_guard fun _ h => ?_
    cases h
    have hna : s.accepted.count id = 0 := List.count_eq_zero.mpr (fun hh => hdup (Or.inl hh))
    have hnr : s.rejected.count id = 0 := List.count_eq_zero.mpr (fun hh => hdup (Or.inr hh))
    refine { hi with conserve := ?_, once := ?_, rej_errs := ?_ }
    · intro a; have := hi.conserve a; simp only [List.count_cons]; omega
    · intro a; have := hi.once a; simp only [List.count_cons, beq_iff_eq]; split <;> subst_vars <;> omega
    · intro a; have := hi.rej_errs a; simp only [List.count_cons]; omega
  case icept id =>
    refine ok_of_guard fun _ => ok_of_guard fun _ => ok_of_guard fun hp => ok_of_guard fun hc h => ?_
    cases h
    refine { hi with icept_le := count_push_le (B := fun _ => s.cfg.icepts) hi.icept_le (by omega), icept_full := ?_ }
    intro a hpa; have := hi.icept_full a hpa; simp only [List.count_cons, beq_iff_eq]; split <;> subst_vars <;> omega
  case pass id r =>
    refine ok_of_ite (fun _ h => by cases h; exact hi) fun _ =>
      ok_of_guard fun _ => ok_of_guard fun hr => ok_of_guard fun hp => ok_of_guard fun hc h => ?_
    cases h
    refine { hi with pass_le := count_push_le (B := fun a => s.retryLog.count a + 1) hi.pass_le (by omega), icept_full := ?_ }
    intro a; have := hi.icept_full a; simp only [List.count_cons, beq_iff_eq]; split <;> subst_vars <;> omega
  case shutdownSeen =>
    refine ok_of_guard fun h1 => ok_of_guard fun h2 h => ?_
    cases h
    have hst : s.shutdownStarted = true := Decidable.not_not.mp h1
    refine { hi with wg_eq := ?_, seen_start := fun _ => hst, waited_emp := fun hw => absurd (hi.waited_emp hw).2.2 h2 }
    have := hi.wg_eq
    simp only [pendingShutdown, hst, eq_false_of_ne_true h2, Bool.false_eq_true, not_false_eq_true, and_self,
      not_true_eq_false, and_false, ↓reduceIte] at this ⊢
    omega
  case wgAdd sh =>
    refine ok_of_guard fun h1 => ok_of_guard fun h2 => ok_of_ite (fun hsh h => ?_) (fun _ h => ?_) <;> cases h
    · -- the shutdown marker enters the pipeline: it was not there before
      have hns : s.shutdownStarted = false := by simpa [hsh] using h2
      have hnn : s.shutdownSeen = false := eq_false_of_ne_true fun hss => by simp [hi.seen_start hss] at hns
      refine { hi with wg_eq := ?_, seen_start := fun _ => rfl, waited_emp := fun hw => absurd hw h1 }
      have := hi.wg_eq
      simp only [pendingShutdown, hns, hnn, Bool.false_eq_true, not_false_eq_true, and_self, false_and,
        ↓reduceIte] at this ⊢
      omega
    · refine { hi with wg_eq := ?_, waited_emp := fun hw => absurd hw h1 }
      have := hi.wg_eq; simp only [pendingShutdown] at this ⊢; omega
  case wgDone id =>
    refine ok_of_guard fun _ => ok_of_guard fun h2 h => ?_
    cases h
    refine { hi with wg_eq := ?_, waited_emp := ?_ }
    · have := hi.wg_eq; simp only [pendingShutdown] at this ⊢; omega
    · intro hw; exact absurd (hi.waited_emp hw).2.1 h2
  case retry id r =>
    refine ok_of_ite (fun _ h => by cases h; exact hi) fun _ =>
      ok_of_guard fun _ => ok_of_guard fun hr => ok_of_guard fun hm h => ?_
    cases h
    refine { hi with retry_le := count_push_le (B := fun _ => s.cfg.retryMax) hi.retry_le (by omega), pass_le := ?_ }
    intro a; have := hi.pass_le a; simp only [List.count_cons]; omega
  case retErr id | retSucc id =>
    refine ok_of_guard fun _ => ok_of_ite (fun _ => ok_of_ite (fun hl h => ?_) nofun) nofun
    cases h
    have hp := List.count_pos_iff.mpr hl
    refine { hi with wg_eq := ?_, conserve := ?_, live_pos := ?_, rej_errs := ?_, waited_emp := ?_ }
    · have := List.length_erase_of_mem hl; have := List.length_pos_of_mem hl; have := hi.wg_eq
      simp only [pendingShutdown] at this ⊢; omega
    · intro a; have := hi.conserve a
      simp only [List.count_cons, List.count_erase, beq_iff_eq]; split <;> subst_vars <;> omega
    · intro a ha; exact hi.live_pos a (List.mem_of_mem_erase ha)
    · intro a; have := hi.rej_errs a; simp only [List.count_cons]; omega
    · intro hw; rw [(hi.waited_emp hw).1] at hl; cases hl
  case seq id =>
    refine ok_of_guard fun _ => ok_of_guard fun _ => ok_of_guard fun _ => ok_of_guard fun h4 h => ?_
    cases h
    exact { hi with seq_once := count_push_le hi.seq_once (by omega) }
  case waited =>
    refine ok_of_guard fun h1 => ok_of_guard fun h2 h => ?_
    cases h
    refine { hi with waited_emp := fun _ => ?_, closed_w := fun _ => rfl }
    -- the counter is zero: nothing live, no marker, and the shutdown marker has been consumed
    have hw := hi.wg_eq
    rw [Decidable.not_not.mp h2] at hw
    have hp : pendingShutdown s = 0 := by omega
    show s.live = [] ∧ s.markers = 0 ∧ s.shutdownSeen = true
    refine ⟨List.length_eq_zero_iff.mp (by omega), by omega, ?_⟩
    cases hss : s.shutdownSeen
    · simp [pendingShutdown, Decidable.not_not.mp h1, hss] at hp
    · rfl
  case close =>
    refine ok_of_guard fun h1 => ok_of_guard fun _ h => ?_
    cases h
    exact { hi with closed_w := fun _ => by simpa using h1 }
  case reentry => refine ok_of_ite (fun _ h => ?_) (fun _ h => ?_) <;> cases h <;> exact { hi with }
  case sent id idx => intro h; obtain ⟨l, rfl⟩ := step_sent s s' id idx h; exact { hi with }
  -- stamp, bump, stampAt, setStamp, sentEnd, other: they change fields that no clause of `PInv` mentions
  all_goals (repeat refine ok_of_guard fun _ => ?_); rintro ⟨⟩; exact { hi with }

theorem folds : Folds step run :=
  .ofExcept (fun _ => rfl) fun s e es => by rw [run]; cases step s e <;> rfl

theorem run_inv (s s' : St) (es : List Ev) (h : run s es = .ok s') (hi : PInv s) : PInv s' :=
  folds.inv PInv step_inv es s s' h hi

theorem reachable_inv (cfg : Cfg) (es : List Ev) (s : St) (h : run (init cfg) es = .ok s) : PInv s :=
  run_inv _ _ es h (init_inv cfg)

/-- a live message was accepted (not rejected: a rejected message has its error event already) -/
theorem PInv.live_accepted {s : St} (hi : PInv s) {id : Int} (h : id ∈ s.live) : id ∈ s.accepted := by
  have := hi.conserve id; have := hi.once id; have := hi.rej_errs id; have := List.count_pos_iff.mpr h
  exact List.count_pos_iff.mp (by omega)

/-- never two terminal events for one message -/
theorem at_most_one_outcome (cfg : Cfg) (es : List Ev) (s : St) (h : run (init cfg) es = .ok s) (id : Int) :
    (s.succ ++ s.errs).count id ≤ 1 := by
  have hi := reachable_inv cfg es s h
  have := hi.conserve id; have := hi.once id
  simp only [List.count_append]; omega

/-- no event for a message the application did not submit: every id with a terminal event was accepted or rejected
    (`accept` and `reject` take positive ids only, so none of them is an internal marker's) -/
theorem no_phantom_outcome (cfg : Cfg) (es : List Ev) (s : St) (h : run (init cfg) es = .ok s) (id : Int)
    (hm : id ∈ s.succ ++ s.errs) : id ∈ s.accepted ∨ id ∈ s.rejected := by
  have hi := reachable_inv cfg es s h
  have hc := hi.conserve id
  have hp : 0 < (s.succ ++ s.errs).count id := List.count_pos_iff.mpr hm
  simp only [List.count_append] at hp
  by_cases ha : id ∈ s.accepted
  · exact Or.inl ha
  · right
    have : s.accepted.count id = 0 := List.count_eq_zero.mpr ha
    exact List.count_pos_iff.mp (by omega)

/-- when the output channels are closed every accepted message has exactly one terminal event, and every
    rejected one exactly one (error) event: "never none" holds at the latest when Close returns -/
theorem closed_implies_exactly_one (cfg : Cfg) (es : List Ev) (s : St) (h : run (init cfg) es = .ok s)
    (hc : s.closed = true) (id : Int) (hm : id ∈ s.accepted ∨ id ∈ s.rejected) :
    s.succ.count id + s.errs.count id = 1 := by
  have hi := reachable_inv cfg es s h
  have hw := hi.waited_emp (hi.closed_w hc)
  have hcv := hi.conserve id; have ho := hi.once id
  rw [hw.1] at hcv
  have : 0 < s.accepted.count id + s.rejected.count id := by
    rcases hm with hm | hm
    · have := List.count_pos_iff.mpr hm; omega
    · have := List.count_pos_iff.mpr hm; omega
  simp only [List.count_nil] at hcv; omega

/-- What an accepted step does to the logs that `close_after_all_outcomes` and the theorems of C12, C18 and C05stamps
    speak of. -/
structure LogStep (s s' : St) : Prop where
  frozen : s.closed = true →
    s'.succ = s.succ ∧ s'.errs = s.errs ∧ s'.accepted = s.accepted ∧ s'.rejected = s.rejected ∧ s'.live = s.live
  accepted_mono : ∀ a ∈ s.accepted, a ∈ s'.accepted
  icept : s'.iceptLog = s.iceptLog ∨ ∃ id ∈ s.live, s'.iceptLog = id :: s.iceptLog
  stamp : s'.stampLog = s.stampLog ∨ ∃ p ep, s'.stampLog = (p, ep, (stampCount s.stampLog p ep : Int)) :: s.stampLog

theorem LogStep.same {s t : St} (h1 : t.succ = s.succ) (h2 : t.errs = s.errs) (h3 : t.accepted = s.accepted)
    (h4 : t.rejected = s.rejected) (h5 : t.live = s.live) (h6 : t.iceptLog = s.iceptLog) (h7 : t.stampLog = s.stampLog) :
    LogStep s t :=
  ⟨fun _ => ⟨h1, h2, h3, h4, h5⟩, fun _ h => h3 ▸ h, .inl h6, .inl h7⟩

theorem step_logs (s s' : St) (e : Ev) : step s e = .ok s' → LogStep s s' := by
  cases e
  case accept id =>
    refine ok_of_guard fun _ => ok_of_guard fun _ => ok_of_guard fun _ => ok_of_guard fun hc h => ?_
    cases h; exact ⟨(absurd · hc), fun _ => List.mem_cons_of_mem _, .inl rfl, .inl rfl⟩
  case reject id =>
    refine ok_of_guard fun _ => ok_of_guard fun _ => ok_of_guard fun _ => ok_of_guard fun hc h => ?_
    cases h; exact ⟨(absurd · hc), fun _ h => h, .inl rfl, .inl rfl⟩
  case retErr id | retSucc id =>
    refine ok_of_guard fun hc => ok_of_ite (fun _ => ok_of_ite (fun _ h => ?_) nofun) nofun
    cases h; exact ⟨(absurd · hc), fun _ h => h, .inl rfl, .inl rfl⟩
  case icept id =>
    refine ok_of_guard fun hl => ok_of_guard fun _ => ok_of_guard fun _ => ok_of_guard fun _ h => ?_
    cases h
    exact ⟨fun _ => ⟨rfl, rfl, rfl, rfl, rfl⟩, fun _ h => h, .inr ⟨id, Decidable.not_not.mp hl, rfl⟩, .inl rfl⟩
  case stampAt p ep q =>
    refine ok_of_guard fun hq h => ?_
    cases h
    exact ⟨fun _ => ⟨rfl, rfl, rfl, rfl, rfl⟩, fun _ h => h, .inl rfl, .inr ⟨p, ep, Decidable.not_not.mp hq ▸ rfl⟩⟩
  -- no other event touches these logs
  case pass | retry | reentry =>
    refine ok_of_ite (fun _ => ?_) (fun _ => ?_) <;> (repeat refine ok_of_guard fun _ => ?_) <;> rintro ⟨⟩ <;>
      exact .same rfl rfl rfl rfl rfl rfl rfl
  case wgAdd =>
    refine ok_of_guard fun _ => ok_of_guard fun _ => ok_of_ite (fun _ => ?_) (fun _ => ?_) <;> rintro ⟨⟩ <;>
      exact .same rfl rfl rfl rfl rfl rfl rfl
  case sent id idx => intro h; obtain ⟨l, rfl⟩ := step_sent s s' id idx h; exact .same rfl rfl rfl rfl rfl rfl rfl
  all_goals (repeat refine ok_of_guard fun _ => ?_); rintro ⟨⟩; exact .same rfl rfl rfl rfl rfl rfl rfl

/-- after the channels were closed no terminal event can be emitted any more -/
theorem close_after_all_outcomes (s s' : St) (e : Ev) (hc : s.closed = true) (h : step s e = .ok s') :
    s'.succ = s.succ ∧ s'.errs = s.errs :=
  have := (step_logs s s' e h).frozen hc
  ⟨this.1, this.2.1⟩

/-- Close can only complete after the WaitGroup reached zero, i.e. when nothing is in flight -/
theorem close_only_when_drained (cfg : Cfg) (es : List Ev) (s : St) (h : run (init cfg) es = .ok s)
    (hc : s.closed = true) : s.live = [] ∧ s.markers = 0 := by
  have hi := reachable_inv cfg es s h
  have := hi.waited_emp (hi.closed_w hc); exact ⟨this.1, this.2.1⟩

/-- a message passes the dispatcher at most Retry.Max + 1 times (progress: retries are bounded) -/
theorem pass_bound (cfg : Cfg) (es : List Ev) (s : St) (h : run (init cfg) es = .ok s) (id : Int) :
    s.passLog.count id ≤ s.cfg.retryMax + 1 := by
  have hi := reachable_inv cfg es s h
  have := hi.pass_le id; have := hi.retry_le id; omega

/-! a trace with a retry, an error, a shutdown, accepted by the model and closed -/
example :
    (run (init { retryMax := 1, icepts := 1, idem := false })
      [.accept 1, .icept 1, .pass 1 0, .wgAdd false, .wgDone (-1), .accept 2, .icept 2, .pass 2 0,
       .retry 1 1, .pass 1 1, .retSucc 2, .retErr 1, .wgAdd true, .shutdownSeen, .reject 3, .waited, .close]).toOption.map
      (fun s => (s.closed, s.succ, s.errs, s.live)) = some (true, [2], [3, 1], []) := by decide +kernel

end Props.C01
