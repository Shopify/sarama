import SaramaVerif.Lemmas.C10
/-
  C10 — malformed or corrupted input yields an error, never a crash or wrong data.

  `prim_safe_X`: for every primitive getter of realDecoder (model: Model/Decoder.lean, written from the Go source
  including its missing checks), every byte string and every offset inside it: the outcome is a value or an error
  (never a panic or a hang), the new offset stays inside the buffer, the allocation is at most c bytes per input byte.
  (The compact int32 array, whose count is a uvarint, needs the byte string to have at most 2^32 bytes: `hlen`.)
  Where this is false of the pinned source (`Variant.pinned`) the NEGATION is proved with a concrete byte string
  (`prim_unsafe_X_pinned`, replayed on the real decoder by the harness) and the safety theorem is proved for the
  primitive with the missing guard added (`Variant.checked`).
  `dec_total_safe`: every decoder built from safe primitives, guarded counted loops, pushed length/CRC fields,
  sub-decoders and `for remaining() > 0` loops is total and safe on every input of at most 2^32 bytes, with a linear
  allocation bound (constant `cost f` read off the format).
  Then what a successful decode implies: `length_mismatch_is_error`, `crc_mismatch_is_error`,
  `trailing_bytes_is_error`, `response_size_capped`, progress of `for remaining() > 0` loops.
-/
namespace Props.C10
open Model.Decoder Go Lemmas.C10

theorem prim_safe_getInt8 (raw : Bytes) (off : Nat) (h : off ≤ raw.length) : SafeN 0 1 raw off (getInt8 raw off) :=
  fixedWidth_safe 1 _ h

theorem prim_safe_getInt16 (raw : Bytes) (off : Nat) (h : off ≤ raw.length) : SafeN 0 2 raw off (getInt16 raw off) :=
  fixedWidth_safe 2 _ h

theorem prim_safe_getInt32 (raw : Bytes) (off : Nat) (h : off ≤ raw.length) : SafeN 0 4 raw off (getInt32 raw off) :=
  fixedWidth_safe 4 _ h

theorem prim_safe_getInt64 (raw : Bytes) (off : Nat) (h : off ≤ raw.length) : SafeN 0 8 raw off (getInt64 raw off) :=
  fixedWidth_safe 8 _ h

theorem prim_safe_getUVarint (raw : Bytes) (off : Nat) (h : off ≤ raw.length) : SafeN 0 1 raw off (getUVarint raw off) :=
  varint_safe .uvarintOverflow id h

theorem prim_safe_getVarint (raw : Bytes) (off : Nat) (h : off ≤ raw.length) : SafeN 0 1 raw off (getVarint raw off) :=
  varint_safe .varintOverflow unzigzag h

theorem arrayLengthTail_safe (v : Variant) (tmp : Int) (raw : Bytes) (off : Nat) (h : off ≤ raw.length) :
    SafeN 0 0 raw off (arrayLengthTail v tmp raw.length off) :=
  SafeN.ite (fun _ => SafeN.err_end h) fun _ => SafeN.ite (fun _ => SafeN.err_here h) fun _ =>
    SafeN.ite (fun _ => SafeN.err_here h) fun _ => SafeN.ok_here h

theorem prim_safe_getArrayLength (v : Variant) (raw : Bytes) (off : Nat) (h : off ≤ raw.length) :
    SafeN 0 4 raw off (getArrayLength v raw off) :=
  SafeN.ite (fun _ => SafeN.err_end h) fun h4 =>
    SafeN.shift (arrayLengthTail_safe v _ raw (off + 4) (rem_ge (k := 4) h4)) (Nat.le_refl _)

theorem prim_safe_getBool (raw : Bytes) (off : Nat) (h : off ≤ raw.length) : SafeN 0 1 raw off (getBool raw off) :=
  SafeN.bind (m2 := 0) (prim_safe_getInt8 raw off h) (Nat.le_refl _) fun _ _ _ _ _ h2 =>
    SafeN.ite (fun _ => SafeN.ok_here h2) fun _ => SafeN.check h2

theorem prim_safe_getEmptyTaggedFieldArray (raw : Bytes) (off : Nat) (h : off ≤ raw.length) :
    SafeN 0 1 raw off (getEmptyTaggedFieldArray raw off) :=
  SafeN.bind (m2 := 0) (prim_safe_getUVarint raw off h) (Nat.le_refl _) fun _ _ _ _ _ h2 => SafeN.check h2

theorem prim_safe_getRawBytes (raw : Bytes) (off : Nat) (length : Int) (h : off ≤ raw.length) :
    SafeN 0 0 raw off (getRawBytes raw off length) :=
  SafeN.ite (fun _ => SafeN.err_here h) fun h0 => SafeN.ite (fun _ => SafeN.err_end h) fun h1 =>
    SafeN.ok0 (Nat.le_add_right _ _) (by unfold rem at h1; omega)

theorem prim_safe_getSubset (raw : Bytes) (off : Nat) (length : Int) (h : off ≤ raw.length) :
    SafeN 0 0 raw off (getSubset raw off length) := prim_safe_getRawBytes raw off length h

/-- `getBytes`, `getVarintBytes`: a length, −1 for nil, else that many raw bytes -/
theorem bytesTail_safe (raw : Bytes) (tmp : Int) (off1 : Nat) (h : off1 ≤ raw.length) :
    SafeN 0 0 raw off1 (if tmp = -1 then .ok none off1 0 else (getRawBytes raw off1 tmp).map some) :=
  SafeN.ite (fun _ => SafeN.ok_here h) fun _ => SafeN.map _ (prim_safe_getRawBytes raw off1 tmp h)

theorem prim_safe_getBytes (raw : Bytes) (off : Nat) (h : off ≤ raw.length) : SafeN 0 4 raw off (getBytes raw off) :=
  SafeN.bind (prim_safe_getInt32 raw off h) (Nat.le_refl _) fun tmp off1 _ _ _ h2 => bytesTail_safe raw tmp off1 h2

theorem prim_safe_getVarintBytes (raw : Bytes) (off : Nat) (h : off ≤ raw.length) : SafeN 0 1 raw off (getVarintBytes raw off) :=
  SafeN.bind (prim_safe_getVarint raw off h) (Nat.le_refl _) fun tmp off1 _ _ _ h2 => bytesTail_safe raw tmp off1 h2

theorem prim_safe_getCompactBytes (raw : Bytes) (off : Nat) (h : off ≤ raw.length) : SafeN 0 1 raw off (getCompactBytes raw off) :=
  SafeN.bind (prim_safe_getUVarint raw off h) (Nat.le_refl _) fun _ off1 _ _ _ h2 => prim_safe_getRawBytes raw off1 _ h2

theorem prim_safe_getStringLength (raw : Bytes) (off : Nat) (h : off ≤ raw.length) :
    SafeN 0 2 raw off (getStringLength raw off) :=
  SafeN.bind (m2 := 0) (prim_safe_getInt16 raw off h) (Nat.le_refl _) fun _ _ _ _ _ h2 =>
    SafeN.ite (fun _ => SafeN.err_here h2) fun _ => SafeN.ite (fun _ => SafeN.err_end h2) fun _ => SafeN.ok_here h2

/-- `string(rd.raw[rd.off : rd.off+n])` with 0 ≤ n ≤ remaining(): the slice expression is in range, the copy is n bytes -/
theorem takeString_safe (raw : Bytes) (off : Nat) (n : Int) (h : off ≤ raw.length) (h0 : 0 ≤ n) (h1 : n ≤ rem raw off) :
    SafeN 1 0 raw off (takeString raw off n) := by
  rw [takeString, if_pos ⟨Int.natCast_nonneg _, Int.le_add_of_nonneg_right h0, Int.add_le_of_le_sub_left h1⟩]
  exact ⟨Nat.le_add_right _ _, add_toNat_le h1 h, by rw [Nat.add_sub_cancel_left, Nat.one_mul]; exact Nat.le_refl _⟩

theorem prim_safe_getString (raw : Bytes) (off : Nat) (h : off ≤ raw.length) : SafeN 1 2 raw off (getString raw off) :=
  SafeN.bind (m2 := 0) (prim_safe_getStringLength raw off h) (Nat.zero_le _) fun n off1 _ hn _ h2 =>
    have := getStringLength_post.of_ok hn
    SafeN.ite (fun _ => SafeN.ok_here h2) fun _ => takeString_safe raw off1 n h2 (by omega) this.2

theorem prim_safe_getNullableString (raw : Bytes) (off : Nat) (h : off ≤ raw.length) :
    SafeN 1 2 raw off (getNullableString raw off) :=
  SafeN.bind (m2 := 0) (prim_safe_getStringLength raw off h) (Nat.zero_le _) fun n off1 _ hn _ h2 =>
    have := getStringLength_post.of_ok hn
    SafeN.ite (fun _ => SafeN.ok_here h2) fun _ => SafeN.map _ (takeString_safe raw off1 n h2 (by omega) this.2)

theorem prim_safe_getCompactString_checked (raw : Bytes) (off : Nat) (h : off ≤ raw.length) :
    SafeN 1 1 raw off (getCompactString .checked raw off) :=
  SafeN.bind (m2 := 0) (prim_safe_getUVarint raw off h) (Nat.zero_le _) fun _ off1 _ _ _ h2 =>
    SafeN.ite (fun _ => SafeN.err_here h2) fun h0 => SafeN.ite (fun _ => SafeN.err_end h2) fun h1 =>
      takeString_safe raw off1 _ h2 (Int.not_lt.mp fun hl => h0 ⟨rfl, hl⟩) (Int.not_lt.mp fun hl => h1 ⟨rfl, hl⟩)

theorem prim_safe_getCompactNullableString_checked (raw : Bytes) (off : Nat) (h : off ≤ raw.length) :
    SafeN 1 1 raw off (getCompactNullableString .checked raw off) :=
  SafeN.bind (m2 := 0) (prim_safe_getUVarint raw off h) (Nat.zero_le _) fun _ off1 _ _ _ h2 =>
    SafeN.ite (fun _ => SafeN.ok_here h2) fun h0 => SafeN.ite (fun _ => SafeN.err_end h2) fun h1 =>
      SafeN.map _ (takeString_safe raw off1 _ h2 (Int.not_lt.mp h0) (Int.not_lt.mp fun hl => h1 ⟨rfl, hl⟩))

theorem prim_safe_getCompactArrayLength (v : Variant) (raw : Bytes) (off : Nat) (h : off ≤ raw.length) :
    SafeN 0 1 raw off (getCompactArrayLength v raw off) :=
  SafeN.bind (m2 := 0) (prim_safe_getUVarint raw off h) (Nat.le_refl _) fun _ _ _ _ _ h2 =>
    SafeN.ite (fun _ => SafeN.ok_here h2) fun _ => SafeN.ite (fun _ => SafeN.err_end h2) fun _ => SafeN.ok_here h2

/-- `make([]T, n)` does not panic for 0 ≤ n with n·sizeof(T) ≤ runtime.maxAlloc -/
theorem mk_some {elem : Nat} {n : Int} (h0 : 0 ≤ n) (hm : n.toNat * elem ≤ 281474976710656) :
    mk elem n = some (n.toNat * elem) :=
  if_neg (by unfold maxAlloc; omega)

/-- `make([]int32, n)` and the read loop, once n elements are known to be there -/
theorem readI32Loop_checked_safe (raw : Bytes) (off : Nat) (n : Int)
    (h0 : 0 ≤ n) (h1 : 4 * n ≤ rem raw off) (hlen : raw.length ≤ 4294967296) :
    SafeN 4 0 raw off (readI32Loop raw off n) := by
  have hc : ¬ 4 * n > rem raw off := Int.not_lt.mpr h1
  have hk : off + 4 * n.toNat ≤ raw.length := by unfold rem at h1; omega
  have hm : n.toNat * 4 ≤ 281474976710656 :=
    Nat.mul_comm .. ▸ Nat.le_trans (Nat.le_of_add_left_le hk) (Nat.le_trans hlen (by decide))
  simp only [readI32Loop, mk_some h0 hm, if_neg hc]
  refine ⟨Nat.le_add_right _ _, hk, ?_⟩
  rw [Nat.add_sub_cancel_left, Nat.mul_comm]
  exact Nat.mul_le_mul_left 4 (Nat.le_mul_of_pos_left _ (by decide))

theorem prim_safe_getCompactInt32Array_checked (raw : Bytes) (off : Nat) (h : off ≤ raw.length) (hlen : raw.length ≤ 4294967296) :
    SafeN 4 1 raw off (getCompactInt32Array .checked raw off) := by
  refine SafeN.bind (m2 := 0) (prim_safe_getUVarint raw off h) (Nat.zero_le _) fun n off1 _ _ _ h2 => ?_
  generalize compactLen n = l
  exact SafeN.ite (fun _ => SafeN.ok_here h2) fun _ => SafeN.ite (fun _ => SafeN.err_end h2) fun hc =>
    readI32Loop_checked_safe raw off1 l (Int.not_lt.mp fun hl => hc ⟨rfl, Or.inl hl⟩)
      (Int.not_lt.mp fun hr => hc ⟨rfl, Or.inr hr⟩) hlen

/-- getInt32Array / getInt64Array: a count `n` (4 bytes, unsigned) checked against the `w·n` bytes it announces -/
theorem intArray_safe {α} {raw : Bytes} {off : Nat} (w n : Nat) (hw : 0 < w) (nil vals : α) (h : off ≤ raw.length) :
    SafeN w 4 raw off
      (if rem raw off < 4 then .err .insufficient raw.length 0
       else if rem raw (off + 4) < (w : Int) * (n : Int) then .err .insufficient raw.length 0
       else if n = 0 then .ok nil (off + 4) 0
       else .ok vals (off + 4 + w * n) (w * n)) := by
  refine SafeN.ite (fun _ => SafeN.err_end h) fun h4 => SafeN.ite (fun _ => SafeN.err_end h) fun hc =>
    SafeN.ite (fun _ => SafeN.ok0 (Nat.le_refl _) (rem_ge (k := 4) h4)) fun _ => ?_
  have := rem_ge (k := 4) h4
  rw [rem, ← Int.natCast_mul] at hc
  have := Nat.le_mul_of_pos_left n hw
  exact ⟨by omega, by omega, Nat.mul_le_mul_left _ (by omega)⟩

theorem prim_safe_getInt32Array (raw : Bytes) (off : Nat) (h : off ≤ raw.length) : SafeN 4 4 raw off (getInt32Array raw off) :=
  intArray_safe 4 (beU raw off 4) (by decide) _ _ h

theorem prim_safe_getInt64Array (raw : Bytes) (off : Nat) (h : off ≤ raw.length) : SafeN 8 4 raw off (getInt64Array raw off) :=
  intArray_safe 8 (beU raw off 4) (by decide) _ _ h

theorem stringLoop_safe (raw : Bytes) : ∀ (n off : Nat), off ≤ raw.length → SafeN 1 (2 * n) raw off (stringLoop raw n off) := by
  intro n
  induction n with
  | zero => intro off h; exact SafeN.ok_here h
  | succ k ih =>
    intro off h
    exact SafeN.mono (SafeN.bind (prim_safe_getString raw off h) (Nat.le_refl _) fun _ off1 _ _ _ h2 => SafeN.map _ (ih off1 h2))
      (Nat.le_refl _) (by omega)

theorem prim_safe_getStringArray_checked (raw : Bytes) (off : Nat) (h : off ≤ raw.length) :
    SafeN 17 4 raw off (getStringArray .checked raw off) := by
  unfold getStringArray
  generalize beU raw off 4 = n
  refine SafeN.ite (fun _ => SafeN.err_end h) fun h4 => ?_
  have h4 := rem_ge (k := 4) h4
  refine SafeN.ite (fun _ => SafeN.ok0 (Nat.le_refl _) h4) fun _ => SafeN.ite (fun _ => SafeN.err_end h) fun hc => ?_
  -- 16 bytes per announced string are made up front; the guard has seen one byte for each of them
  have hn : off + 4 + n ≤ raw.length := by
    have := Int.not_lt.mp fun hl => hc ⟨rfl, hl⟩
    unfold rem at this; omega
  have hl := SafeN.mono (stringLoop_safe raw n (off + 4) h4) (Nat.le_refl _) (Nat.le_mul_of_pos_left _ (by decide))
  exact SafeN.mono (SafeN.shift (m := 4) (SafeN.addAlloc (c' := 16) hl (Nat.le_refl _) hn) (Nat.le_refl _))
    (Nat.le_refl _) (Nat.le_add_right _ _)

theorem prim_safe_peek (raw : Bytes) (off : Nat) (offset length : Int) (h : off ≤ raw.length)
    (h1 : 0 ≤ offset) (h2 : 0 ≤ length) : SafeN 0 0 raw off (peek raw off offset length) := by
  refine SafeN.ite (fun _ => SafeN.err_here h) fun hc => ?_
  unfold rem at hc
  rw [if_pos ⟨by omega, by omega, by omega⟩]
  exact SafeN.ok_here h

theorem prim_safe_peekInt8 (raw : Bytes) (off : Nat) (offset : Int) (h : off ≤ raw.length) (h1 : 0 ≤ offset) :
    SafeN 0 0 raw off (peekInt8 raw off offset) := by
  refine SafeN.ite (fun _ => SafeN.err_here h) fun _ => ?_
  rw [if_pos (by omega)]
  exact SafeN.ok_here h

theorem prim_safe_pushLength (raw : Bytes) (off : Nat) (h : off ≤ raw.length) : SafeN 0 4 raw off (pushLength raw off) :=
  SafeN.bind (m2 := 0) (prim_safe_getInt32 raw off h) (Nat.le_refl _) fun _ _ _ _ _ h2 => SafeN.check h2

theorem prim_safe_pushVarintLength (raw : Bytes) (off : Nat) (h : off ≤ raw.length) :
    SafeN 0 1 raw off (pushVarintLength raw off) :=
  SafeN.bind (m2 := 0) (prim_safe_getVarint raw off h) (Nat.le_refl _) fun _ _ _ _ _ h2 => SafeN.ok_here h2

theorem prim_safe_pushCrc (c : Bool) (raw : Bytes) (off : Nat) (h : off ≤ raw.length) : SafeN 0 4 raw off (pushCrc c raw off) :=
  fixedWidth_safe 4 _ h

theorem crc_sliceOK {raw : Bytes} {start cur : Nat} (h : start + 4 ≤ cur) (hc : cur ≤ raw.length) :
    sliceOK raw (start + 4) cur := by
  unfold sliceOK; omega

theorem prim_safe_pop (v : Variant) (crcf : Bool → Bytes → Nat) (raw : Bytes) (fr : Frame) (cur : Nat) (h : cur ≤ raw.length)
    (hfr : ∀ s c, fr = .crc s c → s + 4 ≤ cur) : SafeN 0 0 raw cur (pop v crcf raw fr cur) := by
  cases fr with
  | length start stored => exact SafeN.check h
  | varintLength start stored fl => exact SafeN.check h
  | crc start cast =>
    rw [pop, if_pos (crc_sliceOK (hfr start cast rfl) h)]
    exact SafeN.check h

example : getInt32 [0xff, 0xff, 0xff, 0xfe] 0 = .ok (-2) 4 0 := by decide +kernel
example : getInt16 [0x01] 0 = .err .insufficient 1 0 := by decide +kernel
example : getVarint [0x80, 0x80, 0x80, 0x80, 0x80, 0x80, 0x80, 0x80, 0x80, 0x80, 0x01] 0 = .err .varintOverflow 11 0 := by decide +kernel
example : getUVarint [0xac, 0x02, 0x07] 0 = .ok 300 2 0 := by decide +kernel
example : getString [0x00, 0x02, 0x68, 0x69, 0x21] 0 = .ok [0x68, 0x69] 4 2 := by decide +kernel
example : getString [0x00, 0x09, 0x68] 0 = .err .insufficient 3 0 := by decide +kernel
example : getBytes [0xff, 0xff, 0xff, 0xff] 0 = .ok none 4 0 := by decide +kernel
example : getBytes [0xff, 0xff, 0xff, 0xfe] 0 = .err .invalidByteSliceLength 4 0 := by decide +kernel
example : getCompactBytes [0x00] 0 = .err .invalidByteSliceLength 1 0 := by decide +kernel
example : (getInt32Array [0x00, 0x00, 0x00, 0x01, 0, 0, 0, 7] 0).map (·.getD 0 0) = .ok 7 8 4 := by decide +kernel
example : getInt32Array [0xff, 0xff, 0xff, 0xff] 0 = .err .insufficient 4 0 := by decide +kernel
example : getArrayLength .checked [0xff, 0xff, 0xff, 0xfe] 0 = .err .invalidArrayLength 4 0 := by decide +kernel
example : getStringArray .checked [0x7f, 0xff, 0xff, 0xff] 0 = .err .insufficient 4 0 := by decide +kernel
example : getCompactString .checked [0x00] 0 = .err .invalidStringLength 1 0 := by decide +kernel
example : getCompactString .checked [0x03, 0x61] 0 = .err .insufficient 2 0 := by decide +kernel
example : getCompactString .pinned [0x03, 0x61, 0x62] 0 = .ok [0x61, 0x62] 3 2 := by decide +kernel
example : getCompactInt32Array .checked [0x02] 0 = .err .insufficient 1 0 := by decide +kernel

/-- a count getter is safe, and a count it returns is at least −1 and covered by the bytes that are left (the second
    half is `Post (fun n o => -1 ≤ n ∧ n ≤ rem raw o) r` written out) -/
def CountSafe (raw : Bytes) (off : Nat) (r : Res Int) : Prop :=
  SafeN 0 1 raw off r ∧ ∀ n off1 a, r = .ok n off1 a → -1 ≤ n ∧ n ≤ rem raw off1

/-- `ff ff ff fe`: getArrayLength returns −2 without error; every caller that does `make([]T, n)` panics -/
theorem prim_unsafe_getArrayLength_pinned :
    ¬ ∀ (raw : Bytes) (off : Nat), off ≤ raw.length → CountSafe raw off (getArrayLength .pinned raw off) := by
  intro h
  have h1 := (h [0xff, 0xff, 0xff, 0xfe] 0 (by decide)).2 (-2) 4 0 (by decide +kernel)
  omega

theorem prim_safe_getArrayLength_checked (raw : Bytes) (off : Nat) (h : off ≤ raw.length) :
    CountSafe raw off (getArrayLength .checked raw off) :=
  ⟨SafeN.mono (prim_safe_getArrayLength .checked raw off h) (Nat.le_refl _) (by decide),
    getArrayLength_post.mono fun _ _ hn => ⟨hn.2.2 rfl, hn.2.1⟩⟩

/-- `ff ff ff ff 0f`: a compact array of 4294967294 elements announced by 5 bytes, no check against remaining() -/
theorem prim_unsafe_getCompactArrayLength_pinned :
    ¬ ∀ (raw : Bytes) (off : Nat), off ≤ raw.length → CountSafe raw off (getCompactArrayLength .pinned raw off) := by
  intro h
  have h1 := (h [0xff, 0xff, 0xff, 0xff, 0x0f] 0 (by decide)).2 4294967294 5 0 (by decide +kernel)
  have : rem [0xff, 0xff, 0xff, 0xff, 0x0f] 5 = 0 := by decide
  omega

theorem prim_safe_getCompactArrayLength_checked (raw : Bytes) (off : Nat) (h : off ≤ raw.length) :
    CountSafe raw off (getCompactArrayLength .checked raw off) :=
  ⟨prim_safe_getCompactArrayLength .checked raw off h,
    (getCompactArrayLength_checked_post h).mono fun _ _ hn => ⟨Int.le_trans (by decide) hn.1, hn.2⟩⟩

theorem panic_unsafe {α} {c : Nat} {raw : Bytes} {off a : Nat} {r : Res α} (e : r = .panic a) : ¬ Safe c raw off r :=
  e ▸ id

/-- `00`: length −1 after the length byte → `rd.raw[1:0]` panics; (`7f` with nothing behind it panics as well) -/
theorem prim_unsafe_getCompactString_pinned (c : Nat) :
    ¬ ∀ (raw : Bytes) (off : Nat), off ≤ raw.length → Safe c raw off (getCompactString .pinned raw off) := by
  intro h
  exact panic_unsafe (a := 0) (by decide +kernel) (h [0x00] 0 (by decide))

theorem prim_unsafe_getCompactNullableString_pinned (c : Nat) :
    ¬ ∀ (raw : Bytes) (off : Nat), off ≤ raw.length → Safe c raw off (getCompactNullableString .pinned raw off) := by
  intro h
  exact panic_unsafe (a := 0) (by decide +kernel) (h [0x7f] 0 (by decide))

/-- `02`: one element announced, none present → `binary.BigEndian.Uint32(rd.raw[rd.off:])` panics -/
theorem prim_unsafe_getCompactInt32Array_pinned (c : Nat) :
    ¬ ∀ (raw : Bytes) (off : Nat), off ≤ raw.length → Safe c raw off (getCompactInt32Array .pinned raw off) := by
  intro h
  exact panic_unsafe (a := 4) (by decide +kernel) (h [0x02] 0 (by decide))

/-- `7f ff ff ff`: `make([]string, 2147483647)` = 34 359 738 352 bytes for a 4-byte input (then ErrInsufficientData);
    no constant up to 2^30 bytes per input byte bounds it -/
theorem prim_unsafe_getStringArray_pinned :
    ¬ ∀ (raw : Bytes) (off : Nat), off ≤ raw.length → Safe 1073741824 raw off (getStringArray .pinned raw off) := by
  intro h
  have h1 := h [0x7f, 0xff, 0xff, 0xff] 0 (by decide)
  have e : getStringArray .pinned [0x7f, 0xff, 0xff, 0xff] 0 = .err .insufficient 4 34359738352 := by decide +kernel
  rw [e] at h1
  simp only [SafeN, List.length_cons, List.length_nil] at h1
  omega

/-- `peek` with a negative length passes its guard and panics in the slice expression; every call site passes
    non-negative constants, which is the hypothesis of `prim_safe_peek` -/
theorem prim_unsafe_peek_negative (c : Nat) :
    ¬ ∀ (raw : Bytes) (off : Nat) (o l : Int), off ≤ raw.length → Safe c raw off (peek raw off o l) := by
  intro h
  exact panic_unsafe (a := 0) (by decide +kernel) (h [0x00] 0 0 (-1) (by decide))

/-- a getter's safety as the safety of the format's primitive: its value is dropped, the constants are those of `primCost`
    and `minSize` -/
theorem prim_of {α} {c c' m : Nat} {raw : Bytes} {off : Nat} {r : Res α} (h : SafeN c m raw off r)
    (hc : c ≤ c' := by decide) (hm : 1 ≤ m := by decide) : SafeN c' 1 raw off (unit r) :=
  SafeN.map _ (SafeN.mono h hc hm)

theorem runPrim_safe (v : Variant) (p : Prim) (hg : primGood v p = true) (raw : Bytes) (off : Nat)
    (h : off ≤ raw.length) (hlen : raw.length ≤ 4294967296) :
    SafeN (primCost p) 1 raw off (runPrim v p raw off) := by
  cases p with
  | int8 => exact prim_of (prim_safe_getInt8 raw off h)
  | int16 => exact prim_of (prim_safe_getInt16 raw off h)
  | int32 => exact prim_of (prim_safe_getInt32 raw off h)
  | int64 => exact prim_of (prim_safe_getInt64 raw off h)
  | varint => exact prim_of (prim_safe_getVarint raw off h)
  | uvarint => exact prim_of (prim_safe_getUVarint raw off h)
  | bool => exact prim_of (prim_safe_getBool raw off h)
  | emptyTagged => exact prim_of (prim_safe_getEmptyTaggedFieldArray raw off h)
  | bytes => exact prim_of (prim_safe_getBytes raw off h)
  | varintBytes => exact prim_of (prim_safe_getVarintBytes raw off h)
  | compactBytes => exact prim_of (prim_safe_getCompactBytes raw off h)
  | string => exact prim_of (prim_safe_getString raw off h)
  | nullableString => exact prim_of (prim_safe_getNullableString raw off h)
  | compactString =>
    cases v with
    | pinned => exact absurd hg (by decide)
    | checked => exact prim_of (prim_safe_getCompactString_checked raw off h)
  | compactNullableString =>
    cases v with
    | pinned => exact absurd hg (by decide)
    | checked => exact prim_of (prim_safe_getCompactNullableString_checked raw off h)
  | compactInt32Array =>
    cases v with
    | pinned => exact absurd hg (by decide)
    | checked => exact prim_of (prim_safe_getCompactInt32Array_checked raw off h hlen)
  | int32Array => exact prim_of (prim_safe_getInt32Array raw off h)
  | int64Array => exact prim_of (prim_safe_getInt64Array raw off h)
  | stringArray =>
    cases v with
    | pinned => exact absurd hg (by decide)
    | checked => exact prim_of (prim_safe_getStringArray_checked raw off h)

theorem prim_safe_varintCount (v : Variant) (raw : Bytes) (off : Nat) (h : off ≤ raw.length) :
    SafeN 0 1 raw off (varintCount v raw off) :=
  SafeN.bind (m2 := 0) (prim_safe_getVarint raw off h) (Nat.le_refl _) fun _ _ _ _ _ h2 => SafeN.check h2

theorem getCount_safe (v : Variant) (c : Count) (raw : Bytes) (off : Nat) (h : off ≤ raw.length) :
    SafeN 0 1 raw off (getCount v c raw off) := by
  cases c with
  | arrayLength => exact SafeN.mono (prim_safe_getArrayLength v raw off h) (Nat.le_refl _) (by decide)
  | compactArrayLength => exact prim_safe_getCompactArrayLength v raw off h
  | varint => exact prim_safe_varintCount v raw off h

theorem varintCount_checked_post {raw : Bytes} {off : Nat} : Post (fun n o => n ≤ rem raw o) (varintCount .checked raw off) :=
  Post.bind' fun _ _ _ _ => Post.guard fun h1 => Post.ok (Int.not_lt.mp fun hl => h1 ⟨rfl, hl⟩)

/-- a count that a guarded loop head gets is covered by the bytes that are left, and is not negative where `make` would panic -/
theorem getCount_post {v : Variant} {c : Count} {k : MakeKind} (hg : countGood v c k = true) {raw : Bytes} {off : Nat}
    (h : off ≤ raw.length) : Post (fun n o => n ≤ rem raw o ∧ (k = .slice → 0 ≤ n)) (getCount v c raw off) := by
  cases c with
  | arrayLength => exact getArrayLength_post.mono fun _ _ hn => ⟨hn.2.1, fun hk => absurd hg (by subst hk; cases v <;> decide)⟩
  | compactArrayLength =>
    cases v with
    | pinned => exact absurd hg (by cases k <;> decide)
    | checked => exact (getCompactArrayLength_checked_post h).mono fun _ _ hn => ⟨hn.2, fun _ => hn.1⟩
  | varint =>
    cases v with
    | pinned => exact absurd hg (by cases k <;> decide)
    | checked => exact varintCount_checked_post.mono fun _ _ hn => ⟨hn, fun hk => absurd hg (by subst hk; decide)⟩

/-- `make` at a loop head: with at most 2^32 elements of at most 2^16 bytes it stays below runtime.maxAlloc -/
theorem makeAlloc_some (k : MakeKind) (elem : Nat) (n : Int) (hn : n.toNat ≤ 4294967296) (he : elem ≤ 65536)
    (hk : k = .slice ∨ k = .reject → 0 ≤ n) : ∃ A, makeAlloc k elem n = some A ∧ A ≤ elem * n.toNat := by
  have hm : n.toNat * elem ≤ 281474976710656 :=
    Nat.le_trans (Nat.mul_le_mul hn he) (by decide)
  have hmk : 0 ≤ n → mk elem n = some (n.toNat * elem) := fun h0 => mk_some h0 hm
  rw [Nat.mul_comm elem]
  cases k with
  | slice => exact ⟨_, hmk (hk (Or.inl rfl)), Nat.le_refl _⟩
  | reject => exact ⟨_, hmk (hk (Or.inr rfl)), Nat.le_refl _⟩
  | guarded =>
    by_cases h0 : n < 0
    · exact ⟨0, by simp only [makeAlloc, h0, ↓reduceIte], Nat.zero_le _⟩
    · exact ⟨_, by simp only [makeAlloc, h0, ↓reduceIte]; exact hmk (by omega), Nat.le_refl _⟩
  | map =>
    by_cases h0 : n < 0
    · exact ⟨0, by simp only [makeAlloc, h0, ↓reduceIte], Nat.zero_le _⟩
    · exact ⟨_, by simp only [makeAlloc, h0, ↓reduceIte], Nat.le_refl _⟩

theorem pushLength_post {raw : Bytes} {off : Nat} :
    Post (fun fr off1 => ∃ l a, fr = .length off l ∧ getInt32 raw off = .ok l off1 a ∧ off1 = off + 4)
      (pushLength raw off) :=
  Post.bind' fun l _ a hg => Post.guard fun _ => Post.ok ⟨l, a, rfl, hg, getInt32_post.of_ok hg⟩

theorem pushVarintLength_post {raw : Bytes} {off : Nat} :
    Post (fun fr off1 => ∃ l a, fr = .varintLength off l (off1 - off) ∧ getVarint raw off = .ok l off1 a)
      (pushVarintLength raw off) :=
  Post.bind' fun l _ a hg => Post.ok ⟨l, a, rfl, hg⟩

theorem pushCrc_post {c : Bool} {raw : Bytes} {off : Nat} :
    Post (fun fr off1 => fr = .crc off c ∧ off1 = off + 4) (pushCrc c raw off) :=
  Post.guard fun _ => Post.ok ⟨rfl, rfl⟩

section
variable {v : Variant} {crcf : Bool → Bytes → Nat} {raw : Bytes}

/-- what `check` of a frame found true when `pop` at `cur` returns no error -/
def popFound (v : Variant) (crcf : Bool → Bytes → Nat) (raw : Bytes) (cur : Nat) : Frame → Prop
  | .length start stored => wrap32 ((cur : Int) - start - 4) = stored
  | .varintLength start stored fl =>
      wrap64 ((cur : Int) - start - (if v = .checked then (fl : Int) else (varintSize stored : Int))) = stored
  | .crc start cast => crcf cast (slice raw (start + 4) cur) = beU raw start 4

theorem pop_post {fr : Frame} {cur : Nat} : Post (fun _ o => o = cur ∧ popFound v crcf raw cur fr) (pop v crcf raw fr cur) := by
  -- `(· :)`: with `popFound …` as expected type `Decidable.not_not` would ask for `Decidable (popFound …)`
  cases fr with
  | crc start cast =>
    exact Post.ite (fun _ => Post.guard fun h => Post.ok ⟨rfl, (Decidable.not_not.mp h :)⟩) fun _ => Post.panic
  | _ => exact Post.guard fun h => Post.ok ⟨rfl, (Decidable.not_not.mp h :)⟩

theorem field_post {P : Frame → Nat → Prop} {push : Res Frame} {body : Nat → Res Unit} (hpush : Post P push) :
    Post (fun _ off' => ∃ fr off1 a2, P fr off1 ∧ body off1 = .ok () off' a2 ∧ popFound v crcf raw off' fr)
      (push.bind fun fr off1 => (body off1).bind fun _ off2 => pop v crcf raw fr off2) :=
  Post.bind hpush fun fr off1 hP => Post.bind' fun _ _ a2 hb =>
    pop_post.mono fun _ _ ⟨e, hf⟩ => e ▸ ⟨fr, off1, a2, hP, hb, hf⟩

end

/-- Of the three frames only a CRC frame can make `pop` panic (its slice starts 4 bytes after
    the frame's start), so `hfr` asks of the push that a CRC frame lies at least 4 bytes before where the body starts
    (the hypothesis of `prim_safe_pop`, which the body's progress carries to the final offset). -/
theorem field_safe {c m k : Nat} (v : Variant) (crcf : Bool → Bytes → Nat) (raw : Bytes) (off : Nat)
    (push : Res Frame) (body : Nat → Res Unit)
    (hpush : SafeN 0 k raw off push)
    (hfr : Post (fun fr off1 => ∀ s cst, fr = .crc s cst → s + 4 ≤ off1) push)
    (hbody : ∀ off1, off1 ≤ raw.length → SafeN c m raw off1 (body off1)) :
    SafeN c (k + (m + 0)) raw off (push.bind fun fr off1 => (body off1).bind fun _ off2 => pop v crcf raw fr off2) :=
  SafeN.bind hpush (Nat.zero_le _) fun fr off1 a hp _ h1 =>
    SafeN.bind (hbody off1 h1) (Nat.le_refl _) fun _ off2 _ _ h2 h3 =>
      SafeN.mono (prim_safe_pop v crcf raw fr off2 h3 fun s cst hs => by have := hfr.of_ok hp s cst hs; omega)
        (Nat.zero_le _) (Nat.le_refl _)

/-- a decoder run on the view `sub` that `getSubset` cut out of `raw` between `off1` and `off2` -/
theorem view_safe {c m : Nat} {raw sub : Bytes} {off1 off2 : Nat} {r : Res Unit} (h : SafeN c m sub 0 r)
    (hl : off1 + sub.length = off2) (h2 : off2 ≤ raw.length) :
    SafeN c 0 raw off1
      (match r with
       | .ok _ _ a => .ok () off2 a
       | .err e _ a => .err e off2 a
       | .panic a => .panic a
       | .hang => .hang) := by
  subst hl
  cases r with
  | ok u o a =>
    exact ⟨Nat.le_add_right _ _, h2, Nat.le_trans h.2.2 (Nat.mul_le_mul_left _ (by rw [Nat.add_sub_cancel_left]; exact h.2.1))⟩
  | err e o a =>
    exact ⟨Nat.le_add_right _ _, h2, Nat.le_trans h.2.2 (Nat.mul_le_mul_left _ (Nat.le_sub_of_add_le' h2))⟩
  | panic a => exact h
  | hang => exact h

/-- Record.decode uses a varint as header count without comparing it with remaining():
    `80 80 80 80 80 80 80 80 01` announces 2^55 headers with nothing behind it.
    This one and `prim_safe_varintCount_checked` are not `SafeN` statements (`prim_safe_varintCount` is, for both
    variants): they say whether a returned count is covered by the bytes left. -/
theorem prim_unsafe_varintCount_pinned :
    ¬ ∀ (raw : Bytes) (off : Nat) (n : Int) (off1 a : Nat), off ≤ raw.length →
        varintCount .pinned raw off = .ok n off1 a → n ≤ rem raw off1 := by
  intro h
  have h1 := h [0x80, 0x80, 0x80, 0x80, 0x80, 0x80, 0x80, 0x80, 0x01] 0 36028797018963968 9 0 (by decide) (by decide +kernel)
  have : rem [0x80, 0x80, 0x80, 0x80, 0x80, 0x80, 0x80, 0x80, 0x01] 9 = 0 := by decide
  omega

theorem prim_safe_varintCount_checked (raw : Bytes) (off : Nat) (n : Int) (off1 a : Nat) (h : off ≤ raw.length)
    (hn : varintCount .checked raw off = .ok n off1 a) : n ≤ rem raw off1 ∧ off1 ≤ raw.length :=
  ⟨varintCount_checked_post.of_ok hn, (SafeN.of_ok (prim_safe_varintCount .checked raw off h) hn).2.1⟩

/-- For every format whose primitives are safe, whose loop heads are guarded and whose loop bodies consume input,
    every byte string of at most 2^32 bytes and every offset inside it: the decoder returns a value or an error
    – never panics, never hangs –, stays inside the buffer, and allocates at most `cost f` bytes per input byte. -/
theorem dec_total_safe (v : Variant) (crcf : Bool → Bytes → Nat) (f : Fmt) (hg : Good v f = true) :
    ∀ (raw : Bytes) (off : Nat), off ≤ raw.length → raw.length ≤ 4294967296 →
      SafeN (cost f) (minSize f) raw off (run v crcf f raw off) := by
  induction f with
  | prim p =>
    intro raw off h hlen
    exact runPrim_safe v p hg raw off h hlen
  | seq a b iha ihb =>
    intro raw off h hlen
    simp only [Good, Bool.and_eq_true] at hg
    exact SafeN.bind (iha hg.1 raw off h hlen) (Nat.le_max_left _ _) fun _ off1 _ _ _ h1 =>
      SafeN.mono (ihb hg.2 raw off1 h1 hlen) (Nat.le_max_right _ _) (Nat.le_refl _)
  | arr c k elem body ih =>
    intro raw off h hlen
    simp only [Good, Bool.and_eq_true, decide_eq_true_eq] at hg
    obtain ⟨⟨⟨hc, he⟩, hm⟩, hb⟩ := hg
    refine SafeN.bind (m := 1) (m2 := 0) (getCount_safe v c raw off h) (Nat.zero_le _) fun n off1 a hn _ ho1 => ?_
    obtain ⟨hrem, hslice⟩ := (getCount_post hc h).of_ok hn
    have hfit := add_toNat_le hrem ho1
    refine SafeN.ite (fun _ => SafeN.err_here ho1) fun hrej => ?_
    obtain ⟨A, hA, hAle⟩ := makeAlloc_some k elem n (Nat.le_trans (Nat.le_of_add_left_le hfit) hlen) he
      (fun hk => hk.elim hslice fun hr => Int.not_lt.mp fun hn => hrej ⟨hr, hn⟩)
    rw [hA]
    -- every iteration takes at least one byte, so the `n` elements made up front are paid for by `n` bytes
    have hi := iter_safe (fun o ho => SafeN.mono (ih hb raw o ho hlen) (Nat.le_refl _) hm) n.toNat off1 ho1
    exact SafeN.mono (SafeN.addAlloc hi hAle hfit) (Nat.le_refl _) (Nat.zero_le _)
  | lenField body ih =>
    intro raw off h hlen
    -- `hfr` of `field_safe`, here and in the next case: the frame pushed is no CRC frame (`nomatch`)
    exact SafeN.mono (field_safe (k := 4) v crcf raw off (pushLength raw off) (run v crcf body raw)
      (prim_safe_pushLength raw off h) (Post.bind' fun _ _ _ _ => Post.guard fun _ => Post.ok fun _ _ e => nomatch e)
      (fun o ho => ih hg raw o ho hlen)) (Nat.le_refl _) (by simp only [minSize]; omega)
  | varintLenField body ih =>
    intro raw off h hlen
    exact SafeN.mono (field_safe (k := 1) v crcf raw off (pushVarintLength raw off) (run v crcf body raw)
      (prim_safe_pushVarintLength raw off h) (Post.bind' fun _ _ _ _ => Post.ok fun _ _ e => nomatch e)
      (fun o ho => ih hg raw o ho hlen)) (Nat.le_refl _) (Nat.le_refl _)
  | crcField cast body ih =>
    intro raw off h hlen
    -- `hfr`: `pushCrc` returns the frame `.crc off cast` at offset `off + 4`
    exact SafeN.mono (field_safe (k := 4) v crcf raw off (pushCrc cast raw off) (run v crcf body raw)
      (prim_safe_pushCrc cast raw off h) (Post.guard fun _ => Post.ok fun _ _ e => Frame.crc.inj e |>.1 ▸ Nat.le_refl _)
      (fun o ho => ih hg raw o ho hlen)) (Nat.le_refl _) (by simp only [minSize]; omega)
  | subset32 body ih =>
    intro raw off h hlen
    refine SafeN.mono (SafeN.bind (m := 4) (m2 := 0) (prim_safe_getInt32 raw off h) (Nat.zero_le _) fun n off1 _ _ _ h1 => ?_)
      (Nat.le_refl _) (by simp only [minSize]; omega)
    refine SafeN.bind' (prim_safe_getSubset raw off1 n h1) (Nat.zero_le _) fun sub off2 a hs => ?_
    obtain ⟨rfl, f3⟩ := (getRawBytes_post h1).of_ok hs
    obtain rfl := eq_zero_of_le_zero_mul (SafeN.of_ok (prim_safe_getSubset raw off1 n h1) hs).2.2
    -- the sub-decoder starts at offset 0 of `sub`, a slice of `raw` and so within the length bound;
    -- `view_safe` moves its offsets back to `off1 … off2` of `raw`
    exact SafeN.addAlloc_zero
      (view_safe (ih hg sub 0 (Nat.zero_le _) (Nat.le_trans (Nat.le_of_add_left_le f3) hlen)) rfl f3)
  | whileRem p body ih =>
    intro raw off h hlen
    simp only [Good, Bool.and_eq_true, decide_eq_true_eq] at hg
    exact loopRem_safe p (fun o ho => SafeN.mono (ih hg.2 raw o ho hlen) (Nat.le_refl _) hg.1) _ off h (by omega)

theorem dec_total_safe_spelled (v : Variant) (crcf : Bool → Bytes → Nat) (f : Fmt) (hg : Good v f = true)
    (raw : Bytes) (hlen : raw.length ≤ 4294967296) :
    (∃ off a, run v crcf f raw 0 = .ok () off a ∧ off ≤ raw.length ∧ a ≤ cost f * raw.length) ∨
    (∃ e off a, run v crcf f raw 0 = .err e off a ∧ off ≤ raw.length ∧ a ≤ cost f * raw.length) := by
  have h := dec_total_safe v crcf f hg raw 0 (Nat.zero_le _) hlen
  generalize run v crcf f raw 0 = r at h
  cases r with
  | ok u off a => exact Or.inl ⟨off, a, rfl, h.2.1, Nat.le_trans h.2.2 (Nat.mul_le_mul_left _ h.2.1)⟩
  | err e off a => exact Or.inr ⟨e, off, a, rfl, h.2.1, h.2.2⟩
  | panic a => exact h.elim
  | hang => exact h.elim

/-- Record.decode with the header-count guard, the member metadata with the checked getStringArray, the sticky /
    assignment formats as they are (map-typed loop heads tolerate negative counts), MetadataResponse v0 with
    guarded loop heads: all within `dec_total_safe` -/
example : Good .checked recordFmt = true := by decide +kernel
example : Good .checked memberMetadataFmt = true := by decide +kernel
example : Good .pinned memberAssignmentFmt = true := by decide +kernel
example : Good .pinned stickyV0Fmt = true := by decide +kernel
example : Good .pinned stickyV1Fmt = true := by decide +kernel
example : Good .checked metadataV0FmtGuarded = true := by decide +kernel
example : cost metadataV0FmtGuarded = 20 := by decide +kernel

theorem memberAssignment_safe_as_pinned (crcf : Bool → Bytes → Nat) (raw : Bytes) (hlen : raw.length ≤ 4294967296) :
    SafeN 52 3 raw 0 (run .pinned crcf memberAssignmentFmt raw 0) :=
  dec_total_safe .pinned crcf memberAssignmentFmt (by decide) raw 0 (Nat.zero_le _) hlen

/-- … and the pinned source is outside the theorem's hypotheses for exactly the reasons the harness finds:
    MetadataResponse v0 `ff ff ff fe` (negative length reaches make), member metadata `00 00 7f ff ff ff`
    (32 GiB `make([]string, n)`), a 15-byte Record whose header count is 2^55 -/
example : Good .pinned metadataV0Fmt = false := by decide +kernel
example : Good .checked metadataV0Fmt = false := by decide   -- the loop heads stay unguarded: −1 still panics
example : run .pinned (fun _ _ => 0) metadataV0Fmt [0xff, 0xff, 0xff, 0xfe] 0 = .panic 0 := by decide +kernel
example : run .checked (fun _ _ => 0) metadataV0Fmt [0xff, 0xff, 0xff, 0xff] 0 = .panic 0 := by decide +kernel
example : run .checked (fun _ _ => 0) metadataV0FmtGuarded [0xff, 0xff, 0xff, 0xff] 0 = .err .invalidArrayLength 4 0 := by decide +kernel
example : run .checked (fun _ _ => 0) metadataV0FmtGuarded [0xff, 0xff, 0xff, 0xfe] 0 = .err .invalidArrayLength 4 0 := by decide +kernel
example : run .pinned (fun _ _ => 0) memberMetadataFmt [0x00, 0x00, 0x7f, 0xff, 0xff, 0xff] 0
    = .err .insufficient 6 34359738352 := by decide +kernel
example : run .pinned (fun _ _ => 0) recordFmt [0x1c, 0, 0, 0, 1, 1, 0x80, 0x80, 0x80, 0x80, 0x80, 0x80, 0x80, 0x80, 0x01] 0
    = .panic 0 := by decide +kernel
example : run .checked (fun _ _ => 0) recordFmt [0x1c, 0, 0, 0, 1, 1, 0x80, 0x80, 0x80, 0x80, 0x80, 0x80, 0x80, 0x80, 0x01] 0
    = .err .insufficient 15 0 := by decide +kernel

/-- a pushed 4-byte length field pops without error only if the stored value equals the number of bytes decoded
    after it (`lengthField.check`) -/
theorem length_mismatch_is_error (v : Variant) (crcf : Bool → Bytes → Nat) (body : Fmt) (raw : Bytes) (off off' a : Nat)
    (hlen : raw.length ≤ 2147483647)
    (hg : Good v body = true) (hoff : off ≤ raw.length)
    (h : run v crcf (.lenField body) raw off = .ok () off' a) :
    getInt32 raw off = .ok ((off' : Int) - off - 4) (off + 4) 0 := by
  obtain ⟨_, _, _, ⟨l, a0, rfl, hget, rfl⟩, hb, hpop⟩ := (field_post pushLength_post).of_ok h
  obtain ⟨-, hin, ha⟩ := SafeN.of_ok (prim_safe_getInt32 raw off hoff) hget
  obtain rfl := eq_zero_of_le_zero_mul ha
  obtain ⟨h1, h2, -⟩ := SafeN.of_ok (dec_total_safe v crcf body hg raw _ hin (Nat.le_trans hlen (by decide))) hb
  -- below 2^31 bytes the int32 subtraction of `lengthField.check` does not wrap
  have : wrap32 ((off' : Int) - off - 4) = (off' : Int) - off - 4 := wrap32_id (by unfold InI32; omega)
  rw [hget, ← (hpop : wrap32 _ = l), this]

/-- the varint length field of a Record: with the check of `Variant.checked` the stored value is exactly the number of bytes
    decoded after the field … -/
theorem varint_length_mismatch_is_error (crcf : Bool → Bytes → Nat) (body : Fmt) (raw : Bytes) (off off' a : Nat)
    (hlen : raw.length ≤ 2147483647)
    (hg : Good .checked body = true) (hoff : off ≤ raw.length)
    (h : run .checked crcf (.varintLenField body) raw off = .ok () off' a) :
    ∃ off1 : Nat, getVarint raw off = .ok ((off' : Int) - (off1 : Int)) off1 0 := by
  obtain ⟨_, off1, _, ⟨l, a1, rfl, hget⟩, hb, hpop⟩ := (field_post pushVarintLength_post).of_ok h
  obtain ⟨e1, e2, ha⟩ := SafeN.of_ok (prim_safe_getVarint raw off hoff) hget
  obtain ⟨h1, h2, -⟩ := SafeN.of_ok (dec_total_safe .checked crcf body hg raw off1 e2 (Nat.le_trans hlen (by decide))) hb
  have hw : wrap64 ((off' : Int) - off - ((off1 - off : Nat) : Int)) = l := hpop
  have : wrap64 ((off' : Int) - off - ((off1 - off : Nat) : Int)) = (off' : Int) - off1 := by
    rw [Int.natCast_sub (Nat.le_of_add_right_le e1), wrap64_id (by unfold InI64; omega)]; omega
  exact ⟨off1, by rw [hget, ← hw, this, eq_zero_of_le_zero_mul ha]⟩

/-- … whereas the pinned check subtracts the size of the CANONICAL encoding of the stored value
    (`reserveLength()`), so a non-canonical varint that claims one byte more than is there is accepted:
    `86 00 aa bb` declares 3 bytes, 2 follow, pop succeeds -/
example : (pushVarintLength [0x86, 0x00, 0xaa, 0xbb] 0).bind (fun fr _ => pop .pinned (fun _ _ => 0) [0x86, 0x00, 0xaa, 0xbb] fr 4)
    = .ok () 4 0 := by decide +kernel
example : getVarint [0x86, 0x00, 0xaa, 0xbb] 0 = .ok 3 2 0 := by decide +kernel
example : (pushVarintLength [0x86, 0x00, 0xaa, 0xbb] 0).bind (fun fr _ => pop .checked (fun _ _ => 0) [0x86, 0x00, 0xaa, 0xbb] fr 4)
    = .err .lengthField 4 0 := by decide +kernel

/-- a pushed CRC field pops without error only if the stored checksum equals the checksum of exactly the bytes
    decoded after it (`crc32Field.check`); `crcf` is the checksum function (hash/crc32 in the implementation) -/
theorem crc_mismatch_is_error (v : Variant) (crcf : Bool → Bytes → Nat) (cast : Bool) (body : Fmt) (raw : Bytes)
    (off off' a : Nat) (h : run v crcf (.crcField cast body) raw off = .ok () off' a) :
    crcf cast (slice raw (off + 4) off') = beU raw off 4 := by
  obtain ⟨_, _, _, ⟨rfl, _⟩, _, hpop⟩ := (field_post pushCrc_post).of_ok h
  exact hpop

theorem pop_crc_ok_iff (v : Variant) (crcf : Bool → Bytes → Nat) (raw : Bytes) (start cur : Nat) (cast : Bool)
    (h : start + 4 ≤ cur) (hc : cur ≤ raw.length) :
    pop v crcf raw (.crc start cast) cur = .ok () cur 0 ↔ crcf cast (slice raw (start + 4) cur) = beU raw start 4 := by
  refine ⟨fun h => (pop_post.of_ok h).2, fun hx => ?_⟩
  rw [pop, if_pos (crc_sliceOK h hc), if_neg (not_not_intro hx)]

/-- the whole-buffer check of `decode` / `versionedDecode`: a decoder that stops before the end of the buffer
    is an error ("invalid length"), so success means every byte was consumed -/
theorem trailing_bytes_is_error {α : Type} (r : Res α) (len : Nat) :
    (∀ v off a, topLevel r len = .ok v off a → off = len) ∧
    (∀ v off a, r = .ok v off a → off ≠ len → topLevel r len = .err .invalidLength off a) := by
  refine ⟨?_, fun v off a h hne => by rw [h]; exact if_pos hne⟩
  show Post (fun _ off => off = len) (topLevel r len)
  cases r with
  | ok v off a => exact Post.guard fun h => Post.ok (Decidable.not_not.mp h)
  | err e off a => exact Post.err
  | panic a => exact Post.panic
  | hang => exact Post.hang

example : topLevel (run .pinned (fun _ _ => 0) stickyV1Fmt [0, 0, 0, 0, 0, 0, 0, 7, 0xaa] 0) 9 = .err .invalidLength 8 0 := by decide +kernel
example : topLevel (run .pinned (fun _ _ => 0) stickyV1Fmt [0, 0, 0, 0, 0, 0, 0, 7] 0) 8 = .ok () 8 0 := by decide +kernel

/-- responseHeader.decode accepts a header only if 4 < length ≤ MaxResponseSize; the body buffer that
    responseReceiver then allocates (`length - headerLength + 4`) is between 0 and MaxResponseSize bytes -/
theorem response_size_capped (maxResp version : Int) (raw : Bytes) (off off' a : Nat) (length cid : Int)
    (hmax : maxResp ≤ 2147483647)
    (h : decodeHeader maxResp version raw off = .ok (length, cid) off' a) :
    4 < length ∧ length ≤ maxResp ∧
    bodySize length version = length - headerLength version + 4 ∧
    0 ≤ bodySize length version ∧ bodySize length version ≤ maxResp := by
  have hc : ¬ (length ≤ 4 ∨ length > maxResp) := by
    refine Post.of_ok (Q := fun p _ => ¬ (p.1 ≤ 4 ∨ p.1 > maxResp))
      (Post.bind' fun l off1 _ _ => Post.guard fun hc => ?_) h
    -- every successful path returns the length that passed the test
    generalize getInt32 raw off1 = r
    cases r with
    | ok cid off2 a2 => exact Post.ite (fun _ => Post.bind' fun _ _ _ _ => Post.ok hc) fun _ => Post.ok hc
    | err e off2 a2 =>
      refine Post.ite (fun _ => ?_) fun _ => Post.err
      generalize getEmptyTaggedFieldArray raw off2 = r3
      cases r3 with
      | ok _ off3 _ => exact Post.err
      | err e3 off3 a3 => exact Post.err
      | panic a3 => exact Post.panic
      | hang => exact Post.hang
    | panic a2 => exact Post.panic
    | hang => exact Post.hang
  -- neither of the two int32 operations of the body size wraps
  have hh : 8 ≤ headerLength version ∧ headerLength version ≤ 9 := by unfold headerLength; split <;> decide
  have hc := not_or.mp hc
  unfold bodySize
  generalize headerLength version = k at hh ⊢
  rw [wrap32_id (x := length - k) (by unfold InI32; omega), wrap32_id (by unfold InI32; omega)]
  exact ⟨Int.not_le.mp hc.1, Int.not_lt.mp hc.2, rfl, by omega, by omega⟩

theorem decodeHeader_safe (maxResp version : Int) (raw : Bytes) (off : Nat) (h : off ≤ raw.length) :
    Safe 0 raw off (decodeHeader maxResp version raw off) := by
  refine SafeN.mono (SafeN.bind (m2 := 0) (prim_safe_getInt32 raw off h) (Nat.le_refl _) fun l off1 _ _ _ h1 => ?_)
    (Nat.le_refl _) (Nat.zero_le _)
  refine SafeN.ite (fun _ => SafeN.err_here h1) fun _ => ?_
  have h2 := prim_safe_getInt32 raw off1 h1
  generalize getInt32 raw off1 = r at h2 ⊢
  cases r with
  | ok cid off2 a2 =>
    obtain ⟨g1, g2, g3⟩ := h2
    obtain rfl := eq_zero_of_le_zero_mul g3
    exact SafeN.ite
      (fun _ => SafeN.mono (SafeN.shift (m := 0) (SafeN.bind (m2 := 0) (prim_safe_getEmptyTaggedFieldArray raw off2 g2)
        (Nat.le_refl _) fun _ _ _ _ _ h3 => SafeN.ok_here h3) (Nat.le_of_add_right_le g1)) (Nat.le_refl _) (Nat.zero_le _))
      fun _ => SafeN.ok0 (Nat.le_of_add_right_le g1) g2
  | err e off2 a2 =>
    -- the error of the second read is kept while the tagged fields are skipped
    refine SafeN.ite (fun _ => ?_) fun _ => h2
    have h3 := prim_safe_getEmptyTaggedFieldArray raw off2 h2.2.1
    generalize getEmptyTaggedFieldArray raw off2 = r3 at h3 ⊢
    cases r3 with
    | ok t off3 a3 => exact ⟨Nat.le_trans h2.1 (Nat.le_of_add_right_le h3.1), h3.2.1, h2.2.2⟩
    | err e3 off3 a3 => exact ⟨Nat.le_trans h2.1 h3.1, h3.2.1, by rw [eq_zero_of_le_zero_mul h3.2.2]; exact Nat.zero_le _⟩
    | panic a3 => exact h3.elim
    | hang => exact h3.elim
  | panic a2 => exact h2.elim
  | hang => exact h2.elim

example : (decodeHeader 104857600 0 [0, 0, 0, 12, 0, 0, 0, 42] 0).map (·.1) = .ok 12 8 0 := by decide +kernel
example : (decodeHeader 104857600 0 [0, 0, 0, 12, 0, 0, 0, 42] 0).map (·.2) = .ok 42 8 0 := by decide +kernel
example : decodeHeader 104857600 0 [0x7f, 0xff, 0xff, 0xff, 0, 0, 0, 42] 0 = .err .headerLength 4 0 := by decide +kernel
example : decodeHeader 104857600 0 [0, 0, 0, 4, 0, 0, 0, 42] 0 = .err .headerLength 4 0 := by decide +kernel

/-- progress of `for pd.remaining() > 0 { … }` (MessageSet.decode, FetchResponseBlock.decode): an iteration
    that does not end the loop consumed at least one byte … -/
theorem loop_progress (v : Variant) (crcf : Bool → Bytes → Nat) (body : Fmt) (hg : Good v body = true)
    (hm : 1 ≤ minSize body) (raw : Bytes) (off off1 a : Nat) (hoff : off ≤ raw.length) (hlen : raw.length ≤ 4294967296)
    (h : run v crcf body raw off = .ok () off1 a) : off < off1 ∧ off1 ≤ raw.length := by
  have hs := SafeN.of_ok (dec_total_safe v crcf body hg raw off hoff hlen) h
  omega

/-- … hence the loop never hangs, and its result does not depend on the fuel the model gives it -/
theorem loop_never_hangs (v : Variant) (crcf : Bool → Bytes → Nat) (p : Bool) (body : Fmt) (hg : Good v body = true)
    (hm : 1 ≤ minSize body) (raw : Bytes) (off fuel : Nat) (hoff : off ≤ raw.length) (hlen : raw.length ≤ 4294967296)
    (hf : raw.length - off < fuel) :
    loopRem p raw.length (run v crcf body raw) fuel off = run v crcf (.whileRem p body) raw off ∧
    run v crcf (.whileRem p body) raw off ≠ .hang := by
  constructor
  · simp only [run]
    apply loopRem_fuel_irrelevant p _ fuel _ off hoff hf (by omega)
    intro o u o1 a1 ho hs
    cases u
    exact loop_progress v crcf body hg hm raw o o1 a1 ho hlen hs
  · have hs := dec_total_safe v crcf (.whileRem p body) (by simp only [Good, Bool.and_eq_true, decide_eq_true_eq]; exact ⟨hm, hg⟩)
      raw off hoff hlen
    intro hh
    rw [hh] at hs
    exact hs

/-- a loop whose body consumes nothing is the hang the property forbids (why `Good` demands minSize ≥ 1) -/
example : loopRem false 1 (fun off => .ok () off 0) 5 0 = .hang := by decide +kernel

end Props.C10
