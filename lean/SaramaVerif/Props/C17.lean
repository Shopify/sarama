import SaramaVerif.Model.Partitioner
/-
  C17 — partitioners keep their contract and the producer honours their choice.
-/
namespace Props.C17
open Go Model.Partitioner

/-- hash partitioners (both sign treatments) stay in range for EVERY 32-bit hash – including
    0x80000000, whose int32 reading is the minimum integer – and every positive partition count. -/
theorem hash_range (refAbs : Bool) (h n : Int) (hn : 0 < n) :
    0 ≤ hashChoice refAbs h n ∧ hashChoice refAbs h n < n := by
  cases refAbs
  · -- |t| for the truncated remainder t, and -n < t < n
    have h1 := Int.lt_tmod_of_pos (wrap32 h) hn
    have h2 := Int.tmod_lt_of_pos (wrap32 h) hn
    unfold hashChoice
    rw [if_neg Bool.false_ne_true]
    by_cases ht : (wrap32 h).tmod n < 0
    · rw [if_pos ht]; exact ⟨Int.neg_nonneg_of_nonpos (Int.le_of_lt ht), Int.neg_lt_of_neg_lt h1⟩
    · rw [if_neg ht]; exact ⟨Int.not_lt.mp ht, h2⟩
  · exact ⟨Int.tmod_nonneg n (Int.emod_nonneg h (by decide)), Int.tmod_lt_of_pos _ hn⟩

theorem hash_reference_eq_java (h n : Int) :
    hashChoice true h n = javaChoice h n :=
  Int.tmod_eq_emod_of_nonneg (Int.emod_nonneg h (by decide))

/-- equal keys (equal hash sums) map to equal partitions: the choice is a function of the hash alone -/
theorem hash_consistent (refAbs : Bool) (h₁ h₂ n : Int) (e : h₁ = h₂) :
    hashChoice refAbs h₁ n = hashChoice refAbs h₂ n := by rw [e]

/-- with the default FNV-1a hasher the choice is in range … -/
theorem hash_key_range (refAbs : Bool) (key : List UInt8) (n : Int) (hn : 0 < n) :
    0 ≤ hashKeyChoice refAbs key n ∧ hashKeyChoice refAbs key n < n := hash_range refAbs _ n hn

/-- … and a function of the key BYTES, so equal keys, including keys that encode to zero bytes, always map to the
    same partition -/
theorem hash_key_consistent (refAbs : Bool) (k₁ k₂ : List UInt8) (n : Int) (e : k₁ = k₂) :
    hashKeyChoice refAbs k₁ n = hashKeyChoice refAbs k₂ n := by rw [e]

example : fnv1a32 [] = 2166136261 ∧ fnv1a32 [0x61] = 3826002220 ∧ hashKeyChoice true [] 50 = (2166136261 % 2147483648) % 50 := by decide +kernel

theorem rrStep_wrap {p n : Int} (h : n ≤ p) : rrStep p n = (0, 1) := by
  unfold rrStep; rw [if_pos h]; rfl

theorem rrStep_next {p n : Int} (h : p < n) : rrStep p n = (p, p + 1) := by
  unfold rrStep; rw [if_neg (Int.not_le.mpr h)]

/-- round-robin invariant and range: from a state `0 ≤ p` and for every positive count the choice is in range and
    the next state is in `[0, n]`; so the state is bounded by the counts seen, and `p.partition++` does not wrap
    while they are int32 (`Bridge.C17.rrPartition_eq`). -/
theorem rr_step_range (p n : Int) (hp : 0 ≤ p) (hn : 0 < n) :
    0 ≤ (rrStep p n).1 ∧ (rrStep p n).1 < n ∧ 0 ≤ (rrStep p n).2 ∧ (rrStep p n).2 ≤ n := by
  rcases Int.lt_or_le p n with h | h
  · rw [rrStep_next h]; exact ⟨hp, h, Int.le_add_one hp, h⟩
  · rw [rrStep_wrap h]; exact ⟨Int.le_refl 0, hn, by decide, hn⟩

/-- on the invariant `0 ≤ p ≤ n` both branches are one formula (`p = n` is the wrapped state) -/
theorem rrStep_emod {p n : Int} (hp : 0 ≤ p ∧ p ≤ n) : rrStep p n = (p % n, p % n + 1) := by
  rcases Int.lt_or_eq_of_le hp.2 with h | h
  · rw [rrStep_next h, Int.emod_eq_of_lt hp.1 h]
  · rw [rrStep_wrap (Int.le_of_eq h.symm), h, Int.emod_self]; rfl

/-- the partition count may change from call to call: the i-th choice of a run is within the i-th count
    (the proof inside the statement is `rrRun_length`: it lets `i` index `ns`) -/
theorem rr_run_range (p : Int) (ns : List Int) (hp : 0 ≤ p) (hns : ∀ n ∈ ns, 0 < n) :
    ∀ i (hi : i < (rrRun p ns).length), 0 ≤ (rrRun p ns)[i] ∧ (rrRun p ns)[i] < ns[i]'(by
      have : (rrRun p ns).length = ns.length := by
        clear hns hi hp
        induction ns generalizing p with
        | nil => rfl
        | cons n ns ih => simp [rrRun, ih]
      omega) := by
  induction ns generalizing p with
  | nil => exact fun i hi => absurd hi (Nat.not_lt_zero i)
  | cons n ns ih =>
    have hs := rr_step_range p n hp (hns n List.mem_cons_self)
    intro i hi
    cases i with
    | zero => exact ⟨hs.1, hs.2.1⟩
    | succ i => exact ih _ hs.2.2.1 (fun m hm => hns m (List.mem_cons_of_mem n hm)) i (Nat.lt_of_succ_lt_succ hi)

/-- with a fixed count the round-robin partitioner cycles 0,1,…,n-1,0,…: the k-th call from state p ≤ n
    returns (p + k) mod n  (p = n is the wrapped state that yields 0). -/
theorem rr_cycle (n : Int) (hn : 0 < n) (k : Nat) (p : Int) (hp : 0 ≤ p ∧ p ≤ n) :
    ∀ i (hi : i < (rrRun p (List.replicate k n)).length),
      (rrRun p (List.replicate k n))[i] = (p + i) % n := by
  induction k generalizing p with
  | zero => exact fun i hi => absurd hi (Nat.not_lt_zero i)
  | succ k ih =>
    have hs := rr_step_range p n hp.1 hn
    intro i hi
    cases i with
    | zero => exact (congrArg Prod.fst (rrStep_emod hp)).trans (congrArg (· % n) (Int.add_zero p).symm)
    | succ i =>
      refine (ih _ hs.2.2 i (Nat.lt_of_succ_lt_succ hi)).trans ?_
      rw [rrStep_emod hp, Int.add_assoc, Int.emod_add_emod, Int.add_comm 1]; rfl

theorem rrRun_length (p : Int) (ns : List Int) : (rrRun p ns).length = ns.length := by
  induction ns generalizing p with
  | nil => rfl
  | cons n ns ih => exact congrArg Nat.succ (ih _)

theorem rr_window_length (p n : Int) : (rrRun p (List.replicate n.toNat n)).length = n.toNat := by
  rw [rrRun_length, List.length_replicate]

/-- `i ↦ (p + i) % n` maps `[0, n)` onto itself, with inverse `j ↦ (j - p) % n` -/
theorem emod_shift_inv (p : Int) {i n : Int} (h0 : 0 ≤ i) (h1 : i < n) : ((p + i) % n - p) % n = i := by
  rw [Int.emod_sub_emod, Int.add_comm, Int.add_sub_cancel, Int.emod_eq_of_lt h0 h1]

/-- "round-robin cycles through ALL partitions": with a fixed count n, from every reachable state, any n consecutive
    calls return every partition 0 ≤ j < n (hence, the window having n entries, each exactly once). -/
theorem rr_covers_all (n : Int) (hn : 0 < n) (p : Int) (hp : 0 ≤ p ∧ p ≤ n) (j : Int) (hj : 0 ≤ j ∧ j < n) :
    ∃ i, ∃ (hi : i < (rrRun p (List.replicate n.toNat n)).length),
      (rrRun p (List.replicate n.toNat n))[i] = j := by
  have hm0 : 0 ≤ (j - p) % n := Int.emod_nonneg _ (Int.ne_of_gt hn)
  refine ⟨((j - p) % n).toNat, ?_, ?_⟩
  · rw [rr_window_length]; exact (Int.toNat_lt_toNat hn).mpr (Int.emod_lt_of_pos _ hn)
  · rw [rr_cycle n hn n.toNat p hp, Int.toNat_of_nonneg hm0, Int.add_emod_emod, Int.add_comm, Int.sub_add_cancel,
      Int.emod_eq_of_lt hj.1 hj.2]

theorem rr_window_injective (n : Int) (hn : 0 < n) (p : Int) (hp : 0 ≤ p ∧ p ≤ n) (i k : Nat)
    (hi : i < (rrRun p (List.replicate n.toNat n)).length) (hk : k < (rrRun p (List.replicate n.toNat n)).length)
    (e : (rrRun p (List.replicate n.toNat n))[i] = (rrRun p (List.replicate n.toNat n))[k]) : i = k := by
  have e' := congrArg (fun c => (c - p) % n)
    ((rr_cycle n hn n.toNat p hp i hi).symm.trans (e.trans (rr_cycle n hn n.toNat p hp k hk)))
  rw [rr_window_length] at hi hk
  rw [emod_shift_inv p (Int.natCast_nonneg i) (Int.lt_toNat.mp hi),
    emod_shift_inv p (Int.natCast_nonneg k) (Int.lt_toNat.mp hk)] at e'
  exact Int.ofNat.inj e'
example : rrRun 2 (List.replicate 3 3) = [2, 0, 1] ∧ rrRun 3 (List.replicate 3 3) = [0, 1, 2] := by decide +kernel

/-- the sequence of choices is periodic with period n (so every window of n consecutive calls, wherever it starts,
    is a rotation of 0,…,n-1 and over k·n calls every partition is chosen exactly k times) -/
theorem rr_periodic (n : Int) (hn : 0 < n) (k : Nat) (p : Int) (hp : 0 ≤ p ∧ p ≤ n) (i : Nat)
    (hi : i + n.toNat < (rrRun p (List.replicate k n)).length) :
    (rrRun p (List.replicate k n))[i + n.toNat] = (rrRun p (List.replicate k n))[i]'(by omega) := by
  rw [rr_cycle n hn k p hp, rr_cycle n hn k p hp, Int.natCast_add, Int.toNat_of_nonneg (Int.le_of_lt hn),
    ← Int.add_assoc, Int.add_emod_right]

theorem rr_window_count (n : Int) (hn : 0 < n) (p : Int) (hp : 0 ≤ p ∧ p ≤ n) (j : Int) (hj : 0 ≤ j ∧ j < n) :
    (rrRun p (List.replicate n.toNat n)).count j = 1 := by
  have hnd : (rrRun p (List.replicate n.toNat n)).Nodup :=
    List.pairwise_iff_getElem.mpr fun a b ha hb hab e =>
      Nat.ne_of_lt hab (rr_window_injective n hn p hp a b ha hb e)
  exact hnd.count.trans (if_pos (List.mem_iff_getElem.mpr (rr_covers_all n hn p hp j hj)))

theorem rrRun_replicate_add (n : Int) (hn : 0 < n) (a b : Nat) (p : Int) (hp : 0 ≤ p ∧ p ≤ n) :
    ∃ q, (0 ≤ q ∧ q ≤ n) ∧
      rrRun p (List.replicate (a + b) n) = rrRun p (List.replicate a n) ++ rrRun q (List.replicate b n) := by
  induction a generalizing p with
  | zero => exact ⟨p, hp, by rw [Nat.zero_add]; rfl⟩
  | succ a ih =>
    obtain ⟨q, hq, e⟩ := ih _ (rr_step_range p n hp.1 hn).2.2
    exact ⟨q, hq, by rw [Nat.succ_add]; exact congrArg ((rrStep p n).1 :: ·) e⟩

/-- fairness: over k·n consecutive calls with a fixed count n, from every reachable state, every partition is
    chosen exactly k times -/
theorem rr_fair (n : Int) (hn : 0 < n) (k : Nat) (p : Int) (hp : 0 ≤ p ∧ p ≤ n) (j : Int) (hj : 0 ≤ j ∧ j < n) :
    (rrRun p (List.replicate (k * n.toNat) n)).count j = k := by
  induction k generalizing p with
  | zero => rw [Nat.zero_mul]; rfl
  | succ k ih =>
    obtain ⟨q, hq, e⟩ := rrRun_replicate_add n hn n.toNat (k * n.toNat) p hp
    rw [Nat.succ_mul, Nat.add_comm, e, List.count_append, rr_window_count n hn p hp j hj, ih q hq, Nat.add_comm]

example : (rrRun 1 (List.replicate (2 * 3) 3)).count 2 = 2 := by decide +kernel

/-- manual partitioner: identity (stated on the routing function: a manual choice `c` within range is
    looked up unchanged) -/
theorem manual_identity (parts : List Int) (c : Int) (h0 : 0 ≤ c) (h1 : c < parts.length) :
    partitionMessage true (.ok parts) (.ok []) (fun _ => .ok c) = .sent (parts.getD c.toNat 0) :=
  (if_neg (Int.ne_of_gt (Int.lt_of_le_of_lt h0 h1))).trans
    (if_neg fun h => h.elim (Int.not_lt.mpr h0) (Int.not_le.mpr h1))

theorem length_pos {parts : List Int} (hp : parts ≠ []) : (0 : Int) < parts.length :=
  Int.natCast_pos.mpr (List.length_pos_iff.mpr hp)

/-- `partitionMessage` as a table: one row per outcome -/
theorem partition_message_spec (reqCons : Bool) (all writable : Except Int (List Int))
    (choose : Int → Except Int Int) :
    let offered := if reqCons then all else writable
    match offered with
    | .error e => partitionMessage reqCons all writable choose = .errClient e
    | .ok parts =>
      (parts = [] → partitionMessage reqCons all writable choose = .errLeaderNotAvailable) ∧
      (parts ≠ [] → ∀ e, choose parts.length = .error e →
          partitionMessage reqCons all writable choose = .errPartitioner e) ∧
      (parts ≠ [] → ∀ c, choose parts.length = .ok c → (c < 0 ∨ c ≥ parts.length) →
          partitionMessage reqCons all writable choose = .errInvalidPartition) ∧
      (parts ≠ [] → ∀ c, choose parts.length = .ok c → 0 ≤ c → c < parts.length →
          ∃ hlt : c.toNat < parts.length,
            partitionMessage reqCons all writable choose = .sent (parts[c.toNat]'hlt)) := by
  -- name the result `R` and the offered list, keeping only the defining equation of `R`
  have hdef := partitionMessage.eq_1 reqCons all writable choose
  generalize partitionMessage reqCons all writable choose = R at hdef ⊢
  generalize (if reqCons then all else writable) = offered at hdef ⊢
  cases offered with
  | error e => exact hdef
  | ok parts =>
    by_cases hp : parts = []
    · subst hp
      exact ⟨fun _ => hdef, fun h => absurd rfl h, fun h => absurd rfl h, fun h => absurd rfl h⟩
    · replace hdef := hdef.trans (if_neg (Int.ne_of_gt (length_pos hp)))
      refine ⟨fun h => absurd h hp, fun _ e he => ?_, fun _ c hc hr => ?_, fun _ c hc h0 h1 => ?_⟩
      · rw [he] at hdef; exact hdef
      · rw [hc] at hdef; exact hdef.trans (if_pos hr)
      · rw [hc] at hdef
        have hlt : c.toNat < parts.length := (Int.toNat_lt h0).mpr h1
        exact ⟨hlt, hdef.trans ((if_neg fun h => h.elim (Int.not_lt.mpr h0) (Int.not_le.mpr h1)).trans
          (congrArg Routed.sent (List.getElem_eq_getD 0).symm))⟩

/-- a message that fails partitioning is sent nowhere: the routing result is `sent _` only in the last row -/
theorem failed_partitioning_sends_nothing (reqCons : Bool) (all writable : Except Int (List Int))
    (choose : Int → Except Int Int) (p : Int)
    (h : partitionMessage reqCons all writable choose = .sent p) :
    ∃ parts, (if reqCons then all else writable) = .ok parts ∧ p ∈ parts ∧
      ∃ c, choose parts.length = .ok c ∧ 0 ≤ c ∧ c < parts.length := by
  -- every other row of the table contradicts `h`
  have hs := partition_message_spec reqCons all writable choose
  rw [h] at hs
  generalize (if reqCons then all else writable) = offered at hs ⊢
  cases offered with
  | error e => cases hs
  | ok parts =>
    refine ⟨parts, rfl, ?_⟩
    by_cases hp : parts = []
    · cases hs.1 hp
    · cases hc : choose parts.length with
      | error e => cases hs.2.1 hp e hc
      | ok c =>
        by_cases hr : c < 0 ∨ c ≥ parts.length
        · cases hs.2.2.1 hp c hc hr
        · have h0 : 0 ≤ c := Int.not_lt.mp fun h => hr (.inl h)
          have h1 : c < parts.length := Int.not_le.mp fun h => hr (.inr h)
          obtain ⟨hlt, e⟩ := hs.2.2.2 hp c hc h0 h1
          cases e
          exact ⟨List.getElem_mem hlt, c, rfl, h0, h1⟩

theorem hashPartition_some (fuel : Nat) (fb : Fallback) (refAbs : Bool) (h n r a : Int) :
    hashPartition fuel fb refAbs (some h) n r a = some (hashChoice refAbs h n) := by
  unfold hashPartition; rfl

/-- custom fallback: with the documented behaviour (`arg`) a keyless message gets the fallback
    partitioner's choice … -/
theorem custom_fallback_used (fuel : Nat) (refAbs : Bool) (n r a : Int) :
    hashPartition fuel .arg refAbs none n r a = some a := by
  unfold hashPartition; rfl

/-- … whereas the self-referential variant never returns for a keyless message, whatever the fuel
    (this is the defect variant F8; the correspondence check decides which variant /repo matches). -/
theorem self_fallback_diverges (fuel : Nat) (refAbs : Bool) (n r a : Int) :
    hashPartition fuel .self refAbs none n r a = none := by
  induction fuel with
  | zero => rfl
  | succ k ih => unfold hashPartition; exact ih

/-- a keyed call of a hash partitioner does not depend on the fallback, the fuel, the random draw or the
    fallback's answer, and is in range -/
theorem hash_partition_keyed (fuel : Nat) (fb : Fallback) (refAbs : Bool) (h n r a : Int) (hn : 0 < n) :
    ∃ c, hashPartition fuel fb refAbs (some h) n r a = some c ∧ c = hashChoice refAbs h n ∧ 0 ≤ c ∧ c < n :=
  ⟨_, hashPartition_some fuel fb refAbs h n r a, rfl, hash_range refAbs h n hn⟩

/-- keyless call with the random or the custom fallback: the fallback's answer, in range when that is -/
theorem hash_partition_keyless (fuel : Nat) (fb : Fallback) (hfb : fb ≠ .self) (refAbs : Bool) (n r a : Int)
    (hr : 0 ≤ r ∧ r < n) (ha : 0 ≤ a ∧ a < n) :
    ∃ c, hashPartition fuel fb refAbs none n r a = some c ∧ 0 ≤ c ∧ c < n := by
  cases fb with
  | random => exact ⟨r, by unfold hashPartition; rfl, hr⟩
  | arg => exact ⟨a, custom_fallback_used fuel refAbs n r a, ha⟩
  | self => exact absurd rfl hfb

/-- composition of the two halves of the statement: a keyed message of a hash partitioner (which requires
    consistency, so ALL partitions are offered) is sent — never failed with an invalid-partition error — to
    the element of the offered list at the hash's index; leaderless partitions (the `writable` answer), the
    fallback, the fuel and the random draw play no part. -/
theorem keyed_hash_message_routed (fuel : Nat) (fb : Fallback) (refAbs : Bool) (h r a : Int)
    (parts : List Int) (writable : Except Int (List Int)) (hp : parts ≠ []) :
    ∃ hlt : (hashChoice refAbs h parts.length).toNat < parts.length,
      partitionMessage true (.ok parts) writable
        (fun n => match hashPartition fuel fb refAbs (some h) n r a with
                  | some c => .ok c
                  | none => .error 0)
        = .sent (parts[(hashChoice refAbs h parts.length).toNat]'hlt) := by
  have hr := hash_range refAbs h parts.length (length_pos hp)
  -- last row of the table; the partitioner's answer is `hashPartition_some`
  exact (partition_message_spec true (.ok parts) writable _).2.2.2 hp _
    (by rw [hashPartition_some]) hr.1 hr.2
example : ∃ hlt, partitionMessage true (.ok [10, 11, 12]) (.ok [11])
    (fun n => match hashPartition 0 .self true (some 2147483649) n 0 0 with | some c => .ok c | none => .error 0)
    = .sent ([10, 11, 12][(hashChoice true 2147483649 3).toNat]'hlt) :=
  keyed_hash_message_routed 0 .self true 2147483649 0 0 [10, 11, 12] (.ok [11]) (by decide)

/-- the hash 0x80000000, whose int32 reading is the minimum integer, under both sign treatments -/
example : InU32 2147483648 ∧ (0:Int) < 7 ∧ hashChoice false 2147483648 7 = 2 ∧ hashChoice true 2147483648 7 = 0 := by
  decide +kernel
example : rrRun 0 [3,3,3,3,2,5] = [0,1,2,0,1,2] := by decide +kernel
example : partitionMessage false (.ok [0,1,2]) (.ok [0,2]) (fun _ => .ok 1) = .sent 2 := by decide +kernel

end Props.C17
