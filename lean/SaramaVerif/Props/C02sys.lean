/-
  C02, composition: end-to-end log order for the system model `Model.Pipeline` (non-idempotent producer,
  one partition, `Retry.Max = M ≥ 1`), proved for EVERY choice sequence in which one broker worker (worker 0)
  serves the partition for the whole run.

  The system reuses `Model.PartProd.recv` (partition producer) and `Model.BrokerProd.step` (broker worker) as they
  are; `sysStep` interleaves them with the FIFO queues between them, the broker (log append + scripted verdict),
  the retries queue and fresh submissions.  The proof is an invariant (`Lemmas.C02sys.Good`): a view of the state
  (what the worker holds or will accept / the virtual arrival stream of the partition producer, with the tokens
  the worker is going to bounce already counted at their next level) in which ranks and retry levels are sorted
  against each other (`VInv`), tied to the concrete state phase by phase (`Rep`), plus the log clauses.

  Restrictions (precisely): one partition (every token has `part = 0`, no other partition shares the worker);
  non-idempotent producer; `M ≥ 1`; the leader lookups of the partition producer select worker 0 or fail
  (`SingleWorker`): the leader may move away and back (`moveLeader`; the broker then cannot append), the
  worker may be abandoned after a connection error (it then bounces everything until the budgets are spent),
  but the partition is never handed to a second worker.  Verdicts: ok / retriable (with or without append) /
  fatal / connection error (before or after the append).  A leader lookup is resolved per forwarded message
  (the Go code resolves it once per flushed level), which only adds behaviours.

  Relation to the real code (Driver/PipelineTrace.lean replays real runs): with a single partition the real
  partition producer RELEASES its broker worker at every retry-level change (unrefBrokerProducer closes it) and
  then selects a fresh one, so the old worker drains its queue (bouncing, chaser last) concurrently with its
  successor.  Such runs are runs of `Model.Pipeline` with several workers; they satisfy `HandoverChain` and are
  covered by `log_order_handover_chain` (Props/C02chain.lean).  `SingleWorker` models old worker and successor as
  one sequential process.  Real runs without a retry-level change are `SingleWorker` runs.
-/
import SaramaVerif.Lemmas.C02sysCons
import SaramaVerif.Lemmas.C02uSingle

namespace Props.C02sys
open Model Model.Pipeline Lemmas.C02sys

/-- the end-to-end order on the broker's log: success offsets increase with the submission rank, and the FIRST copies
    in the log (a retry after an append leaves duplicates) come in submission order -/
def LogOrder (s : Sys) : Prop :=
  (∀ a b oa ob, (a, oa) ∈ s.succ → (b, ob) ∈ s.succ → a < b → oa < ob) ∧
  (∀ a b, a < b → a ∈ s.log → b ∈ s.log → s.log.idxOf a < s.log.idxOf b)

/-- the GENERAL end-to-end statement (any number of broker workers, leader changes that move the partition to
    another worker).  OPEN in this generality.  Proved instances: `log_order_single_worker` below (the partition
    producer always selects the same worker), `log_order_handover_chain` in Props/C02chain.lean (every lookup names
    a worker not named before, the workers left behind drain concurrently) and `log_order_reselect` in
    Props/C02split.lean (a worker may be selected again while it still drains, under the decidable side condition
    `splitOKs`). -/
def LogOrderGeneral (M : Nat) : Prop := ∀ (cs : List Choice) (s : Sys), run M {} cs = some s → LogOrder s

def SInv (M : Nat) (s : Sys) : Prop := ∃ v, Good M s v

abbrev SingleWorker (cs : List Choice) : Prop := ∀ c ∈ cs, OneW c

theorem init_inv (M : Nat) : SInv M {} :=
  have E {α : Type} {p : α → Prop} : ∀ x ∈ ([] : List α), p x := List.forall_mem_nil p
  ⟨_, { rep := WRep.rep (s := {}) (gw := []) (tl := [])
               (.normal [] [] rfl rfl rfl E (Or.inl rfl) (Or.inr ⟨rfl, rfl, rfl⟩)),
         vinv := .init,
         conc := { pinv := Props.C02bp.init_inv, p0 := E, lvl := E, finq := E, ret1 := E, cur01 := Or.inl rfl,
                   capN := fun _ => E, crash := rfl },
         log := LogCore.init.logInv (s := {}) nofun }⟩

theorem step_inv {M : Nat} (hM : 1 ≤ M) {s s' : Sys} (c : Choice) (hc : OneW c) (h : SInv M s)
    (hs : sysStep M s c = some s') : SInv M s' :=
  h.elim fun _ hg => good_step hM c hc hg hs

theorem run_induct {M : Nat} {P : Sys → Prop}
    (hstep : ∀ {s s' : Sys} (c : Choice), OneW c → P s → sysStep M s c = some s' → P s') (cs : List Choice) :
    ∀ {s s' : Sys}, SingleWorker cs → P s → run M s cs = some s' → P s' :=
  fun hsw h hr => (runs M).inv_on OneW P (fun _ c _ => hstep c) hr hsw h

theorem run_inv {M : Nat} (hM : 1 ≤ M) (cs : List Choice) : ∀ {s s' : Sys}, SingleWorker cs → SInv M s →
    run M s cs = some s' → SInv M s' :=
  run_induct (step_inv hM) cs

theorem logOrder_of_core {s : Sys} {v : View} (h : LogCore s.log s.succ s.next v) : LogOrder s :=
  ⟨fun a b oa ob ha hb hab => h.S3 (a, oa) ha (b, ob) hb hab, h.J⟩

theorem inv_logOrder {M : Nat} {s : Sys} (h : SInv M s) : LogOrder s :=
  let ⟨_, hg⟩ := h; logOrder_of_core hg.log.core

/-- **log order, one broker worker**: for every retry budget `M ≥ 1` and EVERY choice sequence (fault script,
    interleaving, lookup failures, overflow/flush timing, leader moves) in which worker 0 is the only broker worker
    that is ever selected, the state reached satisfies `LogOrder`. -/
theorem log_order_single_worker {M : Nat} (hM : 1 ≤ M) (cs : List Choice) (hsw : SingleWorker cs) {s : Sys}
    (hr : run M {} cs = some s) : LogOrder s :=
  inv_logOrder (run_inv hM cs hsw (init_inv M) hr)

/-- in the single-worker runs `newHighWatermark` never finds `pp.brokerProducer == nil` -/
theorem no_nil_deref_single_worker {M : Nat} (hM : 1 ≤ M) (cs : List Choice) (hsw : SingleWorker cs) {s : Sys}
    (hr : run M {} cs = some s) : s.crash = false := by
  obtain ⟨v, hg⟩ := run_inv hM cs hsw (init_inv M) hr
  exact hg.conc.crash

theorem cons_init (M : Nat) : Cons M {} := by
  intro i
  have hb : bufIdsUpTo (M + 1) ({} : Sys).pp.bufs = [] := List.flatMap_eq_nil_iff.2 (fun _ _ => rfl)
  have : census M {} i = 0 := by rw [census, hb]; rfl
  rw [this, if_neg (fun h => Int.not_lt.2 h.1 h.2)]

theorem cons_step {M : Nat} (hM : 1 ≤ M) {s s' : Sys} {v : View} (c : Choice) (hc : OneW c) (hg : Good M s v)
    (hcs : Cons M s) (hs : sysStep M s c = some s') : Cons M s' := by
  cases step_iff.1 hs with
  | submit => exact cons_submit hcs
  | retryOut hr => exact cons_of_eq hcs rfl (census_queues (by simp [hr]) rfl rfl rfl rfl)
  | dispatch hr => exact cons_of_eq hcs rfl (census_queues (by simp [hr]) rfl rfl rfl rfl)
  | @ppRecv t r lks hq =>
    obtain ⟨gw, tl, g, _, rfl⟩ := hg.rep.wrep
    have hm : t ∈ s.pq ++ s.dq ++ s.ret := hq ▸ List.mem_append_left _ (List.mem_append_left _ (List.mem_cons_self ..))
    exact cons_ppRecv hg.conc.cur01 hc hq (hg.vinv.nosyn t (List.mem_append_left _ hm)) (hg.conc.lvl t hm)
      (fun l x hx => (hg.vinv.pinv.typed l x hx).2) hcs
  | worker hf =>
    cases hf with
    | recv ov => obtain rfl := hc; exact cons_bpRecv hg.conc hcs hs
    | handover => obtain rfl := hc; exact cons_handover hcs hs
    | deliver still => obtain rfl := hc; exact cons_deliver hM hg.conc hcs hs
  | broker => obtain rfl := hc; exact cons_of_eq hcs rfl (fun _ => rfl)
  | moveLeader b => exact cons_of_eq hcs rfl (fun _ => rfl)
  | closeW => exact hc.elim

/-- **conservation, one broker worker**: in every reachable state every submitted id `0 ≤ i < next` is counted
    exactly once - as a data token in one of the places (pp.input, p.input, retries, the partition producer's
    retry buffers, the worker's input channel, the worker itself) or as one terminal outcome (a success or an
    error) - and no other id is counted at all. -/
theorem conservation_sys {M : Nat} (hM : 1 ≤ M) (cs : List Choice) (hsw : SingleWorker cs) {s : Sys}
    (hr : run M {} cs = some s) (i : Int) :
    census M s i = if 0 ≤ i ∧ i < (s.next : Int) then 1 else 0 :=
  (run_induct (P := fun s => SInv M s ∧ Cons M s)
    (fun c hc h hs => ⟨step_inv hM c hc h.1 hs, h.1.elim fun _ hg => cons_step hM c hc hg h.2 hs⟩) cs hsw
    ⟨init_inv M, cons_init M⟩ hr).2 i

/-- **the way back is one FIFO** (any number of workers, every state): a step takes at most the
    head of the retry path (pp.input ++ p.input ++ retries, bounced tokens only) and appends at its tail -/
theorem retry_path_fifo (M : Nat) (s s' : Sys) (c : Choice) (h : sysStep M s c = some s') :
    ∃ pre mid post, retryPath s = pre ++ mid ∧ retryPath s' = mid ++ post ∧ pre.length ≤ 1 :=
  Lemmas.C02sys.retry_path_fifo M s s' c h

/-! a run with a retry (after an append: duplicates in the log), a fresh message forwarded to the worker while it
    refuses the partition, and a fresh message parked behind the retry level -/

instance : DecidablePred OneW := fun c => by
  cases c <;> simp only [OneW] <;> infer_instance

def exCs : List Choice :=
  [.submit, .submit, .submit, .dispatch, .dispatch, .ppRecv [some 0], .ppRecv [],
   .bpRecv 0 false, .bpRecv 0 false, .bpRecv 0 false, .handover 0, .broker 0 (.retriable true), .deliver 0 false,
   .retryOut, .retryOut, .dispatch, .dispatch, .dispatch,
   .ppRecv [], .ppRecv [some 0], .ppRecv [],
   .submit, .dispatch, .ppRecv [],
   .bpRecv 0 false, .bpRecv 0 false, .bpRecv 0 false, .bpRecv 0 false, .bpRecv 0 false,
   .handover 0, .broker 0 .ok, .deliver 0 false,
   .retryOut, .retryOut, .dispatch, .dispatch, .ppRecv [], .ppRecv [],
   .bpRecv 0 false, .bpRecv 0 false, .handover 0, .broker 0 .ok, .deliver 0 false]

theorem exCs_single : SingleWorker exCs := by decide

example : SingleWorker exCs := exCs_single

/-- messages 0 and 1 are appended, answered with a retriable error, retried and appended again; 2 was forwarded
    while the worker refused the partition and comes back at level 1; 3 is parked until the chaser returns -/
example : (run 2 {} exCs).map (fun s => (s.log, s.succ, s.errs)) =
    some ([0, 1, 0, 1, 2, 3], [(0, 2), (1, 3), (2, 4), (3, 5)], []) := by decide +kernel

example : (run 2 {} (exCs.take 24)).map (fun s => (s.pp.hwm, (s.pp.bufs 0).map (·.id))) = some (1, [3]) := by
  decide +kernel

example : ∀ s, run 2 {} exCs = some s → LogOrder s :=
  fun _ h => log_order_single_worker (by decide) exCs exCs_single h

example : ∀ s, run 2 {} exCs = some s → s.crash = false :=
  fun _ h => no_nil_deref_single_worker (by decide) exCs exCs_single h

example : ∀ s, run 2 {} exCs = some s → ∀ i, census 2 s i = if 0 ≤ i ∧ i < (s.next : Int) then 1 else 0 :=
  fun _ h => conservation_sys (by decide) exCs exCs_single h

example : (run 2 {} (exCs.take 18)).map (fun s => (retryPath s).map (fun t => (t.id, t.retries))) =
    some [(0, 1), (1, 1)] := by decide +kernel

end Props.C02sys
