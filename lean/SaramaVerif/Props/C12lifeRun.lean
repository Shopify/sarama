import SaramaVerif.Model.LifecycleRun
import SaramaVerif.Lemmas.Acceptor
/-
  What the theorems about the acceptors of Model/Lifecycle*.lean share (Props/C12lifePC, BC, Grp, OM, Conn).  Per
  component (`POM`, with its two latches, and `Cons` apart), `Flags s e s'` says what an accepted step does to the flags
  and counters that the theorems speak of (one sweep over the events; the counters `Br.pending` and `OM.attempts` are
  swept where they are used); the theorems about event sequences follow from it by the lemmas of this file on latches
  (`Latch.*`) and on flags that are set and reset (`needs`), and by `Lemmas.Run.Runs.counts` for the counters.
-/
namespace Props.C12life
open Model.Lifecycle Lemmas.Acceptor

section Generic
variable {σ ε : Type} {step : σ → ε → Except String σ}

theorem runs : Lemmas.Run.Runs (fun s e s' => step s e = .ok s') (fun s es s' => runWith step s es = .ok s') :=
  .ofExcept (fun _ => rfl) fun s e es => by rw [runWith]; cases step s e <;> rfl

theorem run_prefix {s : σ} {xs ys : List ε} {s'' : σ} (h : runWith step s (xs ++ ys) = .ok s'') :
    ∃ s', runWith step s xs = .ok s' :=
  (runs.append.mp h).elim fun s' h => ⟨s', h.1⟩

def Since (pa pr : ε → Prop) (pre : List ε) : Prop := ∃ l a r, pre = l ++ a :: r ∧ pa a ∧ ∀ x ∈ r, ¬ pr x

/-- `hset`: only `pa` events raise the flag, and every event that may lower it is a `pr`. -/
theorem flag_origin (f : σ → Bool) (pa pr : ε → Prop)
    (hset : ∀ s e s', step s e = .ok s' → f s' = true → (f s = true ∧ ¬ pr e) ∨ pa e)
    {evs : List ε} : ∀ {s s' : σ}, runWith step s evs = .ok s' → f s' = true →
      (f s = true ∧ ∀ x ∈ evs, ¬ pr x) ∨ Since pa pr evs := by
  induction evs with
  | nil => intro s s' h hf; simp [runWith] at h; subst h; left; exact ⟨hf, by simp⟩
  | cons e es ih =>
    intro s s' h hf
    obtain ⟨s1, h1, h2⟩ := runs.cons.mp h
    rcases ih h2 hf with ⟨hf1, hno⟩ | ⟨l, a, r, he, hpa, hr⟩
    · rcases hset s e s1 h1 hf1 with ⟨hf0, hnr⟩ | hpa
      · left; refine ⟨hf0, ?_⟩
        intro x hx; rcases List.mem_cons.mp hx with rfl | hx
        · exact hnr
        · exact hno x hx
      · right; exact ⟨[], e, es, rfl, hpa, hno⟩
    · right; exact ⟨e :: l, a, r, by simp [he], hpa, hr⟩

end Generic

/-- the step case of `flag_origin` for an event that leaves the flag alone and is no reset -/
theorem flag_kept {x : Bool} {pr pa : Prop} (h : ¬ pr) : x = true → (x = true ∧ ¬ pr) ∨ pa := fun hx => .inl ⟨hx, h⟩

/-- every occurrence of an event satisfying `pb` is preceded by one satisfying `pa`, with no `pr` in between -/
def Precedes {ε : Type} (pa pr pb : ε → Prop) (evs : List ε) : Prop :=
  ∀ pre b post, evs = pre ++ b :: post → pb b → Since pa pr pre

section Generic
variable {σ ε : Type} {step : σ → ε → Except String σ}

theorem needs (f : σ → Bool) (pa pr pb : ε → Prop) (init : σ) (hinit : f init = false)
    (hset : ∀ s e s', step s e = .ok s' → f s' = true → (f s = true ∧ ¬ pr e) ∨ pa e)
    (hreq : ∀ s e s', pb e → step s e = .ok s' → f s = true)
    {evs : List ε} {s' : σ} (h : runWith step init evs = .ok s') : Precedes pa pr pb evs := by
  intro pre b post he hb
  subst he
  obtain ⟨s1, s2, h1, h3, _⟩ := runs.mid h
  rcases flag_origin f pa pr hset h1 (hreq s1 b s2 hb h3) with ⟨hf0, _⟩ | hs
  · simp [hinit] at hf0
  · exact hs

theorem none_after_inv (I : σ → Prop) (f : σ → Bool) (pc pb : ε → Prop)
    (hI : ∀ s e s', I s → step s e = .ok s' → I s')
    (hkeep : ∀ s e s', step s e = .ok s' → f s = true → f s' = true)
    (hclose : ∀ s e s', pc e → step s e = .ok s' → f s' = true)
    (hreq : ∀ s e s', I s → pb e → step s e = .ok s' → f s = false)
    {init : σ} (h0 : I init) {pre post : List ε} {c : ε} {s' : σ} (h : runWith step init (pre ++ c :: post) = .ok s') (hc : pc c) :
    ∀ e ∈ post, ¬ pb e := by
  obtain ⟨s1, s2, h1, h3, h4⟩ := runs.mid h
  have hi2 : I s2 := hI s1 c s2 (runs.inv I hI h1 h0) h3
  have hf2 := hclose s1 c s2 hc h3
  clear h h3 h1
  induction post generalizing s2 with
  | nil => simp
  | cons x xs ih =>
    obtain ⟨s3, h5, h6⟩ := runs.cons.mp h4
    intro e he
    rcases List.mem_cons.mp he with rfl | he
    · intro hb; have := hreq s2 e s3 hi2 hb h5; simp [hf2] at this
    · exact ih s3 h6 (hI s2 x s3 hi2 h5) (hkeep s2 x s3 h5 hf2) e he

/-- A latch: the flag `f` is set by the `pa` events and never reset. Most channels of the components are closed under
    such a flag (`closeOnce`, or a field tested before the close). -/
def Latch (step : σ → ε → Except String σ) (f : σ → Bool) (pa : ε → Prop) : Prop :=
  ∀ s e s', step s e = .ok s' → (f s' = true ↔ f s = true ∨ pa e)

theorem Latch.precedes {f : σ → Bool} {pa pb : ε → Prop} (hl : Latch step f pa) {init : σ} (hinit : f init = false)
    (hreq : ∀ s e s', pb e → step s e = .ok s' → f s = true)
    {evs : List ε} {s' : σ} (h : runWith step init evs = .ok s') : Precedes pa (fun _ => False) pb evs :=
  needs f pa _ pb init hinit (fun s e s' hs hf => ((hl s e s' hs).mp hf).imp_left fun h => ⟨h, id⟩) hreq h

theorem Latch.none_after {f : σ → Bool} {pa pb : ε → Prop} (hl : Latch step f pa)
    (hreq : ∀ s e s', pb e → step s e = .ok s' → f s = false)
    {init : σ} {pre post : List ε} {c : ε} {s' : σ} (h : runWith step init (pre ++ c :: post) = .ok s') (hc : pa c) :
    ∀ e ∈ post, ¬ pb e :=
  none_after_inv (fun _ => True) f pa pb (fun _ _ _ _ _ => trivial)
    (fun s e s' hs hf => (hl s e s' hs).mpr (.inl hf)) (fun s e s' he hs => (hl s e s' hs).mpr (.inr he))
    (fun s e s' _ => hreq s e s') trivial h hc

theorem Latch.countP_le_one {f : σ → Bool} {p : ε → Prop} [DecidablePred p] (hl : Latch step f p)
    (hreq : ∀ s e s', p e → step s e = .ok s' → f s = false)
    {evs : List ε} : ∀ {s s' : σ}, runWith step s evs = .ok s' → evs.countP (fun e => decide (p e)) ≤ 1 := by
  suffices ∀ {s s' : σ}, runWith step s evs = .ok s' → evs.countP (fun e => decide (p e)) ≤ 1 ∧
      (f s = true → evs.countP (fun e => decide (p e)) = 0) from fun {_ _} h => (this h).1
  induction evs with
  | nil => intro s s' _; simp
  | cons e es ih =>
    intro s s' h
    obtain ⟨s1, h1, h2⟩ := runs.cons.mp h
    obtain ⟨ih1, ih2⟩ := ih h2
    have hs := hl s e s1 h1
    by_cases hp : p e
    · have hf0 := hreq s e s1 hp h1
      have := ih2 (hs.mpr (.inr hp))
      simp [hp, hf0, this]
    · simp only [List.countP_cons, hp, decide_false, Bool.false_eq_true, ↓reduceIte, Nat.add_zero]
      exact ⟨ih1, fun hf => ih2 (hs.mpr (.inl hf))⟩

theorem Latch.count_le_one [DecidableEq ε] {f : σ → Bool} {a : ε} (hl : Latch step f (· = a))
    (hreq : ∀ s s', step s a = .ok s' → f s = false)
    {evs : List ε} {s s' : σ} (h : runWith step s evs = .ok s') : evs.count a ≤ 1 := by
  have := hl.countP_le_one (fun s e s' he hs => hreq s s' (he ▸ hs)) h
  rwa [List.count, List.countP_congr (q := fun e => decide (e = a)) (by simp)]

theorem enabled {internal : ε → Bool} (e : ε) (hi : internal e = true) {s : σ} (h : ∃ s', step s e = .ok s') :
    ∃ e s', internal e = true ∧ step s e = .ok s' :=
  h.elim fun s' hs => ⟨e, s', hi, hs⟩

end Generic

end Props.C12life
