import SaramaVerif.Model.CodecFmt
/-
  Skeletons of sarama's `encode` / `decode` methods, as tools/skel reads them off the Go AST
  (Gen/C09Skel.lean is regenerated from /repo on every run), and their interpretation.

  `Skel` keeps the control structure of the source: version conditions as written (`VCond`), value-dependent
  alternatives of the encoder (`alt`), count statements as written (`CountSel`: which put/get carries the
  count, where the null form `putInt32(-1)` / `putUVarint(0)` is written), loops attached to their count,
  push/pop fields, nested calls inlined (a nested call with a literal version is `atVer`).

  Interpretation is per protocol version: `normAt ver s` resolves every version condition and flattens the
  skeleton to the sequence of wire fields (`NF`) that version reads / writes.  On normal forms:
    `NF.mirror e d`  the decode side reads, field by field, what the encode side writes (a decoder may accept
                     more: a null array the encoder never writes, the nullable compact int32 array getter);
    `NF.toFmt`       the schema (`Fmt` of Model/CodecFmt.lean) of that version.
  `mirror` / `schemaTie` check all versions from 0 up to one above every constant a condition mentions
  (beyond which nothing changes any more: `Props/C09skel.lean`, `normAt_stable`).
-/
namespace Model.Codec

/-- a condition on the protocol version, as the source spells it -/
inductive VCond
  | tt | ff
  | ge (n : Nat) | gt (n : Nat) | le (n : Nat) | lt (n : Nat) | eq (n : Nat) | ne (n : Nat)
  | not (c : VCond) | and (a b : VCond) | or (a b : VCond)
  deriving Repr

def VCond.eval : VCond → Nat → Bool
  | .tt, _ => true
  | .ff, _ => false
  | .ge n, v => decide (n ≤ v)
  | .gt n, v => decide (n < v)
  | .le n, v => decide (v ≤ n)
  | .lt n, v => decide (v < n)
  | .eq n, v => decide (v = n)
  | .ne n, v => decide (v ≠ n)
  | .not c, v => !(c.eval v)
  | .and a b, v => a.eval v && b.eval v
  | .or a b, v => a.eval v || b.eval v

/-- the largest constant a condition mentions -/
def VCond.maxC : VCond → Nat
  | .tt | .ff => 0
  | .ge n | .gt n | .le n | .lt n | .eq n | .ne n => n
  | .not c => c.maxC
  | .and a b | .or a b => max a.maxC b.maxC

/-- which call carries an element count -/
inductive CKind
  | i32          -- putArrayLength / getArrayLength
  | i32raw       -- getInt32 used as a count
  | compact      -- putCompactArrayLength / getCompactArrayLength
  | uvarintRaw   -- getUVarint − 1 used as a count
  | varint       -- putVarint(len) / getVarint (record headers)
  deriving DecidableEq, Repr

/-- what is on the wire -/
inductive WKind | i32 | compact | varint
  deriving DecidableEq, Repr

def CKind.wire : CKind → WKind
  | .i32 | .i32raw => .i32
  | .compact | .uvarintRaw => .compact
  | .varint => .varint

/-- a count statement: a count call, the null literal (`putInt32(-1)`, `putUVarint(0)`), a choice by version, a
    choice by the value (`dsel`, encode side) -/
inductive CountSel
  | cnt (k : CKind)
  | nul (k : CKind)
  | sel (c : VCond) (a b : CountSel)
  | dsel (a b : CountSel)
  deriving Repr

/-- at a version: the wire kind and whether the null form may be written -/
def CountSel.resolve (ver : Nat) : CountSel → Option (WKind × Bool)
  | .cnt k => some (k.wire, false)
  | .nul k => some (k.wire, true)
  | .sel c a b => if c.eval ver then a.resolve ver else b.resolve ver
  | .dsel a b =>
    match a.resolve ver, b.resolve ver with
    | some (w1, n1), some (w2, n2) => if w1 = w2 then some (w1, n1 || n2) else none
    | _, _ => none

def CountSel.maxC : CountSel → Nat
  | .cnt _ | .nul _ => 0
  | .sel c a b => max c.maxC (max a.maxC b.maxC)
  | .dsel a b => max a.maxC b.maxC

inductive Skel
  | skip
  | prim (p : Prim)                     -- pe.putX(field) / field = pd.getX()
  | lit (p : Prim)                      -- pe.putX(constant)
  | seq (a b : Skel)
  | ifv (c : VCond) (t e : Skel)        -- if <version condition> { t } else { e }
  | alt (a b : Skel)                    -- if <condition on the value> { a } else { b }   (encode side)
  | array (cs : CountSel) (acceptNull : Bool) (elem : Skel)   -- count statement + loop over the elements;
                                        -- acceptNull (decode side): no `if n < 0 { return err }` after the count
  | atVer (n : Nat) (s : Skel)          -- nested call with the literal version n
  | len32 (s : Skel)                    -- push(&lengthField{}) … pop()
  | varlen (s : Skel)                   -- push(&varintLengthField) … pop()
  | crc (p : Poly) (s : Skel)           -- push(newCRC32Field(p)) … pop()
  | unsupported (reason : String)
  deriving Repr

def Skel.seqL : List Skel → Skel
  | [] => .skip
  | [s] => s
  | s :: ss => .seq s (Skel.seqL ss)

def Skel.maxC : Skel → Nat
  | .skip | .prim _ | .lit _ | .unsupported _ => 0
  | .seq a b | .alt a b => max a.maxC b.maxC
  | .ifv c t e => max c.maxC (max t.maxC e.maxC)
  | .array cs _ e => max cs.maxC e.maxC
  | .atVer _ _ => 0
  | .len32 s | .varlen s | .crc _ s => s.maxC

/-- normal form of one version: the wire fields in order -/
inductive NF
  | nil
  | prim (p : Prim) (rest : NF)
  | arr (w : WKind) (null : Bool) (elem rest : NF)
  | len32 (body rest : NF)
  | varlen (body rest : NF)
  | crc (p : Poly) (body rest : NF)
  | bad
  deriving DecidableEq, Repr

/-- structural equality (evaluates faster in the kernel than the derived `DecidableEq`) -/
def NF.beq : NF → NF → Bool
  | .nil, .nil => true
  | .bad, .bad => true
  | .prim p r, .prim q s => decide (p = q) && NF.beq r s
  | .arr w n e r, .arr w' n' e' r' => decide (w = w') && (n == n') && NF.beq e e' && NF.beq r r'
  | .len32 b r, .len32 b' r' => NF.beq b b' && NF.beq r r'
  | .varlen b r, .varlen b' r' => NF.beq b b' && NF.beq r r'
  | .crc p b r, .crc q b' r' => decide (p = q) && NF.beq b b' && NF.beq r r'
  | _, _ => false

/-- `normAt ver s k`: the fields of `s` at version `ver`, followed by `k` -/
def normAt : Nat → Skel → NF → NF
  | _, .skip, k => k
  | _, .prim p, k => .prim p k
  | _, .lit p, k => .prim p k
  | ver, .seq a b, k => normAt ver a (normAt ver b k)
  | ver, .ifv c t e, k => if c.eval ver then normAt ver t k else normAt ver e k
  | ver, .alt a b, k => if (normAt ver a .nil).beq (normAt ver b .nil) then normAt ver a k else .bad
  | ver, .array cs acc e, k =>
    match cs.resolve ver with
    | some (w, n) => .arr w (n || acc) (normAt ver e .nil) k
    | none => .bad
  | _, .atVer n s, k => normAt n s k
  | ver, .len32 s, k => .len32 (normAt ver s .nil) k
  | ver, .varlen s, k => .varlen (normAt ver s .nil) k
  | ver, .crc p s, k => .crc p (normAt ver s .nil) k
  | _, .unsupported _, _ => .bad

/-- a getter that reads what the putter writes: the same pair, or `getCompactInt32Array` (which returns nil for
    the null array, i.e. is the nullable getter) against `putCompactInt32Array` -/
def primOK (p q : Prim) : Bool := decide (p = q) || (decide (p = .ci32arr) && decide (q = .nci32arr))

def NF.isPrim (q : Prim) : NF → Bool
  | .prim p .nil => decide (p = q)
  | _ => false

/-- `putCompactInt32Array` on the encode side, an explicit loop `getCompactArrayLength; getInt32 …` on the decode
    side (the other array putters are NOT interchangeable with an explicit loop: `getArrayLength` rejects counts
    above 2·MaxUint16 that `getInt32Array` / `getStringArray` accept) -/
def loopOK (p : Prim) (w : WKind) (e : NF) : Bool := decide (p = .ci32arr) && decide (w = .compact) && e.isPrim .i32

/-- field by field: same wire kinds; where the encoder may write a null array the decoder accepts it -/
def NF.mirror : NF → NF → Bool
  | .nil, .nil => true
  | .prim p r, .prim q s => primOK p q && NF.mirror r s
  | .prim p r, .arr w _ e s => loopOK p w e && NF.mirror r s
  | .arr w n e r, .arr w' n' e' r' => decide (w = w') && (!n || n') && NF.mirror e e' && NF.mirror r r'
  | .len32 b r, .len32 b' r' => NF.mirror b b' && NF.mirror r r'
  | .varlen b r, .varlen b' r' => NF.mirror b b' && NF.mirror r r'
  | .crc p b r, .crc q b' r' => decide (p = q) && NF.mirror b b' && NF.mirror r r'
  | _, _ => false

def countOf : WKind → Bool → Count
  | .i32, false => .i32
  | .i32, true => .i32null
  | .compact, _ => .compact     -- the schema language has no null form for compact counts
  | .varint, _ => .varint

def NF.isNil : NF → Bool
  | .nil => true
  | _ => false

/-- the field `h` followed by the remaining fields (none: `last`; else their schema is `fr`) -/
def consFmt (h : Option Fmt) (last : Bool) (fr : Option Fmt) : Option Fmt :=
  match h, last, fr with
  | some h, true, _ => some h
  | some h, false, some f => some (.seq h f)
  | _, _, _ => none

/-- the schema of a normal form: right-nested `seq`, like `seqL` of Model/CodecSchemas.lean -/
def NF.toFmt : NF → Option Fmt
  | .nil => some .unit
  | .bad => none
  | .prim p r => consFmt (some (.prim p)) r.isNil r.toFmt
  | .arr w n e r => consFmt (e.toFmt.map (Fmt.arr (countOf w n))) r.isNil r.toFmt
  | .len32 b r => consFmt (b.toFmt.map Fmt.len32) r.isNil r.toFmt
  | .varlen b r => consFmt (b.toFmt.map Fmt.varlen) r.isNil r.toFmt
  | .crc p b r => consFmt (b.toFmt.map (Fmt.crc p)) r.isNil r.toFmt

def Fmt.isPrim (q : Prim) : Fmt → Bool
  | .prim p => decide (p = q)
  | _ => false

/-- `g` carries everything `f` carries, with the same bytes: the same schema up to a decoder that also accepts
    the null form of an int32-counted array or of a compact int32 array (`sub_sound` in Props/C09skel.lean) -/
def Fmt.sub : Fmt → Fmt → Bool
  | .prim p, .prim q => primOK p q
  | .prim p, .arr c e => decide (p = .ci32arr) && decide (c = .compact) && e.isPrim .i32
  | .unit, .unit => true
  | .seq a b, .seq c d => Fmt.sub a c && Fmt.sub b d
  | .ite lo hi a b, .ite lo' hi' c d => decide (lo = lo') && decide (hi = hi') && Fmt.sub a c && Fmt.sub b d
  | .arr c e, .arr c' e' => (decide (c = c') || (decide (c = .i32) && decide (c' = .i32null))) && Fmt.sub e e'
  | .len32 f, .len32 g => Fmt.sub f g
  | .varlen f, .varlen g => Fmt.sub f g
  | .crc p f, .crc q g => decide (p = q) && Fmt.sub f g
  | _, _ => false

/-- the schema of a skeleton at a version -/
def Skel.fmtAt (s : Skel) (ver : Nat) : Option Fmt := (normAt ver s .nil).toFmt

def allUpTo (p : Nat → Bool) : Nat → Bool
  | 0 => p 0
  | n + 1 => p (n + 1) && allUpTo p n

/-- one above every constant of both skeletons: from there on nothing changes -/
def vbound (e d : Skel) : Nat := max e.maxC d.maxC + 1

def mirrorAt (ver : Nat) (e d : Skel) : Bool := NF.mirror (normAt ver e .nil) (normAt ver d .nil)

/-- the decode skeleton reads what the encode skeleton writes, at every version -/
def mirror (e d : Skel) : Bool := allUpTo (fun ver => mirrorAt ver e d) (vbound e d)

/-- the same for the versions 0..n only (types whose two sides part beyond the versions they implement) -/
def mirrorUpTo (n : Nat) (e d : Skel) : Bool := allUpTo (fun ver => mirrorAt ver e d) n

/-! ### tie to the hand-written schemas -/

def countSel : Count → CountSel
  | .i32 => .cnt .i32
  | .i32null => .dsel (.cnt .i32) (.nul .i32)
  | .compact => .cnt .compact
  | .varint => .cnt .varint

/-- a schema as a skeleton (`hi ≥ 1000000` is the open end of `Fmt.gate`) -/
def ofFmt : Fmt → Skel
  | .prim p => .prim p
  | .unit => .skip
  | .seq a b => .seq (ofFmt a) (ofFmt b)
  | .ite lo hi a b => .ifv (if Nat.ble 1000000 hi then .ge lo else .and (.ge lo) (.le hi)) (ofFmt a) (ofFmt b)
  | .arr c e => .array (countSel c) false (ofFmt e)
  | .len32 f => .len32 (ofFmt f)
  | .varlen f => .varlen (ofFmt f)
  | .crc p f => .crc p (ofFmt f)

/-- `putStringArray` writes what an int32 count and `putString` per element write: one spelling for comparison;
    compact counts: the null form `putUVarint(0)` has no counterpart in `Fmt` -/
def NF.expand : NF → NF
  | .nil => .nil
  | .bad => .bad
  | .prim .strarr r => .arr .i32 false (.prim .str .nil) r.expand
  | .prim p r => .prim p r.expand
  | .arr .compact _ e r => .arr .compact false e.expand r.expand   -- (the schema language has no null form here)
  | .arr w n e r => .arr w n e.expand r.expand
  | .len32 b r => .len32 b.expand r.expand
  | .varlen b r => .varlen b.expand r.expand
  | .crc p b r => .crc p b.expand r.expand

def NF.ok : NF → Bool
  | .nil => true
  | .bad => false
  | .prim _ r => r.ok
  | .arr _ _ e r => e.ok && r.ok
  | .len32 b r | .varlen b r | .crc _ b r => b.ok && r.ok

def tieAt (ver : Nat) (e s : Skel) : Bool :=
  (normAt ver e .nil).ok && (normAt ver e .nil).expand.beq (normAt ver s .nil).expand

/-- at every version the skeleton has the fields of the hand-written schema: same primitives, same count kinds and
    null forms, same nesting of arrays and push/pop fields, in the same order (units and the grouping of
    sequences do not matter) -/
def schemaTie (e : Skel) : Option Fmt → Bool
  | none => false
  | some f => allUpTo (fun ver => tieAt ver e (ofFmt f)) (vbound e (ofFmt f))

def schemaTieUpTo (n : Nat) (e : Skel) : Option Fmt → Bool
  | none => false
  | some f => allUpTo (fun ver => tieAt ver e (ofFmt f)) n

end Model.Codec
