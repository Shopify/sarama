import SaramaVerif.Model.CodecMachine
import SaramaVerif.Model.CodecRecords
/-
  Hand-written schemas (`Fmt`) of the real protocol bodies by name (`bodySchema`, 77 names), all versions each, and
  the parser that reads the call sequence recorded from the real `encode` back into a value tree of the schema.

  The harness sends `schema <Body> <version> <calls…>`; the driver parses the calls against the schema (a call
  sequence that does not fit – e.g. a version gate that differs from the code – is a mismatch), and answers with
  `size`, `enc` and the verdict of `dec (enc v) = v` from the schema interpreters the theorems are about.
  So for these bodies the real bytes are compared with the *denotational* model, for every version.
-/
namespace Model.Codec

def seqL : List Fmt → Fmt
  | [] => .unit
  | [f] => f
  | f :: fs => .seq f (seqL fs)

/-- same put/get pair (raw lengths come from the value) -/
def Prim.sameKind : Prim → Prim → Bool
  | .raw _, .raw _ => true
  | p, q => p == q

def parseCount : Count → List Tok → Option (Option Nat × List Tok)
  | .i32, .arrLen n :: ts => if n < 0 then none else some (some n.toNat, ts)
  | .i32null, .arrLen n :: ts => if n = -1 then some (none, ts) else if n < 0 then none else some (some n.toNat, ts)
  | .i32null, .prim .i32 (.int n) :: ts => if n = -1 then some (none, ts) else none   -- `putInt32(-1)`
  | .compact, .cArrLen n :: ts => if n < 0 then none else some (some n.toNat, ts)
  | .varint, .prim .varint (.int n) :: ts => if n < 0 then none else some (some n.toNat, ts)
  | _, _ => none

def parseMany (p : List Tok → Option (Val × List Tok)) : Nat → List Tok → Option (List Val × List Tok)
  | 0, ts => some ([], ts)
  | n + 1, ts =>
    match p ts with
    | none => none
    | some (v, r) =>
      match parseMany p n r with
      | none => none
      | some (vs, r') => some (v :: vs, r')

/-- inverse of `toks`: read a recorded call sequence as a value of the schema -/
def parseToks : Fmt → Nat → List Tok → Option (Val × List Tok)
  | .prim p, _, ts =>
    (match ts with
     | .prim q v :: r => if p.sameKind q then some (v, r) else none
     | _ => none)
  | .unit, _, ts => some (.unit, ts)
  | .seq a b, ver, ts =>
    (match parseToks a ver ts with
     | none => none
     | some (x, r) =>
       match parseToks b ver r with
       | none => none
       | some (y, r') => some (.pair x y, r'))
  | .ite lo hi a b, ver, ts => if lo ≤ ver ∧ ver ≤ hi then parseToks a ver ts else parseToks b ver ts
  | .arr c e, ver, ts =>
    (match parseCount c ts with
     | none =>
       -- one putStringArray call writes what an int32 count followed by putString calls writes
       (match c, e, ts with
        | .i32, .prim .str, .prim .strarr (.list vs) :: r => some (.list vs, r)
        | .i32null, .prim .str, .prim .strarr (.list vs) :: r => some (.list vs, r)
        | _, _, _ => none)
     | some (none, r) => some (.null, r)
     | some (some n, r) =>
       match parseMany (parseToks e ver) n r with
       | none => none
       | some (vs, r') => some (.list vs, r'))
  | .len32 f, ver, ts =>
    (match ts with
     | .push .len32 _ :: r =>
       (match parseToks f ver r with
        | some (v, .pop :: r') => some (v, r')
        | _ => none)
     | _ => none)
  | .varlen f, ver, ts =>
    (match ts with
     | .push .varlen _ :: r =>
       (match parseToks f ver r with
        | some (v, .pop :: r') => some (v, r')
        | _ => none)
     | _ => none)
  | .crc p f, ver, ts =>
    (match ts with
     | .push (.crc q) _ :: r =>
       if p = q then
         (match parseToks f ver r with
          | some (v, .pop :: r') => some (v, r')
          | _ => none)
       else none
     | _ => none)

private def p (x : Prim) : Fmt := .prim x
private def flex (a b : Fmt) : Fmt := .ite 6 1000000 a b

/-- schemas of real bodies, by name -/
def bodySchema : String → Option Fmt
  | "HeartbeatRequest" => some (seqL [p .str, p .i32, p .str])
  | "HeartbeatResponse" => some (p .i16)
  | "MetadataRequest" =>
    some (seqL [.ite 0 0 (.arr .i32 (p .str)) (.arr .i32null (p .str)), Fmt.gate 4 (p .bool)])
  | "FindCoordinatorRequest" => some (seqL [p .str, Fmt.gate 1 (p .i8)])
  | "FindCoordinatorResponse" =>
    some (seqL [Fmt.gate 1 (p .i32), p .i16, Fmt.gate 1 (p .nstr), p .i32, p .str, p .i32])
  | "InitProducerIDRequest" => some (seqL [p .nstr, p .i32])
  | "InitProducerIDResponse" => some (seqL [p .i32, p .i16, p .i64, p .i16])
  | "OffsetCommitResponse" =>
    some (seqL [Fmt.gate 3 (p .i32), .arr .i32 (seqL [p .str, .arr .i32 (seqL [p .i32, p .i16])])])
  | "ApiVersionsResponse" => some (seqL [p .i16, .arr .i32 (seqL [p .i16, p .i16, p .i16])])
  | "ProduceResponse" =>
    some (seqL [.arr .i32 (seqL [p .str, .arr .i32 (seqL [p .i32, p .i16, p .i64, Fmt.gate 2 (p .i64), Fmt.gate 5 (p .i64)])]),
                Fmt.gate 1 (p .i32)])
  | "DeleteTopicsRequest" => some (seqL [p .strarr, p .i32])
  | "DeleteTopicsResponse" => some (seqL [Fmt.gate 1 (p .i32), .arr .i32 (seqL [p .str, p .i16])])
  | "EndTxnRequest" => some (seqL [p .str, p .i64, p .i16, p .bool])
  | "EndTxnResponse" => some (seqL [p .i32, p .i16])
  | "TxnOffsetCommitResponse" =>
    some (seqL [p .i32, .arr .i32 (seqL [p .str, .arr .i32 (seqL [p .i32, p .i16])])])
  | "CreatePartitionsResponse" => some (seqL [p .i32, .arr .i32 (seqL [p .str, p .i16, p .nstr])])
  | "ListGroupsResponse" => some (seqL [p .i16, .arr .i32 (seqL [p .str, p .str])])
  | "LeaveGroupRequest" => some (seqL [p .str, p .str])
  | "LeaveGroupResponse" => some (p .i16)
  | "SyncGroupResponse" => some (seqL [p .i16, p .bytes])
  | "OffsetRequest" =>
    some (seqL [p .i32, Fmt.gate 2 (p .bool),
                .arr .i32 (seqL [p .str, .arr .i32 (seqL [p .i32, p .i64, .ite 0 0 (p .i32) .unit])])])
  | "AddPartitionsToTxnRequest" => some (seqL [p .str, p .i64, p .i16, .arr .i32 (seqL [p .str, p .i32arr])])
  | "AddOffsetsToTxnRequest" => some (seqL [p .str, p .i64, p .i16, p .str])
  | "AddOffsetsToTxnResponse" => some (seqL [p .i32, p .i16])
  | "DescribeGroupsRequest" => some (p .strarr)
  | "SaslHandshakeRequest" => some (p .str)
  | "SaslHandshakeResponse" => some (seqL [p .i16, p .strarr])
  | "SaslAuthenticateRequest" => some (p .bytes)
  | "SaslAuthenticateResponse" => some (seqL [p .i16, p .nstr, p .bytes])
  | "DeleteGroupsRequest" => some (p .strarr)
  | "DeleteGroupsResponse" => some (seqL [p .i32, .arr .i32 (seqL [p .str, p .i16])])
  | "CreateTopicsResponse" =>
    some (seqL [Fmt.gate 2 (p .i32), .arr .i32 (seqL [p .str, p .i16, Fmt.gate 1 (p .nstr)])])
  | "JoinGroupResponse" =>
    some (seqL [Fmt.gate 2 (p .i32), p .i16, p .i32, p .str, p .str, p .str, .arr .i32 (seqL [p .str, p .bytes])])
  | "OffsetFetchResponse" =>
    some (seqL [Fmt.gate 3 (p .i32),
      flex (.arr .compact (seqL [p .cstr, .arr .compact (seqL [p .i32, p .i64, p .i32, p .cstr, p .i16, p .tagged]), p .tagged]))
           (.arr .i32 (seqL [p .str, .arr .i32 (seqL [p .i32, p .i64, Fmt.gate 5 (p .i32), p .str, p .i16])])),
      Fmt.gate 2 (p .i16), flex (p .tagged) .unit])
  | "AlterPartitionReassignmentsRequest" =>
    some (seqL [p .i32, .arr .compact (seqL [p .cstr, .arr .compact (seqL [p .i32, p .nci32arr, p .tagged]), p .tagged]),
                p .tagged])
  | "ListPartitionReassignmentsRequest" =>
    some (seqL [p .i32, .arr .compact (seqL [p .cstr, p .ci32arr, p .tagged]), p .tagged])
  | "MetadataResponse" =>
    some (seqL [Fmt.gate 3 (p .i32),
      .arr .i32 (seqL [p .i32, p .str, p .i32, Fmt.gate 1 (p .nstr)]),
      Fmt.gate 2 (p .nstr), Fmt.gate 1 (p .i32),
      .arr .i32 (seqL [p .i16, p .str, Fmt.gate 1 (p .bool),
        .arr .i32 (seqL [p .i16, p .i32, p .i32, p .i32arr, p .i32arr, Fmt.gate 5 (p .i32arr)])])])
  | "OffsetCommitRequest" =>
    some (seqL [p .str, Fmt.gate 1 (seqL [p .i32, p .str]), Fmt.gate 2 (p .i64),
      .arr .i32 (seqL [p .str, .arr .i32 (seqL [p .i32, p .i64, .ite 1 1 (p .i64) .unit, p .str])])])
  | "FetchRequest" =>
    some (seqL [p .i32, p .i32, p .i32, Fmt.gate 3 (p .i32), Fmt.gate 4 (p .i8), Fmt.gate 7 (seqL [p .i32, p .i32]),
      .arr .i32 (seqL [p .str, .arr .i32 (seqL [p .i32, Fmt.gate 9 (p .i32), p .i64, Fmt.gate 5 (p .i64), p .i32])]),
      Fmt.gate 7 (.arr .i32 (seqL [p .str, .arr .i32 (p .i32)])), Fmt.gate 11 (p .str)])
  | "OffsetResponse" =>
    some (seqL [Fmt.gate 2 (p .i32),
      .arr .i32 (seqL [p .str, .arr .i32 (seqL [p .i32, p .i16, .ite 0 0 (p .i64arr) (seqL [p .i64, p .i64])])])])
  | "OffsetFetchRequest" =>
    some (seqL [flex (p .cstr) (p .str),
      flex (.arr .compact (seqL [p .cstr, p .ci32arr, p .tagged]))
           (.ite 2 5 (.arr .i32null (seqL [p .str, p .i32arr])) (.arr .i32 (seqL [p .str, p .i32arr]))),
      Fmt.gate 7 (p .bool), flex (p .tagged) .unit])
  | "ConsumerMetadataRequest" => some (p .str)
  | "ConsumerMetadataResponse" => some (seqL [p .i16, p .i32, p .str, p .i32])
  | "JoinGroupRequest" =>
    some (seqL [p .str, p .i32, Fmt.gate 1 (p .i32), p .str, p .str, .arr .i32 (seqL [p .str, p .bytes])])
  | "SyncGroupRequest" => some (seqL [p .str, p .i32, p .str, .arr .i32 (seqL [p .str, p .bytes])])
  | "DescribeGroupsResponse" =>
    some (.arr .i32 (seqL [p .i16, p .str, p .str, p .str, p .str,
      .arr .i32 (seqL [p .str, p .str, p .str, p .bytes, p .bytes])]))
  | "ListGroupsRequest" => some .unit
  | "ApiVersionsRequest" => some .unit
  | "CreateTopicsRequest" =>
    some (seqL [.arr .i32 (seqL [p .str, p .i32, p .i16, .arr .i32 (seqL [p .i32, p .i32arr]),
                                 .arr .i32 (seqL [p .str, p .nstr])]),
                p .i32, Fmt.gate 1 (p .bool)])
  | "DeleteRecordsRequest" => some (seqL [.arr .i32 (seqL [p .str, .arr .i32 (seqL [p .i32, p .i64])]), p .i32])
  | "DeleteRecordsResponse" =>
    some (seqL [p .i32, .arr .i32 (seqL [p .str, .arr .i32 (seqL [p .i32, p .i64, p .i16])])])
  | "AddPartitionsToTxnResponse" =>
    some (seqL [p .i32, .arr .i32 (seqL [p .str, .arr .i32 (seqL [p .i32, p .i16])])])
  | "TxnOffsetCommitRequest" =>
    some (seqL [p .str, p .str, p .i64, p .i16, .arr .i32 (seqL [p .str, .arr .i32 (seqL [p .i32, p .i64, p .nstr])])])
  | "DescribeAclsRequest" =>
    some (seqL [p .i8, p .nstr, Fmt.gate 1 (p .i8), p .nstr, p .nstr, p .i8, p .i8])
  | "DescribeAclsResponse" =>
    some (seqL [p .i32, p .i16, p .nstr,
      .arr .i32 (seqL [p .i8, p .str, Fmt.gate 1 (p .i8), .arr .i32 (seqL [p .str, p .str, p .i8, p .i8])])])
  | "CreateAclsRequest" =>
    some (.arr .i32 (seqL [p .i8, p .str, Fmt.gate 1 (p .i8), p .str, p .str, p .i8, p .i8]))
  | "CreateAclsResponse" => some (seqL [p .i32, .arr .i32 (seqL [p .i16, p .nstr])])
  | "DeleteAclsRequest" =>
    some (.arr .i32 (seqL [p .i8, p .nstr, Fmt.gate 1 (p .i8), p .nstr, p .nstr, p .i8, p .i8]))
  | "DeleteAclsResponse" =>
    some (seqL [p .i32, .arr .i32 (seqL [p .i16, p .nstr,
      .arr .i32 (seqL [p .i16, p .nstr, p .i8, p .str, Fmt.gate 1 (p .i8), p .str, p .str, p .i8, p .i8])])])
  | "AlterConfigsRequest" =>
    some (seqL [.arr .i32 (seqL [p .i8, p .str, .arr .i32 (seqL [p .str, p .nstr])]), p .bool])
  | "AlterConfigsResponse" => some (seqL [p .i32, .arr .i32 (seqL [p .i16, p .str, p .i8, p .str])])
  | "IncrementalAlterConfigsRequest" =>
    some (seqL [.arr .i32 (seqL [p .i8, p .str, .arr .i32 (seqL [p .str, p .i8, p .nstr])]), p .bool])
  | "IncrementalAlterConfigsResponse" => some (seqL [p .i32, .arr .i32 (seqL [p .i16, p .str, p .i8, p .str])])
  | "DescribeConfigsRequest" =>
    some (seqL [.arr .i32 (seqL [p .i8, p .str, .arr .i32null (p .str)]), Fmt.gate 1 (p .bool)])
  | "DescribeConfigsResponse" =>
    some (seqL [p .i32, .arr .i32 (seqL [p .i16, p .str, p .i8, p .str,
      .arr .i32 (seqL [p .str, p .str, p .bool, .ite 0 0 (p .bool) (p .i8), p .bool,
                       Fmt.gate 1 (.arr .i32 (seqL [p .str, p .str, p .i8]))])])])
  | "DescribeLogDirsRequest" => some (.arr .i32null (seqL [p .str, p .i32arr]))
  | "DescribeLogDirsResponse" =>
    some (seqL [p .i32, .arr .i32 (seqL [p .i16, p .str,
      .arr .i32 (seqL [p .str, .arr .i32 (seqL [p .i32, p .i64, p .i64, p .bool])])])])
  | "AlterPartitionReassignmentsResponse" =>
    some (seqL [p .i32, p .i16, p .ncstr,
      .arr .compact (seqL [p .cstr, .arr .compact (seqL [p .i32, p .i16, p .ncstr, p .tagged]), p .tagged]), p .tagged])
  | "ListPartitionReassignmentsResponse" =>
    some (seqL [p .i32, p .i16, p .ncstr,
      .arr .compact (seqL [p .cstr, .arr .compact (seqL [p .i32, p .ci32arr, p .ci32arr, p .ci32arr, p .tagged]), p .tagged]),
      p .tagged])
  | "DescribeUserScramCredentialsRequest" => some (seqL [.arr .compact (seqL [p .cstr, p .tagged]), p .tagged])
  | "DescribeUserScramCredentialsResponse" =>
    some (seqL [p .i32, p .i16, p .ncstr,
      .arr .compact (seqL [p .cstr, p .i16, p .ncstr, .arr .compact (seqL [p .i8, p .i32, p .tagged]), p .tagged]), p .tagged])
  | "AlterUserScramCredentialsRequest" =>
    some (seqL [.arr .compact (seqL [p .cstr, p .i8, p .tagged]),
                .arr .compact (seqL [p .cstr, p .i8, p .i32, p .cbytes, p .cbytes, p .tagged]), p .tagged])
  | "AlterUserScramCredentialsResponse" =>
    some (seqL [p .i32, .arr .compact (seqL [p .cstr, p .i16, p .ncstr, p .tagged]), p .tagged])
  | "ConsumerGroupMemberAssignment" => some (seqL [p .i16, .arr .i32 (seqL [p .str, p .i32arr]), p .bytes])
  | "CreatePartitionsRequest" =>
    some (seqL [.arr .i32 (seqL [p .str, p .i32, .arr .i32null (p .i32arr)]), p .i32, p .bool])
  | "ConsumerGroupMemberMetadata" => some (seqL [p .i16, p .strarr, p .bytes])
  | "Record" => some recordFmt
  | _ => none

end Model.Codec
