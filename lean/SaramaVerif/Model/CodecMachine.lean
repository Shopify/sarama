import SaramaVerif.Model.CodecFmt
/-
  Operational model of the three packet machines: `prepEncoder`, `realEncoder`, `realDecoder` as state
  machines over the sequence of calls an `encode`/`decode` method makes on its `packetEncoder` /
  `packetDecoder` argument (primitives, push, pop).  This is the level at which the harness observes the real
  protocol bodies (a recording packetEncoder/packetDecoder), so every body × version × value is compared here.

  `Fmt`/`Val` (CodecFmt.lean) denote the encoder's call sequences: `toks f ver v`; `machine_encode` and
  `machine_prep_fresh` (Props/C09.lean) link the two encoder machines to `enc` and `size`.  The decoder machine
  is run by the driver (Driver/C09.lean) against recorded call sequences; no theorem speaks of it.
-/
namespace Model.Codec

inductive PushKind
  | len32
  | crc (p : Poly)
  | varlen
  deriving DecidableEq, Repr

/-- one call on a packetEncoder -/
inductive Tok
  | prim (p : Prim) (v : Val)          -- putX(v)
  | arrLen (n : Int)                   -- putArrayLength(n)
  | cArrLen (n : Int)                  -- putCompactArrayLength(n)
  | push (k : PushKind) (stale : Int)  -- push(field); `stale` = the `length` a varintLengthField holds at that moment
  | pop

/-! ### prepEncoder -/

structure PrepFrame where
  kind : PushKind
  start : Int
  fieldLen : Int      -- `l.length` of a varintLengthField when it was pushed

structure PrepSt where
  length : Int := 0
  stack : List PrepFrame := []
  ok : Bool := true                  -- false after pop on an empty stack (a Go panic)

def reserveLength (k : PushKind) (fieldLen : Int) : Int :=
  match k with
  | .len32 => 4
  | .crc _ => 4
  | .varlen => (prepVarint fieldLen : Nat)

/-- `adjustLength` of a varint length field pushed at `start` holding `fieldLen`, popped at `cur`:
    (new `l.length`, what is added to `prepEncoder.length`) -/
def adjustLength (cur start fieldLen : Int) : Int × Int :=
  (cur - start - reserveLength .varlen fieldLen,
   reserveLength .varlen (cur - start - reserveLength .varlen fieldLen) - reserveLength .varlen fieldLen)

def prepStep (s : PrepSt) : Tok → PrepSt
  | .prim p v => { s with length := s.length + (sizeP p v : Nat) }
  | .arrLen _ => { s with length := s.length + 4 }
  | .cArrLen n => { s with length := s.length + (prepUVarint (n + 1).toNat : Nat) }
  | .push k stale =>
    { s with length := s.length + reserveLength k stale, stack := ⟨k, s.length, stale⟩ :: s.stack }
  | .pop =>
    match s.stack with
    | [] => { s with ok := false }
    | f :: st =>
      match f.kind with
      | .varlen => { s with stack := st, length := s.length + (adjustLength s.length f.start f.fieldLen).2 }
      | _ => { s with stack := st }

def runPrepFrom (s : PrepSt) (ts : List Tok) : PrepSt := ts.foldl prepStep s
def runPrep (ts : List Tok) : PrepSt := runPrepFrom {} ts

/-! ### realEncoder -/

structure RealFrame where
  kind : PushKind
  start : Nat
  fieldLen : Int

structure RealSt where
  buf : Bytes := []
  stack : List RealFrame := []
  ok : Bool := true

def zeros (n : Nat) : Bytes := List.replicate n 0

/-- overwrite `buf[start : start+len(field)]` -/
def patch (buf : Bytes) (start : Nat) (field : Bytes) : Bytes :=
  buf.take start ++ field ++ buf.drop (start + field.length)

/-- the real pass: a varint length field reserves room for, and at pop writes, the length it holds when it is
    pushed (`stale` of the push token: the value the prep pass stored in it) -/
def realStep (s : RealSt) : Tok → RealSt
  | .prim p v => { s with buf := s.buf ++ encP p v }
  | .arrLen n => { s with buf := s.buf ++ putArrayLength n }
  | .cArrLen n => { s with buf := s.buf ++ putUVarint (n + 1).toNat }
  | .push k fieldLen =>
    { s with buf := s.buf ++ zeros (reserveLength k fieldLen).toNat, stack := ⟨k, s.buf.length, fieldLen⟩ :: s.stack }
  | .pop =>
    match s.stack with
    | [] => { s with ok := false }
    | f :: st =>
      match f.kind with
      | .len32 => { s with stack := st, buf := patch s.buf f.start (putInt 4 ((s.buf.length : Int) - f.start - 4)) }
      | .crc p => { s with stack := st, buf := patch s.buf f.start (be 4 (crc32 p (s.buf.drop (f.start + 4)))) }
      | .varlen => { s with stack := st, buf := patch s.buf f.start (putVarint f.fieldLen) }

def runRealFrom (s : RealSt) (ts : List Tok) : RealSt := ts.foldl realStep s
def runReal (ts : List Tok) : RealSt := runRealFrom {} ts

/-- `encode(e)`: prep pass, buffer of that size, real pass -/
def runEncode (ts : List Tok) : Int × Bytes := ((runPrep ts).length, (runReal ts).buf)

/-! ### realDecoder -/

/-- one call on a packetDecoder -/
inductive DTok
  | prim (p : Prim)
  | arrLen
  | cArrLen
  | raw (n : Int)          -- getRawBytes(n) / getSubset(n)
  | remaining
  | peek8 (off : Int)
  | push (k : PushKind)
  | pop

inductive DOut
  | val (v : Val)
  | int (i : Int)
  | ok
  | err

structure DecFrame where
  kind : PushKind
  start : Nat          -- offset of the field
  dataStart : Nat      -- offset after the field as it was read
  fieldLen : Int

structure DecSt where
  raw : Bytes
  off : Nat := 0
  stack : List DecFrame := []
  outs : List DOut := []      -- reversed
  failed : Bool := false

def DecSt.rest (s : DecSt) : Bytes := s.raw.drop s.off

def DecSt.advance (s : DecSt) (rest' : Bytes) (o : DOut) : DecSt :=
  { s with off := s.raw.length - rest'.length, outs := o :: s.outs }

def DecSt.fail (s : DecSt) : DecSt := { s with outs := .err :: s.outs, failed := true }

def decStep (s : DecSt) (t : DTok) : DecSt :=
  if s.failed then s else
  match t with
  | .prim p =>
    (match decP p s.rest with
     | none => s.fail
     | some (v, r) => s.advance r (.val v))
  | .arrLen =>
    (match getArrayLength s.rest with
     | none => s.fail
     | some (n, r) => s.advance r (.int n))
  | .cArrLen =>
    (match getCompactArrayLength s.rest with
     | none => s.fail
     | some (n, r) => s.advance r (.int n))
  | .raw n =>
    (match getRaw n s.rest with
     | none => s.fail
     | some (b, r) => s.advance r (.val (.bytes b)))
  | .remaining => { s with outs := .int s.rest.length :: s.outs }
  | .peek8 o =>
    if o < 0 ∨ (s.rest.length : Int) < o + 1 then s.fail
    else { s with outs := .int (toS 1 (fromBE ((s.rest.drop o.toNat).take 1))) :: s.outs }
  | .push k =>
    (match k with
     | .len32 =>
       -- lengthField.decode
       (match getInt 4 s.rest with
        | none => s.fail
        | some (n, r) =>
          if n > r.length then s.fail
          else { (s.advance r .ok) with stack := ⟨k, s.off, s.off + 4, n⟩ :: s.stack })
     | .varlen =>
       (match getVarint s.rest with
        | none => s.fail
        | some (n, r) => { (s.advance r .ok) with stack := ⟨k, s.off, s.raw.length - r.length, n⟩ :: s.stack })
     | .crc _ =>
       if s.rest.length < 4 then s.fail
       else { s with off := s.off + 4, outs := .ok :: s.outs, stack := ⟨k, s.off, s.off + 4, 0⟩ :: s.stack })
  | .pop =>
    match s.stack with
    | [] => s.fail
    | f :: st =>
      match f.kind with
      | .len32 =>
        if ((s.off : Int) - f.start - 4) = f.fieldLen then { s with stack := st, outs := .ok :: s.outs }
        else { s.fail with stack := st }
      | .varlen =>
        -- varintLengthField.check: curOffset − startOffset − (size of the varint as read) = length
        if ((s.off : Int) - f.dataStart) = f.fieldLen then { s with stack := st, outs := .ok :: s.outs }
        else { s.fail with stack := st }
      | .crc p =>
        if crc32 p ((s.raw.drop (f.start + 4)).take (s.off - (f.start + 4))) = fromBE ((s.raw.drop f.start).take 4)
        then { s with stack := st, outs := .ok :: s.outs }
        else { s.fail with stack := st }

def runDecode (raw : Bytes) (ts : List DTok) : DecSt := ts.foldl decStep { raw := raw }

/-! ### schemas as call sequences -/

/-- the calls `encode` makes for a schema/value (the count of an `i32null` null array is `putInt32(-1)`,
    which writes what `putArrayLength(-1)` writes) -/
def countTok : Count → Option Nat → List Tok
  | .i32, some n => [.arrLen n]
  | .i32null, some n => [.arrLen n]
  | .i32null, none => [.arrLen (-1)]
  | .compact, some n => [.cArrLen n]
  | .varint, some n => [.prim .varint (.int n)]
  | _, none => []

/-- `fresh = true`: the varint length fields hold 0 when pushed (first prep pass over a new value);
    `fresh = false`: they hold the size of their body (every later pass, in particular the real pass) -/
def toks (fresh : Bool) : Fmt → Nat → Val → List Tok
  | .prim p, _, v => [.prim p v]
  | .unit, _, _ => []
  | .seq a b, ver, .pair x y => toks fresh a ver x ++ toks fresh b ver y
  | .seq _ _, _, _ => []
  | .ite lo hi a b, ver, v => if lo ≤ ver ∧ ver ≤ hi then toks fresh a ver v else toks fresh b ver v
  | .arr c e, ver, .list vs => countTok c (some vs.length) ++ (vs.map (toks fresh e ver)).flatten
  | .arr c _, _, .null => countTok c none
  | .arr _ _, _, _ => []
  | .len32 f, ver, v => [.push .len32 0] ++ toks fresh f ver v ++ [.pop]
  | .varlen f, ver, v => [.push .varlen (if fresh then 0 else (size f ver v : Nat))] ++ toks fresh f ver v ++ [.pop]
  | .crc p f, ver, v => [.push (.crc p) 0] ++ toks fresh f ver v ++ [.pop]

end Model.Codec
