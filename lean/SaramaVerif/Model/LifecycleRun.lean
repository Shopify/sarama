/-
  The shutdown handshakes of the consumer-side components (C12) are modelled as acceptors over the hook events `lc.*` of
  /repo (build tag verif; the events are emitted immediately before the action they announce, by the goroutine
  that performs it): per object a record of flags and counters and a `step` that refuses the events the hand-shake does
  not allow in that state.  This file holds what the acceptors share, running a `step` over a list of events; the
  acceptors themselves are in Model/LifecyclePC, LifecycleBC, LifecycleGrp, LifecycleOM and LifecycleConn.

  Every channel that is closed during shutdown has an explicit closed flag.  A send on a closed channel and a
  second close of a channel are NOT accepted (`.error`): that is the run-time panic of the real code.  The other
  guards are the hand-shake protocol (who may act when).  All acceptors are prefix-closed.
-/
namespace Model.Lifecycle

/-- run an acceptor over a list of events -/
def runWith {σ ε : Type} (step : σ → ε → Except String σ) : σ → List ε → Except String σ
  | s, [] => .ok s
  | s, e :: es =>
    match step s e with
    | .ok s' => runWith step s' es
    | .error m => .error m

/-- does the acceptor accept the whole sequence? -/
def accepts {σ ε : Type} (step : σ → ε → Except String σ) (s : σ) (evs : List ε) : Bool :=
  match runWith step s evs with
  | .ok _ => true
  | .error _ => false

end Model.Lifecycle
