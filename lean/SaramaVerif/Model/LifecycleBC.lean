import SaramaVerif.Model.LifecycleRun
/-
  Acceptors of the other two objects of consumer.go: the brokerConsumer (ref/unref, subscriptionManager,
  subscriptionConsumer, abort) and the consumer itself (children registry, Close).
-/
namespace Model.Lifecycle

/-! ## broker consumer (one worker per broker, reference-counted) -/
namespace BC

inductive Ev
  | new
  | ref (n : Nat)          -- refBrokerConsumer (n = refs before)
  | unref (n : Nat)        -- unrefBrokerConsumer (n = refs before)
  | inputClose             -- close(input) when the last reference was returned
  | inputSend              -- a partition consumer sends itself on input
  | subAdd                 -- updateSubscriptions adds a child
  | waitClose              -- subscriptionManager: close(wait)
  | flush (n : Nat)        -- subscriptionManager: left-over buffer sent on newSubscriptions
  | newsubsClose           -- subscriptionManager: close(newSubscriptions)
  | abort                  -- subscriptionConsumer: fetch failed
  | exit (aborted : Bool)  -- subscriptionConsumer returns
  deriving Repr, DecidableEq

structure St where
  created       : Bool := false
  refs          : Nat := 0
  inputClosed   : Bool := false
  waitClosed    : Bool := false
  flushed       : Bool := false
  newsubsClosed : Bool := false
  aborted       : Bool := false
  exited        : Bool := false
  deriving Repr

def step (s : St) : Ev → Except String St
  | .new => if s.created then .error "new: twice" else .ok { s with created := true }
  | .ref n =>
    if ¬ s.created then .error "ref: unknown broker worker"
    else if s.inputClosed then .error "ref: after input was closed"
    else if n ≠ s.refs then .error "ref: reference count differs"
    else .ok { s with refs := s.refs + 1 }
  | .unref n =>
    if n ≠ s.refs then .error "unref: reference count differs"
    else if s.refs = 0 then .error "unref: no reference held"
    else .ok { s with refs := s.refs - 1 }
  | .inputClose =>
    if s.refs ≠ 0 then .error "input.close: references still held"
    else if s.inputClosed then .error "close of closed channel: input"
    else .ok { s with inputClosed := true }
  | .inputSend =>
    if s.inputClosed then .error "send on closed channel: input"
    else if s.refs = 0 then .error "input.send: sender holds no reference"
    else .ok s
  | .subAdd =>
    if s.exited then .error "sub.add: after the worker returned"
    else if s.aborted then .error "sub.add: after abort"
    else .ok s
  | .waitClose =>
    if ¬ s.inputClosed then .error "wait.close: input still open"
    else if s.waitClosed then .error "close of closed channel: wait"
    else .ok { s with waitClosed := true }
  | .flush n =>
    if ¬ s.waitClosed then .error "newsubs.flush: wait still open"
    else if s.newsubsClosed then .error "send on closed channel: newSubscriptions"
    else if s.flushed then .error "newsubs.flush: twice"
    else if n = 0 then .error "newsubs.flush: empty buffer"
    else .ok { s with flushed := true }
  | .newsubsClose =>
    if ¬ s.waitClosed then .error "newsubs.close: wait still open"
    else if s.newsubsClosed then .error "close of closed channel: newSubscriptions"
    else .ok { s with newsubsClosed := true }
  | .abort =>
    if s.aborted then .error "abort: twice"
    else if s.exited then .error "abort: after the worker returned"
    else .ok { s with aborted := true }
  | .exit ab =>
    if s.exited then .error "exit: twice"
    else if ab ≠ s.aborted then .error "exit: wrong exit path"
    else if ¬ s.newsubsClosed then .error "exit: newSubscriptions still open"
    else .ok { s with exited := true }

abbrev run := runWith step

def internal : Ev → Bool
  | .waitClose | .flush _ | .newsubsClose | .exit _ => true
  | _ => false

/-- upper bound of the steps left to the worker's two goroutines once input is closed (the flush is taken only when the
    subscription manager has a left-over buffer) -/
def rank (s : St) : Nat :=
  (if s.waitClosed then 0 else 1) + (if s.flushed then 0 else 1) + (if s.newsubsClosed then 0 else 1) + (if s.exited then 0 else 1)

end BC

/-! ## consumer: registry of its partition consumers -/
namespace Cons

inductive Ev
  | childAdd (c : Nat)
  | childRemove (c : Nat)
  | close
  deriving Repr, DecidableEq

structure St where
  live   : List Nat := []
  closed : Bool := false
  deriving Repr

def step (s : St) : Ev → Except String St
  | .childAdd c =>
    if s.closed then .error "child.add: after Consumer.Close"
    else if c ∈ s.live then .error "child.add: already registered"
    else .ok { s with live := c :: s.live }
  | .childRemove c =>
    if c ∉ s.live then .error "child.remove: not registered"
    else .ok { s with live := s.live.erase c }
  | .close =>
    if s.live ≠ [] then .error "Consumer.Close before its partition consumers were closed (documented order)"
    else .ok { s with closed := true }

abbrev run := runWith step

end Cons

end Model.Lifecycle
