/-
  Model of the async producer's message accounting (async_producer.go): which events the pipeline may emit
  for a message, in which order, and how the in-flight WaitGroup follows them.

  A message is a token (Int id: > 0 for messages submitted by the application, < 0 for the internal
  syn/fin/shutdown markers, 0 for "no message").  The state keeps *logs* (lists of ids) rather than maps, so
  that every quantity of interest is a `List.count`:
    retries of a message      = count id retryLog
    interceptor applications  = count id iceptLog
    dispatcher passes         = count id passLog
    sequence stamps           = count id seqLog
  Events are the hook points of /repo (`verifEvt` calls, build tag verif); `step` accepts an event only if the
  code was entitled to emit it in the current state.  The trace-validation harness replays the real event
  stream of every scenario through `step` (first rejected event = correspondence failure); the theorems in
  Props/C01, C05stamps, C12, C18 hold for EVERY accepted event sequence, hence for every schedule and fault script.

  A terminal event for an internal marker is never accepted (on the pinned tree the idempotent producer could
  emit one: fixed in /repo, see known_findings.json).
-/
namespace Model.Producer

structure Cfg where
  retryMax : Nat
  icepts   : Nat
  idem     : Bool
  deriving Repr, DecidableEq

inductive Ev
  | accept (id : Int)            -- dispatcher: first pass of a new message, inFlight.Add(1)
  | reject (id : Int)            -- dispatcher: new message after shutdown began → ErrShuttingDown event
  | icept (id : Int)             -- dispatcher: one interceptor applied
  | pass (id : Int) (r : Nat)    -- dispatcher: message goes on to the topic producer (retries = r)
  | shutdownSeen                 -- dispatcher consumed the shutdown marker, inFlight.Done
  | wgAdd (isShutdown : Bool)    -- inFlight.Add(1) for an internal marker (syn / fin / shutdown)
  | wgDone (id : Int)            -- inFlight.Done for a syn / fin marker
  | retry (id : Int) (r : Nat)   -- retryMessage / retryBatch: retries incremented to r, re-queued
  | retErr (id : Int)            -- returnError: error event + inFlight.Done
  | retSucc (id : Int)           -- returnSuccesses: success event + inFlight.Done
  | seq (id : Int)               -- partition producer stamped a sequence number
  | stamp (id : Int) (epoch seq : Int)   -- the (epoch, sequence) that stamp put on the message (same hook line as `seq`)
  | bump (id : Int)              -- returnError bumped the producer epoch because the failed message carried a sequence number
  | stampAt (p epoch seq : Int)          -- the same stamp as the value getAndIncrementSequenceNumber returned for partition p
  | setStamp (epoch firstSeq : Int)      -- a produce set about to go on the wire: the stamp its batch carries
  | sent (id : Int) (idx : Int)          -- the idx-th message of that produce set's batch
  | sentEnd                              -- end of the produce set
  | reentry (id : Int) (batch : Bool)    -- the message re-entered through retryBatch (true) or retryMessage (false)
  | waited                       -- shutdown: inFlight.Wait returned
  | close                        -- shutdown: output channels are closed
  | other                        -- events that do not concern the accounting
  deriving Repr, DecidableEq

structure St where
  cfg       : Cfg
  live      : List Int := []     -- accepted application messages without a terminal event
  markers   : Nat := 0           -- syn/fin markers counted in the WaitGroup (not the shutdown marker, which is
                                 -- outstanding while shutdownStarted ∧ ¬shutdownSeen)
  wg        : Int := 0           -- the WaitGroup counter
  accepted  : List Int := []
  rejected  : List Int := []
  succ      : List Int := []
  errs      : List Int := []
  retryLog  : List Int := []
  iceptLog  : List Int := []
  passLog   : List Int := []
  seqLog    : List Int := []
  msgStamp  : List (Int × Int × Int) := []   -- id ↦ (epoch, sequence) given by the partition producer
  lastSent  : List (Int × Int × Int) := []   -- id ↦ (epoch, sequence) under which it last went on the wire
  viaBatch  : List Int := []                 -- ids whose latest re-entry was a whole-batch resend (retryBatch)
  curStamp  : Option (Int × Int) := none     -- stamp of the produce set currently being reported
  stampLog  : List (Int × Int × Int) := []   -- (partition, epoch, sequence) of every stamp given, newest first
  bumps     : List Int := []                 -- ids whose failure bumped the producer epoch
  shutdownStarted : Bool := false
  shutdownSeen    : Bool := false
  waited    : Bool := false
  closed    : Bool := false
  deriving Repr

def init (cfg : Cfg) : St := { cfg := cfg }

/-- failed messages that carried a sequence number and whose failure has not bumped the epoch (must be none at the end) -/
def unbumped (s : St) : List Int := s.errs.filter (fun id => s.seqLog.count id ≠ 0 ∧ s.bumps.count id = 0)

/-- number of stamps already given in (partition, epoch): the value the sequence counter of that partition holds in
    that epoch (bumpEpoch increments the epoch and resets every counter in one critical section) -/
def stampCount (l : List (Int × Int × Int)) (p e : Int) : Nat :=
  (l.filter (fun x => x.1 = p ∧ x.2.1 = e)).length

def retriesOf (s : St) (id : Int) : Nat := s.retryLog.count id

def lookup3 (l : List (Int × Int × Int)) (id : Int) : Option (Int × Int) :=
  match l.find? (fun x => x.1 = id) with
  | some x => some x.2
  | none => none

def insert3 (l : List (Int × Int × Int)) (id : Int) (v : Int × Int) : List (Int × Int × Int) :=
  (id, v.1, v.2) :: l.filter (fun x => x.1 ≠ id)

def step (s : St) : Ev → Except String St
  | .accept id =>
    if id ≤ 0 then .error "accept: not an application message"
    else if id ∈ s.accepted ∨ id ∈ s.rejected then .error "accept: message submitted twice"
    else if s.shutdownSeen then .error "accept: accepted after the shutdown marker"
    else if s.closed then .error "accept: after close"
    else .ok { s with live := id :: s.live, accepted := id :: s.accepted, wg := s.wg + 1 }
  | .reject id =>
    if id ≤ 0 then .error "reject: not an application message"
    else if id ∈ s.accepted ∨ id ∈ s.rejected then .error "reject: message submitted twice"
    else if ¬ s.shutdownSeen then .error "reject: ErrShuttingDown before the shutdown marker"
    else if s.closed then .error "reject: event after close"
    else .ok { s with rejected := id :: s.rejected, errs := id :: s.errs }
  | .icept id =>
    if id ∉ s.live then .error "icept: interceptor applied to something that is not a live application message"
    else if s.retryLog.count id ≠ 0 then .error "icept: interceptor applied on a retry"
    else if s.passLog.count id ≠ 0 then .error "icept: interceptor applied after the first pass"
    else if s.iceptLog.count id ≥ s.cfg.icepts then .error "icept: more applications than interceptors"
    else .ok { s with iceptLog := id :: s.iceptLog }
  | .pass id r =>
    if id ≤ 0 then .ok s
    else if id ∉ s.live then .error "pass: message is not live"
    else if s.retryLog.count id ≠ r then .error "pass: retry count differs from the accounting"
    else if s.passLog.count id > r then .error "pass: more dispatcher passes than retries + 1"
    else if s.iceptLog.count id ≠ s.cfg.icepts then .error "pass: interceptor chain not applied exactly once"
    else .ok { s with passLog := id :: s.passLog }
  | .shutdownSeen =>
    if ¬ s.shutdownStarted then .error "shutdown marker without shutdown"
    else if s.shutdownSeen then .error "shutdown marker twice"
    else .ok { s with shutdownSeen := true, wg := s.wg - 1 }
  | .wgAdd sh =>
    if s.waited then .error "wgAdd: after Wait returned"
    else if sh && s.shutdownStarted then .error "shutdown started twice"
    else if sh then .ok { s with wg := s.wg + 1, shutdownStarted := true }
    else .ok { s with markers := s.markers + 1, wg := s.wg + 1 }
  | .wgDone id =>
    if id ≥ 0 then .error "wgDone: marker expected"
    else if s.markers = 0 then .error "wgDone: no marker outstanding"
    else .ok { s with markers := s.markers - 1, wg := s.wg - 1 }
  | .retry id r =>
    if id < 0 then .ok s
    else if id ∉ s.live then .error "retry: message is not live"
    else if s.retryLog.count id + 1 ≠ r then .error "retry: retries not incremented by one"
    else if r > s.cfg.retryMax then .error "retry: beyond Retry.Max"
    else .ok { s with retryLog := id :: s.retryLog }
  | .retErr id =>
    if s.closed then .error "retErr: event after close"
    else if id > 0 then
      if id ∈ s.live then .ok { s with live := s.live.erase id, errs := id :: s.errs, wg := s.wg - 1 }
      else .error "retErr: error event for a message that is not live (second outcome or never accepted)"
    else .error "retErr: error event for an internal marker"
  | .retSucc id =>
    if s.closed then .error "retSucc: event after close"
    else if id > 0 then
      if id ∈ s.live then .ok { s with live := s.live.erase id, succ := id :: s.succ, wg := s.wg - 1 }
      else .error "retSucc: success event for a message that is not live (second outcome or never accepted)"
    else .error "retSucc: success event for an internal marker"
  | .seq id =>
    if ¬ s.cfg.idem then .error "seq: sequence number without idempotence"
    else if id ∉ s.live then .error "seq: message is not live"
    else if s.retryLog.count id ≠ 0 then .error "seq: sequence stamped on a retry"
    else if s.seqLog.count id ≠ 0 then .error "seq: sequence stamped twice"
    else .ok { s with seqLog := id :: s.seqLog }
  | .stamp id e q => .ok { s with msgStamp := insert3 s.msgStamp id (e, q) }
  | .bump id =>
    if id ∉ s.errs then .error "bump: epoch bumped for a message that has no error event"
    else if s.seqLog.count id = 0 then .error "bump: epoch bumped for a message that never got a sequence number"
    else if s.bumps.count id ≠ 0 then .error "bump: epoch bumped twice for one message"
    else .ok { s with bumps := id :: s.bumps }
  | .stampAt p e q =>
    if q ≠ (stampCount s.stampLog p e : Int) then
      .error "stampAt: the sequence given is not the number of stamps already given to this partition in this epoch"
    else .ok { s with stampLog := (p, e, q) :: s.stampLog }
  | .setStamp e f => .ok { s with curStamp := some (e, f) }
  | .sentEnd => .ok { s with curStamp := none }
  | .reentry id b =>
    if b then .ok { s with viaBatch := id :: s.viaBatch.filter (· ≠ id) }
    else .ok { s with viaBatch := s.viaBatch.filter (· ≠ id) }
  | .sent id idx =>
    match s.curStamp with
    | none => .ok s                      -- not an idempotent batch: no stamp to check
    | some (e, f) =>
      if id ≤ 0 then .ok s
      else match lookup3 s.msgStamp id with
        | none => .error "sent: idempotent batch carries a message that was never given a sequence number"
        | some (me, _) =>
          if e < me then .error "sent: batch epoch is older than the stamp of one of its messages"
          else match lookup3 s.lastSent id with
            | some prev =>
              if id ∈ s.viaBatch ∧ prev ≠ (e, f + idx) then
                .error "sent: a whole-batch resend (retryBatch) went out under a different (epoch, sequence) than before"
              else .ok { s with lastSent := insert3 s.lastSent id (e, f + idx) }
            | none => .ok { s with lastSent := insert3 s.lastSent id (e, f + idx) }
  | .waited =>
    if ¬ s.shutdownStarted then .error "waited: no shutdown"
    else if s.wg ≠ 0 then .error "waited: WaitGroup counter not zero"
    else .ok { s with waited := true }
  | .close =>
    if ¬ s.waited then .error "close: before Wait returned"
    else if s.closed then .error "close: twice"
    else .ok { s with closed := true }
  | .other => .ok s

/-- run a whole event sequence; the error of the first rejected event otherwise -/
def run (s : St) : List Ev → Except String St
  | [] => .ok s
  | e :: es => match step s e with
    | .ok s' => run s' es
    | .error m => .error m

end Model.Producer
