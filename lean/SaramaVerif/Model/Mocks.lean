import SaramaVerif.Model.Partitioner
/-
  Model of package `mocks` (mocks/async_producer.go, mocks/sync_producer.go, mocks/consumer.go, mocks/mocks.go):
  the three mocks as small deterministic state machines.

  External behaviour is a parameter, never an axiom:
    * the partitioner is an arbitrary state machine `Part σ` (one instance per topic, created on first use);
    * a `CheckFunction` is an arbitrary function of the message and the partition stored into it;
    * scripted errors, checker errors, partitioner errors are integer codes.

  The single goroutine of the async mock handles one input at a time under the mutex `mp.l`, so a run of the
  async mock is a run of `asyncSend` over the inputs in the order the goroutine received them (every schedule
  of concurrent senders is one such order).

  Variant flags (pinned tree vs. documented behaviour):
    * `fixedChecker = false`  (F11a) async mock: after a failing CheckFunction the code falls through to the
      result handling, so the message gets the checker error AND its scripted outcome (and uses up an offset);
    * `retChosen = false`     (F11b) sync mock: `SendMessage` returns partition 0 (shadowed result variable)
      although `msg.Partition` holds the partitioner's choice.
-/
namespace Model.Mocks

/-- what the mocks look at in a `*sarama.ProducerMessage` -/
structure Msg where
  id : Nat
  topic : Nat
  /-- attribute read by the partitioner (hash of the key bytes, or whatever a custom partitioner looks at) -/
  key : Int
  /-- `msg.Partition` before the message is handed to the mock (read by the manual partitioner) -/
  part0 : Int
  deriving DecidableEq, Repr

/-- a `PartitionerConstructor`: per-topic initial state and the `Partition(msg, numPartitions)` call -/
structure Part (σ : Type) where
  init : Nat → σ
  step : σ → Msg → Int → Except Int Int × σ

/-- `producerExpectation`: `result = none` is `errProduceSuccess`; `check` is the `CheckFunction`
    (answers an error code or `none`), given the message and the partition written into it -/
structure Exp where
  result : Option Int
  check : Option (Msg → Int → Option Int)

inductive ErrKind
  | scripted | checker | partitioner | outOfExpectations
  deriving DecidableEq, Repr

/-- key of a partition consumer: topic, partition -/
abbrev Key := Nat × Int

/-- calls made on the `ErrorReporter` (one constructor per `Errorf` call site / format string) -/
inductive Report
  | noExpectation
  | insufficient
  | leftover (n : Nat)
  | checkerFailed (code : Int)
  | partitionerError (code : Int)
  | noPartitionExpectation (k : Key)
  | unexpectedOffset (k : Key) (expected got : Int)
  | notStarted (k : Key)
  | errorsNotDrained (k : Key) (n : Nat)
  | messagesNotDrained (k : Key) (n : Nat)
  | noMetadata
  deriving DecidableEq, Repr

/-- what arrives on `Successes()` / `Errors()` -/
inductive Outcome
  | success (id : Nat) (partition offset : Int)
  | error (id : Nat) (kind : ErrKind) (code : Int) (partition : Int)
  deriving DecidableEq, Repr

def Outcome.id : Outcome → Nat
  | .success i _ _ => i
  | .error i _ _ _ => i

/-- `TopicConfig` -/
structure TopicCfg where
  dflt : Int
  ovr : Nat → Option Int

def TopicCfg.partitions (tc : TopicCfg) (t : Nat) : Int := (tc.ovr t).getD tc.dflt
def TopicCfg.new : TopicCfg := { dflt := 32, ovr := fun _ => none }
def TopicCfg.setDefault (tc : TopicCfg) (n : Int) : TopicCfg := { dflt := n, ovr := tc.ovr }
def TopicCfg.setPartitions (tc : TopicCfg) (t : Nat) (n : Int) : TopicCfg :=
  { dflt := tc.dflt, ovr := fun x => if x = t then some n else tc.ovr x }

/-- `SetPartitions(m)` for a Go map `m` with the entries `l`: the mock copies the entries into its own table -
    what the caller (or another mock that was given the same map) does with `m` afterwards cannot reach it -/
def TopicCfg.setPartitionsMap : TopicCfg → List (Nat × Int) → TopicCfg
  | tc, [] => tc
  | tc, (t, n) :: l => TopicCfg.setPartitionsMap (tc.setPartitions t n) l

def upd {α : Type} (f : Nat → α) (t : Nat) (v : α) : Nat → α := fun x => if x = t then v else f x

/-- state shared by both producer mocks: `expectations`, `lastOffset`, the per-topic partitioners, `TopicConfig` -/
structure PState (σ : Type) where
  exps : List Exp
  lastOffset : Int
  ps : Nat → σ
  tc : TopicCfg

def PState.init {σ : Type} (P : Part σ) (script : List Exp) (tc : TopicCfg) : PState σ :=
  { exps := script, lastOffset := 0, ps := P.init, tc := tc }

def PState.expect {σ : Type} (s : PState σ) (e : Exp) : PState σ :=
  { exps := s.exps ++ [e], lastOffset := s.lastOffset, ps := s.ps, tc := s.tc }

def PState.withTc {σ : Type} (s : PState σ) (tc : TopicCfg) : PState σ :=
  { exps := s.exps, lastOffset := s.lastOffset, ps := s.ps, tc := tc }

def checkVerdict (e : Exp) (m : Msg) (p : Int) : Option Int :=
  match e.check with
  | none => none
  | some f => f m p

/-- the partitioner call made for message `m` in state `s` -/
def choose {σ : Type} (P : Part σ) (ps : Nat → σ) (tc : TopicCfg) (m : Msg) : Except Int Int × σ :=
  P.step (ps m.topic) m (tc.partitions m.topic)

/-! ### async producer -/

structure ACfg where
  /-- `config.Producer.Return.Successes` -/
  retSucc : Bool
  /-- `config.Producer.Return.Errors` -/
  retErr : Bool

/-- result handling of the goroutine (`if expectation.Result == errProduceSuccess …`): new lastOffset, outcomes -/
def asyncResult (cfg : ACfg) (e : Exp) (m : Msg) (p lo : Int) : Int × List Outcome :=
  match e.result with
  | none => (lo + 1, if cfg.retSucc then [.success m.id p (lo + 1)] else [])
  | some c => (lo, if cfg.retErr then [.error m.id .scripted c p] else [])

/-- body of the goroutine for a message that found the expectation `e`, given the partitioner's answer `c`:
    (new lastOffset, outcomes, reporter calls) -/
def asyncHandle (fixedChecker : Bool) (cfg : ACfg) (e : Exp) (m : Msg) (c : Except Int Int) (lo : Int) :
    Int × List Outcome × List Report :=
  match c with
  | .error pc => (lo, [.error m.id .partitioner pc m.part0], [.partitionerError pc])
  | .ok p =>
    match checkVerdict e m p with
    | some cc =>
      if fixedChecker then (lo, [.error m.id .checker cc p], [.checkerFailed cc])
      else ((asyncResult cfg e m p lo).1, .error m.id .checker cc p :: (asyncResult cfg e m p lo).2, [.checkerFailed cc])
    | none => ((asyncResult cfg e m p lo).1, (asyncResult cfg e m p lo).2, [])

/-- one input message: pop the first expectation (if any), call the topic's partitioner, handle -/
def asyncSend {σ : Type} (P : Part σ) (fx : Bool) (cfg : ACfg) (s : PState σ) (m : Msg) :
    PState σ × List Outcome × List Report :=
  match s.exps with
  | [] => ({ exps := [], lastOffset := s.lastOffset, ps := s.ps, tc := s.tc }, [], [.noExpectation])
  | e :: rest =>
    ({ exps := rest,
       lastOffset := (asyncHandle fx cfg e m (choose P s.ps s.tc m).1 s.lastOffset).1,
       ps := upd s.ps m.topic (choose P s.ps s.tc m).2,
       tc := s.tc },
     (asyncHandle fx cfg e m (choose P s.ps s.tc m).1 s.lastOffset).2)

/-- leftover check after the input channel is closed (also `SyncProducer.Close`) -/
def closeReports {σ : Type} (s : PState σ) : List Report :=
  if s.exps.length > 0 then [.leftover s.exps.length] else []

def asyncOuts {σ : Type} (P : Part σ) (fx : Bool) (cfg : ACfg) : PState σ → List Msg → List (List Outcome × List Report)
  | _, [] => []
  | s, m :: ms => (asyncSend P fx cfg s m).2 :: asyncOuts P fx cfg (asyncSend P fx cfg s m).1 ms

def asyncFinal {σ : Type} (P : Part σ) (fx : Bool) (cfg : ACfg) : PState σ → List Msg → PState σ
  | s, [] => s
  | s, m :: ms => asyncFinal P fx cfg (asyncSend P fx cfg s m).1 ms

/-! ### sync producer -/

/-- what a `SendMessage` call shows: the three results and the message's fields afterwards -/
structure SyncOut where
  retPartition : Int
  retOffset : Int
  err : Option (ErrKind × Int)
  msgPartition : Int
  msgOffset : Int
  deriving DecidableEq, Repr

/-- body of `SendMessage` after the expectation `e` was popped -/
def syncHandle (retChosen : Bool) (e : Exp) (m : Msg) (c : Except Int Int) (lo : Int) :
    Int × SyncOut × List Report :=
  match c with
  | .error pc => (lo, ⟨-1, -1, some (.partitioner, pc), m.part0, 0⟩, [.partitionerError pc])
  | .ok p =>
    match checkVerdict e m p with
    | some cc => (lo, ⟨-1, -1, some (.checker, cc), p, 0⟩, [.checkerFailed cc])
    | none =>
      match e.result with
      | none => (lo + 1, ⟨if retChosen then p else 0, lo + 1, none, p, lo + 1⟩, [])
      | some rc => (lo, ⟨-1, -1, some (.scripted, rc), p, 0⟩, [])

def syncSend {σ : Type} (P : Part σ) (rc : Bool) (s : PState σ) (m : Msg) : PState σ × SyncOut × List Report :=
  match s.exps with
  | [] => ({ exps := [], lastOffset := s.lastOffset, ps := s.ps, tc := s.tc },
           ⟨-1, -1, some (.outOfExpectations, 0), m.part0, 0⟩, [.noExpectation])
  | e :: rest =>
    ({ exps := rest,
       lastOffset := (syncHandle rc e m (choose P s.ps s.tc m).1 s.lastOffset).1,
       ps := upd s.ps m.topic (choose P s.ps s.tc m).2,
       tc := s.tc },
     (syncHandle rc e m (choose P s.ps s.tc m).1 s.lastOffset).2)

def syncOuts {σ : Type} (P : Part σ) (rc : Bool) : PState σ → List Msg → List (SyncOut × List Report)
  | _, [] => []
  | s, m :: ms => (syncSend P rc s m).2 :: syncOuts P rc (syncSend P rc s m).1 ms

def syncFinal {σ : Type} (P : Part σ) (rc : Bool) : PState σ → List Msg → PState σ
  | s, [] => s
  | s, m :: ms => syncFinal P rc (syncSend P rc s m).1 ms

/-- result of `SendMessages`: the returned error, `(msg.Partition, msg.Offset)` of every message afterwards -/
structure BatchOut where
  err : Option (ErrKind × Int)
  msgs : List (Int × Int)
  deriving DecidableEq, Repr

/-- the loop of `SendMessages` over the expectations taken for the batch: stops at the first message whose
    handling yields an error (the remaining messages are not touched). State: lastOffset, partitioners. -/
def batchLoop {σ : Type} (P : Part σ) (tc : TopicCfg) : Int → (Nat → σ) → List Exp → List Msg →
    (Int × (Nat → σ)) × BatchOut × List Report
  | lo, ps, e :: es, m :: ms =>
    match (syncHandle true e m (choose P ps tc m).1 lo).2.1.err with
    | some err =>
      ((lo, upd ps m.topic (choose P ps tc m).2),
       ⟨some err, ((syncHandle true e m (choose P ps tc m).1 lo).2.1.msgPartition, 0) :: ms.map (fun x => (x.part0, 0))⟩,
       (syncHandle true e m (choose P ps tc m).1 lo).2.2)
    | none =>
      ((batchLoop P tc (lo + 1) (upd ps m.topic (choose P ps tc m).2) es ms).1,
       ⟨(batchLoop P tc (lo + 1) (upd ps m.topic (choose P ps tc m).2) es ms).2.1.err,
        ((syncHandle true e m (choose P ps tc m).1 lo).2.1.msgPartition, lo + 1) ::
          (batchLoop P tc (lo + 1) (upd ps m.topic (choose P ps tc m).2) es ms).2.1.msgs⟩,
       (batchLoop P tc (lo + 1) (upd ps m.topic (choose P ps tc m).2) es ms).2.2)
  | lo, ps, _, _ => ((lo, ps), ⟨none, []⟩, [])

/-- `SendMessages`: all-or-nothing check of the number of expectations, then the loop -/
def syncSendBatch {σ : Type} (P : Part σ) (s : PState σ) (msgs : List Msg) : PState σ × BatchOut × List Report :=
  if s.exps.length ≥ msgs.length then
    ({ exps := s.exps.drop msgs.length,
       lastOffset := (batchLoop P s.tc s.lastOffset s.ps (s.exps.take msgs.length) msgs).1.1,
       ps := (batchLoop P s.tc s.lastOffset s.ps (s.exps.take msgs.length) msgs).1.2,
       tc := s.tc },
     (batchLoop P s.tc s.lastOffset s.ps (s.exps.take msgs.length) msgs).2)
  else
    (s, ⟨some (.outOfExpectations, 0), msgs.map (fun x => (x.part0, 0))⟩, [.insufficient])

/-! ### consumer -/

/-- `mocks.AnyOffset` -/
def anyOffset : Int := -1000

/-- `PartitionConsumer`: expected start offset, `highWaterMarkOffset`, the two buffered channels (offsets of the
    queued messages / codes of the queued errors), whether the channels are closed, the flags -/
structure PC where
  offset : Int
  hwm : Nat
  msgs : List Nat
  errs : List Int
  closed : Bool
  consumed : Bool
  errsDrained : Bool
  msgsDrained : Bool
  deriving DecidableEq, Repr

def PC.fresh (off : Int) : PC :=
  { offset := off, hwm := 0, msgs := [], errs := [], closed := false, consumed := false,
    errsDrained := false, msgsDrained := false }

inductive PcOp
  | yieldMsg | yieldErr (code : Int) | expectMsgsDrained | expectErrsDrained
  | consume (off : Int) | readMsg | readErr | close | asyncClose
  deriving DecidableEq, Repr

inductive PcOut
  | ok
  /-- send on a closed channel -/
  | panic
  /-- the buffered channel is full: the call would not return -/
  | block
  | msg (off : Nat) | err (code : Int)
  /-- nothing buffered (a receive would wait) -/
  | empty
  /-- receive on the closed, emptied channel -/
  | chanClosed
  | consumeOk | alreadyConsumed
  | closeRet (errs : List Int) | notStarted
  deriving DecidableEq, Repr

/-- `HighWaterMarkOffset()` -/
def PC.hwmAnswer (pc : PC) : Nat := pc.hwm + 1

def drainReports (k : Key) (pc : PC) : List Report :=
  (if pc.errsDrained ∧ pc.errs.length > 0 then [Report.errorsNotDrained k pc.errs.length] else []) ++
  (if pc.msgsDrained ∧ pc.msgs.length > 0 then [Report.messagesNotDrained k pc.msgs.length] else [])

/-- one call on a registered partition consumer (`buf` = `config.ChannelBufferSize`) -/
def pcStep (buf : Nat) (k : Key) (pc : PC) : PcOp → PC × PcOut × List Report
  | .yieldMsg =>
    if pc.closed then ({ pc with hwm := pc.hwm + 1 }, .panic, [])
    else if pc.msgs.length ≥ buf then (pc, .block, [])
    else ({ pc with hwm := pc.hwm + 1, msgs := pc.msgs ++ [pc.hwm + 1] }, .ok, [])
  | .yieldErr c =>
    if pc.closed then (pc, .panic, [])
    else if pc.errs.length ≥ buf then (pc, .block, [])
    else ({ pc with errs := pc.errs ++ [c] }, .ok, [])
  | .expectMsgsDrained => ({ pc with msgsDrained := true }, .ok, [])
  | .expectErrsDrained => ({ pc with errsDrained := true }, .ok, [])
  | .consume off =>
    if pc.consumed then (pc, .alreadyConsumed, [])
    else ({ pc with consumed := true }, .consumeOk,
          if pc.offset ≠ anyOffset ∧ pc.offset ≠ off then [.unexpectedOffset k pc.offset off] else [])
  | .readMsg =>
    match pc.msgs with
    | o :: rest => ({ pc with msgs := rest }, .msg o, [])
    | [] => (pc, if pc.closed then .chanClosed else .empty, [])
  | .readErr =>
    match pc.errs with
    | c :: rest => ({ pc with errs := rest }, .err c, [])
    | [] => (pc, if pc.closed then .chanClosed else .empty, [])
  | .close =>
    if pc.consumed then ({ pc with msgs := [], errs := [], closed := true }, .closeRet pc.errs, drainReports k pc)
    else (pc, .notStarted, [.notStarted k])
  | .asyncClose => ({ pc with closed := true }, .ok, [])

def pcFinal (buf : Nat) (k : Key) : PC → List PcOp → PC
  | pc, [] => pc
  | pc, op :: ops => pcFinal buf k (pcStep buf k pc op).1 ops

def pcOuts (buf : Nat) (k : Key) : PC → List PcOp → List (PcOut × List Report)
  | _, [] => []
  | pc, op :: ops => (pcStep buf k pc op).2 :: pcOuts buf k (pcStep buf k pc op).1 ops

/-- `Consumer`: registered partitions (in registration order), their partition consumers, the metadata -/
structure CState where
  keys : List Key
  pcs : Key → PC
  mdata : Option (List (Nat × List Int))

def CState.init : CState := { keys := [], pcs := fun _ => PC.fresh 0, mdata := none }

inductive COp
  | expect (k : Key) (off : Int)
  | pc (k : Key) (op : PcOp)
  | closeAll | hwms | topics | partitions (t : Nat)
  | setMeta (md : List (Nat × List Int))

inductive COut
  | ok
  /-- call through a handle that `ExpectConsumePartition` never returned -/
  | bad
  | pc (o : PcOut)
  | consumeNoExpectation
  | hwms (l : List (Key × Nat))
  | topics (l : List Nat)
  | partitions (l : List Int)
  | outOfBrokers | unknownTopic
  deriving DecidableEq, Repr

def updK (f : Key → PC) (k : Key) (v : PC) : Key → PC := fun x => if x = k then v else f x

def cStep (buf : Nat) (s : CState) : COp → CState × COut × List Report
  | .expect k off =>
    if k ∈ s.keys then (s, .ok, [])
    else ({ keys := s.keys ++ [k], pcs := updK s.pcs k (PC.fresh off), mdata := s.mdata }, .ok, [])
  | .pc k op =>
    if k ∈ s.keys then
      ({ keys := s.keys, pcs := updK s.pcs k (pcStep buf k (s.pcs k) op).1, mdata := s.mdata },
       .pc (pcStep buf k (s.pcs k) op).2.1, (pcStep buf k (s.pcs k) op).2.2)
    else
      match op with
      | .consume _ => (s, .consumeNoExpectation, [.noPartitionExpectation k])
      | _ => (s, .bad, [])
  | .closeAll =>
    ({ keys := s.keys, pcs := fun k => if k ∈ s.keys then (pcStep buf k (s.pcs k) .close).1 else s.pcs k, mdata := s.mdata },
     .ok, s.keys.flatMap (fun k => (pcStep buf k (s.pcs k) .close).2.2))
  | .hwms => (s, .hwms (s.keys.map (fun k => (k, (s.pcs k).hwmAnswer))), [])
  | .topics =>
    match s.mdata with
    | none => (s, .outOfBrokers, [.noMetadata])
    | some md => (s, .topics (md.map (·.1)), [])
  | .partitions t =>
    match s.mdata with
    | none => (s, .outOfBrokers, [.noMetadata])
    | some md =>
      match md.find? (fun x => x.1 = t) with
      | some x => (s, .partitions x.2, [])
      | none => (s, .unknownTopic, [])
  | .setMeta md => ({ keys := s.keys, pcs := s.pcs, mdata := some md }, .ok, [])

def cFinal (buf : Nat) : CState → List COp → CState
  | s, [] => s
  | s, op :: ops => cFinal buf (cStep buf s op).1 ops

def cOuts (buf : Nat) : CState → List COp → List (COut × List Report)
  | _, [] => []
  | s, op :: ops => (cStep buf s op).2 :: cOuts buf (cStep buf s op).1 ops

/-! ### the partitioners sarama ships, as `Part` instances (used by the driver and the examples) -/

/-- `NewManualPartitioner` -/
def manualPart : Part Unit := { init := fun _ => (), step := fun _ m _ => (.ok m.part0, ()) }
/-- `NewHashPartitioner` on a keyed message whose key hashes (FNV-1a, uint32) to `m.key` -/
def hashPart : Part Unit :=
  { init := fun _ => (), step := fun _ m n => (.ok (Model.Partitioner.hashChoice false m.key n), ()) }
/-- `NewRoundRobinPartitioner` -/
def rrPart : Part Int :=
  { init := fun _ => 0,
    step := fun p _ n => (.ok (Model.Partitioner.rrStep p n).1, (Model.Partitioner.rrStep p n).2) }
/-- custom partitioners of the harness: constant error, echo of numPartitions, constant choice, and a mix
    (error `key` when `key` is a multiple of 5, else `key - 2`) -/
def errPart (code : Int) : Part Unit := { init := fun _ => (), step := fun _ _ _ => (.error code, ()) }
def echoPart : Part Unit := { init := fun _ => (), step := fun _ _ n => (.ok n, ()) }
def fixPart (c : Int) : Part Unit := { init := fun _ => (), step := fun _ _ _ => (.ok c, ()) }
def mixPart : Part Unit :=
  { init := fun _ => (), step := fun _ m _ => (if m.key % 5 = 0 then .error m.key else .ok (m.key - 2), ()) }

end Model.Mocks
