import SaramaVerif.GoSem
/-
  Model of partitioner.go (hash / reference-hash / round-robin / manual partitioners, hash-partitioner
  option constructors) and of topicProducer.partitionMessage's decision table (async_producer.go).

  External behaviour is a parameter: the 32-bit hash `h` of the key bytes (any `hash.Hash32`), the random
  partitioner's draw `r`, the user partitioner's answer.
-/
namespace Model.Partitioner
open Go

/-- reading of a uint32 hash sum as Go's `int32(sum)` -/
def hashAsI32 (h : Int) : Int := wrap32 h

/-- tail of `hashPartitioner.Partition` after hashing: `h` is `hasher.Sum32()` (0 ≤ h < 2^32),
    `n` is numPartitions. -/
def hashChoice (refAbs : Bool) (h n : Int) : Int :=
  if refAbs then
    Int.tmod (h % 2147483648) n
  else
    if Int.tmod (wrap32 h) n < 0 then -(Int.tmod (wrap32 h) n) else Int.tmod (wrap32 h) n

/-- FNV-1a, 32 bit (hash/fnv New32a): the default hasher of the hash partitioners -/
def fnv1a32 (bs : List UInt8) : Nat :=
  bs.foldl (fun h b => ((Nat.xor h b.toNat) * 16777619) % 4294967296) 2166136261

/-- a keyed message through a default hash partitioner: the choice is a function of the key's encoded bytes
    alone - also for a key that encodes to zero bytes (only a nil key is "keyless") -/
def hashKeyChoice (refAbs : Bool) (key : List UInt8) (n : Int) : Int := hashChoice refAbs (fnv1a32 key) n

/-- Kafka's Java client: `Utils.toPositive(hash) % numPartitions`, i.e. `(hash & 0x7fffffff) % n` -/
def javaChoice (h n : Int) : Int := (h % 2147483648) % n

/-- `roundRobinPartitioner.Partition`: state `p`, returns (choice, new state) -/
def rrStep (p n : Int) : Int × Int :=
  let p1 := if p ≥ n then 0 else p
  (p1, p1 + 1)

/-- run of the round-robin partitioner over a list of partition counts -/
def rrRun : Int → List Int → List Int
  | _, [] => []
  | p, n :: ns => (rrStep p n).1 :: rrRun (rrStep p n).2 ns

/-- which fallback a hash partitioner built by `NewCustomPartitioner(opts…)` uses for keyless messages.
    `self` is the pinned-tree behaviour of `WithCustomFallbackPartitioner` (stores the receiver
    itself, so a keyless message recurses forever); `arg` is what the option documents. -/
inductive Fallback | random | arg | self
  deriving DecidableEq, Repr

/-- one keyless/keyed partition call of a hash partitioner with fuel for the (possibly self-referential)
    fallback chain. `none` = does not return (fuel exhausted ⇒ infinite recursion in Go). -/
def hashPartition (fuel : Nat) (fb : Fallback) (refAbs : Bool) (key : Option Int) (n r argChoice : Int) :
    Option Int :=
  match key with
  | some h => some (hashChoice refAbs h n)
  | none =>
    match fb with
    | .random => some r
    | .arg => some argChoice
    | .self =>
      match fuel with
      | 0 => none
      | fuel + 1 => hashPartition fuel fb refAbs none n r argChoice

/-- outcome of topicProducer.partitionMessage -/
inductive Routed
  | sent (partition : Int)
  | errLeaderNotAvailable
  | errInvalidPartition
  | errPartitioner (code : Int)
  | errClient (code : Int)
  deriving DecidableEq, Repr

/-- `partitionMessage`: `reqCons` is the (dynamic) consistency requirement, `all` / `writable` the client's
    answers (or an error code), `choose n` the partitioner's answer for `n` partitions. -/
def partitionMessage (reqCons : Bool) (all writable : Except Int (List Int))
    (choose : Int → Except Int Int) : Routed :=
  match (if reqCons then all else writable) with
  | .error e => .errClient e
  | .ok parts =>
    let n : Int := parts.length
    if n = 0 then .errLeaderNotAvailable
    else match choose n with
      | .error e => .errPartitioner e
      | .ok c =>
        if c < 0 ∨ c ≥ n then .errInvalidPartition
        else .sent (parts.getD c.toNat 0)

end Model.Partitioner
