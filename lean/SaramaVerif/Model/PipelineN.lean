/-
  The producer pipeline with SEVERAL PARTITIONS (system model, executable).  Per partition: the rank counter, the
  partition producer with its input channel, the worker it is bound to, the leader, the partition log and the
  outcomes.  Shared: p.input (dispatcher), the retries queue, and the broker workers - `Model.BrokerProd.step`
  handles tokens of several partitions (per-partition retry marks, one buffer, one set at the bridge, per-partition
  verdicts, request-level connection errors).  `Model.Pipeline` is the one-partition instance (partition 0).
  The projection of a run of this model on one partition is a run of `Model.Pipeline` with that partition's log and
  outcomes: `ProjSim` (Props/C02multiP.lean) states it, with the run inside the scope of `log_order_reselect`; it is
  proved, without that last clause, for the runs that pass a decidable side condition on their `broker` and `deliver`
  steps (`projOK`, `projOK2`; Props/C02multiK2.lean), and open otherwise.
-/
import SaramaVerif.Model.Pipeline

namespace Model.PipelineN
open Model Model.BrokerProd
open Model.Pipeline (brokerOf)

/-- the answer to a produce request: per-partition verdicts, or a request-level connection error (after the append
    or before) -/
inductive RespN
  | parts (v : Int → Pipeline.Verdict)
  | conn (app : Bool)

def bvOf : Pipeline.Verdict → BrokerProd.Verdict
  | .ok => .ok
  | .retriable _ => .retriable
  | _ => .fatal

def RespN.toResp : RespN → BrokerProd.Resp
  | .parts v => .verdicts (fun q => bvOf (v q)) [] []
  | .conn _ => .connErr [] []

def RespN.appends (r : RespN) (q : Int) : Bool :=
  match r with
  | .parts v => (v q).appends
  | .conn a => a

structure WorkerN where
  inq  : List Tok := []
  bp   : St := {}
  pend : Option (RespN × (Int → Nat)) := none     -- the prepared answer and the base offset per partition

structure SysN where
  next  : Int → Nat := fun _ => 0
  dq    : List Tok := []
  pq    : Int → List Tok := fun _ => []
  pp    : Int → PartProd.St := fun _ => {}
  cur   : Int → Option Nat := fun _ => none
  wk    : Nat → WorkerN := fun _ => {}
  ret   : List Tok := []
  ldr   : Int → Nat := fun _ => 0
  log   : Int → List Int := fun _ => []
  succ  : Int → List (Int × Nat) := fun _ => []
  errs  : Int → List Int := fun _ => []
  crash : Bool := false

def upd {α : Type} (f : Int → α) (p : Int) (v : α) : Int → α := fun q => if q = p then v else f q
def setWN (f : Nat → WorkerN) (w : Nat) (v : WorkerN) : Nat → WorkerN := fun k => if k = w then v else f k
def pushWN (f : Nat → WorkerN) (w : Nat) (t : Tok) : Nat → WorkerN :=
  setWN f w { f w with inq := (f w).inq ++ [t] }

def mkTokP (p : Int) (id : Int) (level : Nat) (fin : Bool) : Tok := ⟨id, p, level, if fin then .fin else .data⟩
def synTokP (p : Int) : Tok := ⟨-1, p, 0, .syn⟩
def finTokP (p : Int) (level : Nat) : Tok := ⟨-2, p, level, .fin⟩
def toPP (t : Tok) : PartProd.Tok := ⟨t.id, t.retries, t.isFin⟩

/-- one action of the partition producer of partition `p` -/
def ppActN (p : Int) (s : SysN) (lks : List (Option Nat)) : PartProd.Action → SysN × List (Option Nat)
  | .finSend l =>
    match s.cur p with
    | none => ({ s with crash := true }, lks)
    | some w => ({ s with wk := pushWN s.wk w (finTokP p l), cur := upd s.cur p none }, lks)
  | .emit id l fin =>
    match s.cur p with
    | some w => ({ s with wk := pushWN s.wk w (mkTokP p id l fin) }, lks)
    | none =>
      match lks with
      | some w :: r =>
        ({ s with cur := upd s.cur p (some w), wk := pushWN (pushWN s.wk w (synTokP p)) w (mkTokP p id l fin) }, r)
      | _ => ({ s with errs := if fin then s.errs else upd s.errs p (s.errs p ++ [id]) }, lks.tail)
  | .park _ => (s, lks)
  | .finDone => (s, lks)

def ppActsN (p : Int) (s : SysN) (lks : List (Option Nat)) : List PartProd.Action → SysN
  | [] => s
  | a :: as => ppActsN p (ppActN p s lks a).1 (ppActN p s lks a).2 as

/-- one action of a broker worker; `off q` is the offset the next acknowledged message of partition `q` gets -/
def bpActN (s : SysN) (off : Int → Nat) : Action → SysN × (Int → Nat)
  | .requeue id q r fin => ({ s with ret := s.ret ++ [⟨id, q, r, if fin then .fin else .data⟩] }, off)
  | .succ id q => ({ s with succ := upd s.succ q (s.succ q ++ [(id, off q)]) }, upd off q (off q + 1))
  | .expire id q fin => ({ s with errs := if fin then s.errs else upd s.errs q (s.errs q ++ [id]) }, off)
  | .fail id q => ({ s with errs := upd s.errs q (s.errs q ++ [id]) }, off)
  | _ => (s, off)

def bpActsN (s : SysN) (off : Int → Nat) : List Action → SysN
  | [] => s
  | a :: as => bpActsN (bpActN s off a).1 (bpActN s off a).2 as

def bpRunN (M : Nat) (s : SysN) (w : Nat) (q : List Tok) (pend : Option (RespN × (Int → Nat))) (off : Int → Nat)
    (i : In) : Option SysN :=
  if (step M (s.wk w).bp i).2 = [.disabled] then none
  else some (bpActsN { s with wk := setWN s.wk w ⟨q, (step M (s.wk w).bp i).1, pend⟩ } off (step M (s.wk w).bp i).2)

def dataIdsOf (q : Int) (ts : List Tok) : List Int :=
  ((ts.filter (fun t => t.part == q)).filter (fun t => t.kind = .data)).map (·.id)

inductive ChoiceN
  | submit (p : Int)
  | retryOut
  | dispatch
  | ppRecv (p : Int) (lks : List (Option Nat))
  | bpRecv (w : Nat) (overflow : Bool)
  | handover (w : Nat)
  | broker (w : Nat) (r : RespN)
  | deliver (w : Nat) (still : Bool)
  | moveLeader (p : Int) (b : Nat)

def sysStepN (M : Nat) (s : SysN) : ChoiceN → Option SysN
  | .submit p => some { s with next := upd s.next p (s.next p + 1), dq := s.dq ++ [mkTokP p (s.next p : Int) 0 false] }
  | .retryOut =>
    match s.ret with
    | [] => none
    | t :: r => some { s with ret := r, dq := s.dq ++ [t] }
  | .dispatch =>
    match s.dq with
    | [] => none
    | t :: r => some { s with dq := r, pq := upd s.pq t.part (s.pq t.part ++ [t]) }
  | .ppRecv p lks =>
    match s.pq p with
    | [] => none
    | t :: r => some (ppActsN p { s with pq := upd s.pq p r, pp := upd s.pp p (PartProd.recv (s.pp p) (toPP t)).1 } lks
                        (PartProd.recv (s.pp p) (toPP t)).2)
  | .bpRecv w ov =>
    match (s.wk w).inq with
    | [] => none
    | t :: r => bpRunN M s w r (s.wk w).pend (fun _ => 0) (.recv t ov)
  | .handover w => bpRunN M s w (s.wk w).inq (s.wk w).pend (fun _ => 0) .handover
  | .broker w r =>
    match (s.wk w).bp.sets, (s.wk w).pend with
    | sent :: _, none =>
      if sent.any (fun t => r.appends t.part && !(brokerOf w == s.ldr t.part)) then none
      else some { s with log := fun q => if r.appends q then s.log q ++ dataIdsOf q sent else s.log q,
                         wk := setWN s.wk w { s.wk w with pend := some (r, fun q => (s.log q).length) } }
    | _, _ => none
  | .deliver w still =>
    match (s.wk w).pend with
    | none => none
    | some (r, base) => bpRunN M s w (s.wk w).inq none base (.resp r.toResp still)
  | .moveLeader p b => some { s with ldr := upd s.ldr p b }

def runN (M : Nat) (s : SysN) : List ChoiceN → Option SysN
  | [] => some s
  | c :: cs => match sysStepN M s c with
    | none => none
    | some s' => runN M s' cs

end Model.PipelineN
