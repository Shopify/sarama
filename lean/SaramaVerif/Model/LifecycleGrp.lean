import SaramaVerif.Model.LifecycleRun
/-
  Acceptor of a consumerGroup together with the session that holds its lock (consumer_group.go: Close, Consume,
  release, heartbeatLoop).
-/
namespace Model.Lifecycle

namespace Grp

inductive Lock | free | consume | leave
  deriving Repr, DecidableEq

inductive Ev
  | closedClose | leaveLock | leaveUnlock | errorsClose | errorsSend | clientClose | closeDone
  | consumeLock | consumeUnlock
  | sessStart (n : Nat) | claimAdd (n : Nat) | claimDone (n : Nat) | release (n : Nat) | claimsJoined (n : Nat)
  | cleanup (n : Nat) | offsetsClose (n : Nat) | hbDyingClose (n : Nat) | hbDeadClose (n : Nat) | hbDeadRecv (n : Nat)
  | releaseDone (n : Nat)
  deriving Repr, DecidableEq

structure St where
  closed       : Bool := false          -- `closed` channel closed
  lock         : Lock := .free
  left         : Bool := false          -- leave() done
  errsClosed   : Bool := false
  clientClosed : Bool := false
  done         : Bool := false
  sess         : Option Nat := none     -- session of the running Consume call
  claims       : Nat := 0
  claimsDone   : Nat := 0
  releasing    : Bool := false
  joined       : Bool := false          -- waitGroup.Wait() returned
  cleaned      : Bool := false
  omClosed     : Bool := false
  hbDying      : Bool := false
  hbDead       : Bool := false
  hbRecv       : Bool := false
  released     : Bool := false
  deriving Repr

def step (s : St) : Ev → Except String St
  | .closedClose =>
    if s.closed then .error "close of closed channel: closed" else .ok { s with closed := true }
  | .leaveLock =>
    if ¬ s.closed then .error "leave: before closed was closed"
    else if s.lock ≠ .free then .error "leave: lock is held (a session is running)"
    else if s.left then .error "leave: twice"
    else .ok { s with lock := .leave }
  | .leaveUnlock =>
    if s.lock ≠ .leave then .error "leave.unlock: lock not held by leave" else .ok { s with lock := .free, left := true }
  | .errorsClose =>
    if ¬ s.left then .error "errors.close: before the group was left"
    else if s.errsClosed then .error "close of closed channel: errors"
    else .ok { s with errsClosed := true }
  | .errorsSend =>
    if s.errsClosed then .error "send on closed channel: errors" else .ok s
  | .clientClose =>
    if ¬ s.errsClosed then .error "client.close: errors still open"
    else if s.clientClosed then .error "client.close: twice"
    else .ok { s with clientClosed := true }
  | .closeDone =>
    if ¬ s.clientClosed then .error "close.done: client not closed"
    else if s.done then .error "close.done: twice"
    else .ok { s with done := true }
  | .consumeLock =>
    if s.lock ≠ .free then .error "consume: lock is held"
    else .ok { s with lock := .consume, sess := none }
  | .consumeUnlock =>
    if s.lock ≠ .consume then .error "consume.unlock: lock not held by Consume"
    else if s.sess.isSome ∧ ¬ s.released then .error "consume.unlock: session not released"
    else .ok { s with lock := .free, sess := none }
  | .sessStart n =>
    if s.lock ≠ .consume then .error "session.start: Consume does not hold the lock"
    else if s.sess.isSome then .error "session.start: a session is running"
    else if s.left then .error "session.start: after the group was left"
    else .ok { s with sess := some n, claims := 0, claimsDone := 0, releasing := false, joined := false, cleaned := false,
                      omClosed := false, hbDying := false, hbDead := false, hbRecv := false, released := false }
  | .claimAdd n =>
    if s.sess ≠ some n then .error "claim.add: not the running session"
    else if s.releasing then .error "claim.add: session is being released"
    else .ok { s with claims := s.claims + 1 }
  | .claimDone n =>
    if s.sess ≠ some n then .error "claim.done: not the running session"
    else if s.claims ≤ s.claimsDone then .error "claim.done: more than were started"
    else .ok { s with claimsDone := s.claimsDone + 1 }
  | .release n =>
    if s.sess ≠ some n then .error "release: not the running session"
    else .ok { s with releasing := true }
  | .claimsJoined n =>
    if s.sess ≠ some n then .error "claims.joined: not the running session"
    else if ¬ s.releasing then .error "claims.joined: release not started"
    else if s.claimsDone ≠ s.claims then .error "claims.joined: a claim goroutine is still running"
    else .ok { s with joined := true }
  | .cleanup n =>
    if s.sess ≠ some n then .error "cleanup: not the running session"
    else if ¬ s.joined then .error "cleanup: claims not joined"
    else if s.cleaned then .error "cleanup: twice"
    else if s.omClosed then .error "cleanup: after the offset manager was closed"
    else .ok { s with cleaned := true }
  | .offsetsClose n =>
    if s.sess ≠ some n then .error "offsets.close: not the running session"
    else if ¬ s.joined then .error "offsets.close: claims not joined"
    else if s.omClosed then .error "offsets.close: twice"
    else .ok { s with omClosed := true }
  | .hbDyingClose n =>
    if s.sess ≠ some n then .error "hbDying.close: not the running session"
    else if ¬ s.omClosed then .error "hbDying.close: offset manager not closed"
    else if s.hbDying then .error "close of closed channel: hbDying"
    else .ok { s with hbDying := true }
  | .hbDeadClose n =>
    if s.sess ≠ some n then .error "hbDead.close: not the running session"
    else if s.hbDead then .error "close of closed channel: hbDead"
    else .ok { s with hbDead := true }
  | .hbDeadRecv n =>
    if s.sess ≠ some n then .error "hbDead.recv: not the running session"
    else if ¬ s.hbDying then .error "hbDead.recv: hbDying not closed"
    else if ¬ s.hbDead then .error "hbDead.recv: the heartbeat loop has not exited"
    else .ok { s with hbRecv := true }
  | .releaseDone n =>
    if s.sess ≠ some n then .error "release.done: not the running session"
    else if ¬ s.hbRecv then .error "release.done: heartbeat loop not awaited"
    else .ok { s with released := true }

abbrev run := runWith step

def internal : Ev → Bool
  | .closedClose | .consumeLock | .sessStart _ | .claimAdd _ | .errorsSend => false
  | _ => true

end Grp

end Model.Lifecycle
