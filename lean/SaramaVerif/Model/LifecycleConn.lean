import SaramaVerif.Model.LifecycleRun
/-
  Acceptors of the two objects that hold the connections: the client (client.go: Close, backgroundMetadataUpdater) and a
  Broker (broker.go: Open, send, responseReceiver, Close).
-/
namespace Model.Lifecycle

/-! ## client -/
namespace Cli

inductive Ev | closerClose | closedClose | closedRecv | brokerClose | mapsNil | closeAgain
  deriving Repr, DecidableEq

structure St where
  closer  : Bool := false   -- `closer` closed
  closed  : Bool := false   -- `closed` closed (background updater returned)
  waited  : Bool := false   -- Close received from `closed`
  brokers : Nat := 0
  nilled  : Bool := false   -- brokers / metadata maps set to nil: Closed() is true
  again   : Nat := 0
  deriving Repr

def step (s : St) : Ev → Except String St
  | .closerClose =>
    if s.closer then .error "close of closed channel: closer" else .ok { s with closer := true }
  | .closedClose =>
    if s.closed then .error "close of closed channel: closed" else .ok { s with closed := true }
  | .closedRecv =>
    if ¬ s.closer then .error "closed.recv: closer still open"
    else if ¬ s.closed then .error "closed.recv: the background updater has not returned"
    else if s.waited then .error "closed.recv: twice"
    else .ok { s with waited := true }
  | .brokerClose =>
    if ¬ s.waited then .error "broker.close: background updater not awaited"
    else if s.nilled then .error "broker.close: after the maps were dropped"
    else .ok { s with brokers := s.brokers + 1 }
  | .mapsNil =>
    if ¬ s.waited then .error "maps.nil: background updater not awaited"
    else if s.nilled then .error "maps.nil: twice"
    else .ok { s with nilled := true }
  | .closeAgain =>
    if ¬ s.nilled then .error "close.again: ErrClosedClient from a client that is not closed"
    else .ok { s with again := s.again + 1 }

abbrev run := runWith step

def internal : Ev → Bool
  | .closerClose | .closeAgain => false
  | _ => true

def rank (s : St) : Nat :=
  (if s.closed then 0 else 1) + (if s.waited then 0 else 1) + (if s.nilled then 0 else 2)

end Cli

/-! ## broker connection -/
namespace Br

inductive Ev | open_ | send | recv | respClose | doneClose | connClose | closeNotConn
  deriving Repr, DecidableEq

structure St where
  conn       : Bool := false   -- connected: `responses` and `done` exist
  pending    : Nat := 0        -- promises in `responses`
  respClosed : Bool := false
  doneClosed : Bool := false
  epochs     : Nat := 0        -- completed open/close cycles
  deriving Repr

def step (s : St) : Ev → Except String St
  | .open_ =>
    if s.conn then .error "open: already connected"
    else .ok { s with conn := true, pending := 0, respClosed := false, doneClosed := false }
  | .send =>
    if ¬ s.conn then .error "responses.send: not connected"
    else if s.respClosed then .error "send on closed channel: responses"
    else .ok { s with pending := s.pending + 1 }
  | .recv =>
    if s.pending = 0 then .error "responses.recv: nothing pending"
    else if s.doneClosed then .error "responses.recv: after the receiver returned"
    else .ok { s with pending := s.pending - 1 }
  | .respClose =>
    if ¬ s.conn then .error "responses.close: not connected"
    else if s.respClosed then .error "close of closed channel: responses"
    else .ok { s with respClosed := true }
  | .doneClose =>
    if ¬ s.respClosed then .error "done.close: responses still open"
    else if s.pending ≠ 0 then .error "done.close: promises still pending"
    else if s.doneClosed then .error "close of closed channel: done"
    else .ok { s with doneClosed := true }
  | .connClose =>
    if ¬ s.doneClosed then .error "conn.close: the response receiver has not returned"
    else .ok { s with conn := false, respClosed := false, doneClosed := false, epochs := s.epochs + 1 }
  | .closeNotConn =>
    if s.conn then .error "close: ErrNotConnected from a connected broker" else .ok s

abbrev run := runWith step

def internal : Ev → Bool
  | .recv | .doneClose | .connClose => true
  | _ => false

/-- steps left to Close once `responses` is closed -/
def rank (s : St) : Nat := if s.conn then s.pending + (if s.doneClosed then 0 else 1) + 1 else 0

end Br

end Model.Lifecycle
