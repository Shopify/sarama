import SaramaVerif.Model.LifecycleRun
/-
  Acceptor of a partitionConsumer (consumer.go: AsyncClose, dispatcher, responseFeeder, the broker worker's actions on
  it).  `owner` records who holds the child (a broker worker, its dispatcher, or its feeder on the slow-reader path); most
  guards of `step` ask that the goroutine that acts is the holder.
-/
namespace Model.Lifecycle

namespace PC

inductive Owner
  | nobody            -- created, not yet handed to a broker worker
  | bc (b : Nat)      -- subscribed to (or on its way into) broker worker b
  | disp              -- handed back to its dispatcher (trigger token / trigger closed)
  | feeder            -- slow-reader path: the feeder will resubscribe it
  deriving Repr, DecidableEq

inductive Src | new | disp | feeder
  deriving Repr, DecidableEq

inductive Ev
  | start
  | inputSend (w : Src) (b : Nat)   -- `child.broker.input <- child`
  | dyingClose                      -- AsyncClose (inside closeOnce): close(dying)
  | dispToken                       -- dispatcher received a token from trigger
  | trigSendDisp                    -- dispatcher: dispatch failed, `trigger <- none{}` to itself
  | trigSendBc (b : Nat)            -- broker worker: `child.trigger <- none{}` (handleResponses / abort)
  | trigCloseDisp                   -- dispatcher: dying seen, close(trigger)
  | trigCloseBc (b : Nat) (oor : Bool) -- broker worker: close(trigger) (dying seen / offset out of range)
  | unrefRedispatch (b : Nat)       -- dispatcher gives up its reference before redispatching
  | unrefExit (b : Nat)             -- dispatcher gives up its reference after its loop
  | remove                          -- consumer.removeChild
  | feederClose                     -- dispatcher: close(child.feeder)
  | feederSend (b : Nat)            -- broker worker: `child.feeder <- response`
  | feederRecv                      -- feeder took a response
  | msgSend                         -- feeder: send on Messages() done
  | ack (why : Nat)                 -- feeder releases the broker worker (0 done, 1 dying, 2 slow reader)
  | errSend                         -- sendError: `child.errors <- err`
  | feederExit                      -- feeder left its loop
  | msgsClose                       -- close(child.messages)
  | errsClose                       -- close(child.errors)
  deriving Repr, DecidableEq

structure St where
  started      : Bool := false
  dying        : Bool := false
  owner        : Owner := .nobody
  busy         : Bool := false        -- the dispatcher is handling a token
  token        : Bool := false        -- a token is buffered in trigger
  trigClosed   : Bool := false
  ref          : Option Nat := none   -- child.broker: the broker worker it holds a reference on
  exiting      : Bool := false        -- the dispatcher left its loop
  removed      : Bool := false
  feederClosed : Bool := false        -- child.feeder closed
  inflight     : Bool := false        -- a response sits in child.feeder
  feeding      : Bool := false        -- the feeder has an unacknowledged response in hand
  slow         : Bool := false        -- slow-reader path (between ack 2 and the resubscription)
  feederExited : Bool := false
  msgsClosed   : Bool := false
  errsClosed   : Bool := false
  deriving Repr

def step (s : St) : Ev → Except String St
  | .start =>
    if s.started then .error "start: twice" else .ok { s with started := true }
  | .inputSend .new b =>
    if ¬ s.started then .error "input.send(new): not started"
    else if s.owner ≠ .nobody then .error "input.send(new): already subscribed"
    else .ok { s with owner := .bc b, ref := some b }
  | .inputSend .disp b =>
    if ¬ s.busy then .error "input.send(disp): the dispatcher holds no token"
    else if s.owner ≠ .disp then .error "input.send(disp): the dispatcher does not own the child"
    else if s.trigClosed then .error "input.send(disp): after trigger was closed"
    else if s.ref.isSome then .error "input.send(disp): old broker reference not returned"
    else .ok { s with owner := .bc b, ref := some b, busy := false }
  | .inputSend .feeder b =>
    if s.owner ≠ .feeder then .error "input.send(feeder): not on the slow-reader path"
    else if s.ref ≠ some b then .error "input.send(feeder): resubscription to a broker worker it holds no reference on"
    else .ok { s with owner := .bc b, slow := false }
  | .dyingClose =>
    if ¬ s.started then .error "dying.close: not started"
    else if s.dying then .error "close of closed channel: dying"
    else .ok { s with dying := true }
  | .dispToken =>
    if ¬ s.token then .error "disp.token: no token in trigger"
    else if s.busy then .error "disp.token: dispatcher still busy"
    else if s.exiting then .error "disp.token: dispatcher left its loop"
    else if s.owner ≠ .disp then .error "disp.token: child not handed to the dispatcher"
    else .ok { s with token := false, busy := true }
  | .trigSendDisp =>
    if ¬ s.busy then .error "trigger.send(disp): the dispatcher holds no token"
    else if s.owner ≠ .disp then .error "trigger.send(disp): the dispatcher does not own the child"
    else if s.trigClosed then .error "send on closed channel: trigger"
    else if s.token then .error "trigger.send(disp): trigger is full"
    else .ok { s with token := true, busy := false }
  | .trigSendBc b =>
    if s.owner ≠ .bc b then .error "trigger.send(bc): the broker worker does not own the child"
    else if s.trigClosed then .error "send on closed channel: trigger"
    else if s.token then .error "trigger.send(bc): trigger is full"
    else .ok { s with token := true, owner := .disp }
  | .trigCloseDisp =>
    if ¬ s.busy then .error "trigger.close(disp): the dispatcher holds no token"
    else if s.owner ≠ .disp then .error "trigger.close(disp): the dispatcher does not own the child"
    else if ¬ s.dying then .error "trigger.close(disp): not dying"
    else if s.trigClosed then .error "close of closed channel: trigger"
    else .ok { s with trigClosed := true }
  | .trigCloseBc b oor =>
    if s.owner ≠ .bc b then .error "trigger.close(bc): the broker worker does not own the child"
    else if ¬ (oor ∨ s.dying) then .error "trigger.close(bc): neither dying nor out of range"
    else if s.trigClosed then .error "close of closed channel: trigger"
    else .ok { s with trigClosed := true, owner := .disp }
  | .unrefRedispatch b =>
    if ¬ s.busy then .error "unref(redispatch): the dispatcher holds no token"
    else if s.trigClosed then .error "unref(redispatch): after trigger was closed"
    else if s.ref ≠ some b then .error "unref(redispatch): not the broker worker it holds a reference on"
    else .ok { s with ref := none }
  | .unrefExit b =>
    if ¬ s.trigClosed then .error "unref(exit): trigger still open"
    else if s.owner ≠ .disp then .error "unref(exit): the dispatcher does not own the child"
    else if s.exiting then .error "unref(exit): twice"
    else if s.ref ≠ some b then .error "unref(exit): not the broker worker it holds a reference on"
    else .ok { s with ref := none, exiting := true, busy := false }
  | .remove =>
    if ¬ s.trigClosed then .error "remove: trigger still open"
    else if s.owner ≠ .disp then .error "remove: the dispatcher does not own the child"
    else if s.removed then .error "remove: twice"
    else if s.ref.isSome then .error "remove: broker reference not returned"
    else .ok { s with removed := true, exiting := true, busy := false }
  | .feederClose =>
    if ¬ s.removed then .error "feeder.close: child not removed from the consumer"
    else if s.feederClosed then .error "close of closed channel: feeder"
    else .ok { s with feederClosed := true }
  | .feederSend b =>
    if s.owner ≠ .bc b then .error "feeder.send: the broker worker does not own the child"
    else if s.feederClosed then .error "send on closed channel: feeder"
    else if s.inflight ∨ s.feeding then .error "feeder.send: previous response not acknowledged"
    else .ok { s with inflight := true }
  | .feederRecv =>
    if ¬ s.inflight then .error "feeder.recv: nothing in the feeder channel"
    else .ok { s with inflight := false, feeding := true }
  | .msgSend =>
    if ¬ (s.feeding ∨ s.slow) then .error "messages.send: the feeder has no response in hand"
    else if s.msgsClosed then .error "send on closed channel: messages"
    else .ok s
  | .ack why =>
    if ¬ s.feeding then .error "ack: no unacknowledged response"
    else if why = 2 then
      match s.owner with
      | .bc _ => .ok { s with feeding := false, slow := true, owner := .feeder }
      | _ => .error "ack(slow): child not subscribed to a broker worker"
    else .ok { s with feeding := false }
  | .errSend =>
    if s.trigClosed then .error "errors.send: after trigger was closed (the sender no longer owns the child)"
    else if s.errsClosed then .error "send on closed channel: errors"
    else .ok s
  | .feederExit =>
    if ¬ s.feederClosed then .error "feeder.exit: feeder channel still open"
    else if s.inflight ∨ s.feeding ∨ s.slow then .error "feeder.exit: a response is still being fed"
    else if s.feederExited then .error "feeder.exit: twice"
    else .ok { s with feederExited := true }
  | .msgsClose =>
    if ¬ s.feederExited then .error "messages.close: the feeder is still running"
    else if s.msgsClosed then .error "close of closed channel: messages"
    else .ok { s with msgsClosed := true }
  | .errsClose =>
    if ¬ s.msgsClosed then .error "errors.close: messages still open"
    else if s.errsClosed then .error "close of closed channel: errors"
    else .ok { s with errsClosed := true }

abbrev run := runWith step

/-- events that need no further call of the application: those of the component's own goroutines and of the broker
    worker, and the first subscription `inputSend .new`, which ConsumePartition performs itself before it returns -/
def internal : Ev → Bool
  | .start => false
  | .dyingClose => false
  | _ => true

end PC

end Model.Lifecycle
