import SaramaVerif.Model.ConsumerParse
/-
  Specification side of C03 / C11: partition logs, what is application-visible in them, what a faithful
  broker may answer to a fetch at a given offset.  Definitions only (the theorems are in Lemmas/C03*, Lemmas/C11*, Props/C03, Props/C11).
-/
namespace Model.ConsumerParse

/-- one storage unit of a partition log: a legacy top-level message block or a record batch -/
inductive LUnit
  | blk (b : LBlock)
  | bat (b : Batch)
  deriving DecidableEq, Repr

/-- the units an entry of a response consists of -/
def entryUnits : Entry → List LUnit
  | .legacy blks => blks.map .blk
  | .batch b => [.bat b]

/-- the records a unit stores (absolute offset, payload, timestamp by the rule of its format) -/
def unitRecs (tsw : Bool) : LUnit → List SRec
  | .blk b => blockRecs tsw b
  | .bat b => batchRecs b

/-- last offset of the unit's range (a wrapper carries the offset of its last inner message) -/
def unitHi : LUnit → Int
  | .blk b => b.off
  | .bat b => batchLast b

def unitIsControl : LUnit → Bool
  | .blk _ => false
  | .bat b => b.control

def unitIsTxn : LUnit → Bool
  | .blk _ => false
  | .bat b => b.txn

/-- strictly ascending offsets, all above `bnd` -/
def Asc (bnd : Int) : List SRec → Prop
  | [] => True
  | r :: rs => bnd < r.off ∧ Asc r.off rs

/-- well-formed log above `bnd`: the records of every unit ascend and lie in (previous last offset, own last
    offset]; last offsets strictly increase (unit ranges are disjoint and ordered).  Gaps left by compaction
    (missing offsets, records removed at either end of a batch, empty batches) are allowed. -/
def LogWF (tsw : Bool) (bnd : Int) : List LUnit → Prop
  | [] => True
  | u :: us => Asc bnd (unitRecs tsw u) ∧ (∀ r ∈ unitRecs tsw u, r.off ≤ unitHi u) ∧ bnd < unitHi u ∧
               LogWF tsw (unitHi u) us

/-- application-visible records of a log under read-uncommitted: everything except control batches -/
def visible (tsw : Bool) (L : List LUnit) : List SRec :=
  L.flatMap (fun u => if unitIsControl u then [] else unitRecs tsw u)

/-- the records with `a ≤ off < b` -/
def window (a b : Int) (l : List SRec) : List SRec := l.filter (fun r => decide (a ≤ r.off ∧ r.off < b))

/-- what a consumer started at `S` has to deliver: visible records with offset ≥ S -/
def visibleFrom (S : Int) (vis : List SRec) : List SRec := vis.filter (fun r => decide (S ≤ r.off))

/-- a control batch whose control record cannot be read -/
def entryBadCtl : Entry → Bool
  | .legacy _ => false
  | .batch b => b.control && Ctl.bad b

/-- `es` is the content of a faithful data response to a fetch at `o` from log `L`: a run of consecutive
    units of the log, beginning with the first unit whose range reaches `o` (everything before ends below `o`),
    cut anywhere; legacy blocks arrive as non-empty message sets; control batches are readable. -/
def FaithfulData (L : List LUnit) (o : Int) (es : List Entry) : Prop :=
  ∃ pre post, L = pre ++ es.flatMap entryUnits ++ post ∧ (∀ u ∈ pre, unitHi u < o) ∧
    (∀ u, (es.flatMap entryUnits).head? = some u → o ≤ unitHi u) ∧
    (∀ blks, Entry.legacy blks ∈ es → blks ≠ []) ∧ (∀ e ∈ es, entryBadCtl e = false)

/-- a faithful response for state `st`: error block, missing block, throttled-empty, or faithful data, where
    partial-only data (no complete record set) is never sent when the fetch size has reached a non-zero `Fetch.Max`.
    (A broker sends partial-only data only because the next unit does not fit into the asked fetch size; the guard
    follows when every unit fits into `Fetch.Max`: `Props.C03.fetch_max_guard`.) -/
def FaithfulResp (cfg : Cfg) (L : List LUnit) (st : PState) : Block → Prop
  | .data es partialTrail _ => FaithfulData L st.offset es ∧
      (partialTrail = true → nRecs es = 0 → ¬ (cfg.fetchMax > 0 ∧ st.fetchSize = cfg.fetchMax))
  | _ => True

/-- every response of a history is faithful for the state the consumer is in when it arrives -/
def FaithfulHist (cfg : Cfg) (L : List LUnit) : PState → List Block → Prop
  | _, [] => True
  | st, b :: bs => FaithfulResp cfg L st b ∧ FaithfulHist cfg L (parseBlock cfg st b).2.1 bs

/-- a response that carries at least one complete non-empty record set -/
def productive : Block → Bool
  | .data es _ _ => nRecs es ≠ 0
  | _ => false

end Model.ConsumerParse
