import SaramaVerif.Model.BalanceStickyPieces
/-
  Op-level model of `stickyBalanceStrategy.Plan` / `balance` / `performReassignments` (balance_strategy.go).

  The Go code iterates over several maps; instead of fixing those orders the model exposes the state changes the
  code can make as operations whose guards are THE CODE'S OWN CONDITIONS.  Every run of the Go code that returns
  is a finite sequence of accepted operations followed by `finish`; the theorems (Props/C08, Props/C13) hold for
  every accepted sequence.  (`performReassignments` need not terminate — see the known finding — so the theorems
  are about the plans that are returned.)

  Two variants.  `.pinned` is upstream's code, the tree before the two `fix:` commits of /repo to this file:
    * the "previous owner" branch of `performReassignments` moves the partition to
      `prevAssignment[partition].MemberID` after comparing sizes only;
    * the revert in `balance` assigns the restored copy to its local parameter, so `Plan` keeps the un-reverted map
      and the fixed assignments are added to the copy only.
  `.guarded` requires in the first place that the previous owner is still subject to reassignment (a key of the
  working assignment) and may take the partition, and in the second place reverts the map `Plan` goes on to use;
  it is what the tree of /repo does.
-/
namespace Model.Balance

inductive Variant | pinned | guarded
  deriving DecidableEq, Repr

/-- `currentPartitionConsumer` -/
abbrev OwnerMap := List (TP × Member)

def ownerGet (o : OwnerMap) (p : TP) : Option Member := (o.find? (fun e => e.1 == p)).map (·.2)
def ownerSet (o : OwnerMap) (p : TP) (m : Member) : OwnerMap := (p, m) :: o.filter (fun e => !(e.1 == p))

/-- working state of `balance` -/
structure SState where
  cur : Asg                          -- currentAssignment (members still subject to reassignment)
  owner : OwnerMap                   -- currentPartitionConsumer
  fixed : Asg                        -- fixedAssignments (parked members)
  moves : Movements                  -- s.movements
  snap : Option (Asg × OwnerMap)     -- preBalanceAssignment / preBalancePartitionConsumers
  performed : Bool                   -- reassignmentPerformed
  reverted : Bool
  assigned : Bool                    -- the loop over unassignedPartitions has run
  deriving Repr

/-- what does not change during `balance` -/
structure SEnv where
  pot : Asg                          -- consumer2AllPotentialPartitions
  prev : List (TP × Member)          -- prevAssignment (member only)
  reassignable : List TP             -- sortedPartitions after the "can participate" filter
  initializing : Bool
  parts : List TP                    -- all partitions of the `topics` argument

def prevOf (env : SEnv) (p : TP) : Option Member := (env.prev.find? (fun e => e.1 == p)).map (·.2)

/-- `processPartitionMovement(partition, newConsumer, …)` -/
def processMove (st : SState) (p : TP) (new : Member) : SState :=
  match ownerGet st.owner p with
  | some old =>
    { st with
      moves := movePartition st.moves p old new
      cur := AL.set (AL.set st.cur old ((AL.get st.cur old).erase p)) new
               (AL.get (AL.set st.cur old ((AL.get st.cur old).erase p)) new ++ [p])
      owner := ownerSet st.owner p new
      performed := true }
  | none =>
    -- Go reads the zero value "" here and works on currentAssignment[""]; unreachable once every partition in
    -- reach has a recorded consumer (invariant), kept total for the model
    { st with cur := AL.set st.cur new (AL.get st.cur new ++ [p]), owner := ownerSet st.owner p new,
              performed := true }

inductive SOp
  | assignAll (us : List TP) -- the loop over unassignedPartitions, visited in the order `us`
  | park (m : Member)        -- a member that cannot take part goes to fixedAssignments
  | snapshot                 -- deep copy before performReassignments
  | movePrev (p q : TP)      -- "previous owner" branch for p; q = the partition actually moved
  | moveOther (p q : TP)     -- "better suited consumer" branch for p; q = the partition actually moved
  | revert                   -- balance score did not improve
  deriving Repr, DecidableEq

def sizeIn (cur : Asg) (m : Member) : Nat := (AL.get cur m).length

/-- is `q` an admissible answer of `getTheActualPartitionToBeMoved(p, old, new)` -/
def actualOK (mv : Movements) (p q : TP) (old new : Member) : Bool :=
  match actualCandidates mv p old new with
  | none => q == p
  | some l => l.contains q

/-- the first member of the sorted list that may take `p` (`reassignPartitionToNewConsumer`) -/
def newConsumerFor (cur pot : Asg) (p : TP) : Option Member :=
  (sortMembers cur).find? (fun m => (AL.get pot m).contains p)

/-- `unassignedPartitions`: the existing partitions nobody holds -/
def todoOf (env : SEnv) (cur : Asg) : List TP := env.parts.filter (fun p => AL.countAll cur p == 0)

/-- one round of the loop over unassignedPartitions: skip partitions nobody can take, else `assignPartition` -/
def assignOne (env : SEnv) (co : Asg × OwnerMap) (p : TP) : Asg × OwnerMap :=
  if (consumersOf env.pot p).isEmpty then co else
  match assignPartition p (sortMembers co.1) co.1 env.pot with
  | (cur', some m) => (cur', ownerSet co.2 p m)
  | (_, none) => co

/-- guard of an operation = the conditions the code checks before doing it (plus the phase it happens in) -/
def guard (v : Variant) (env : SEnv) (st : SState) : SOp → Bool
  | .assignAll us =>
    !st.assigned && st.fixed.isEmpty && st.snap.isNone && us.isPerm (todoOf env st.cur)
  | .park m =>
    st.assigned && st.snap.isNone && AL.hasKey st.cur m && !canConsumerParticipate m st.cur env.pot
  | .snapshot => st.assigned && st.snap.isNone
  | .movePrev p q =>
    st.snap.isSome && !st.reverted &&
    env.reassignable.contains p && !isBalanced st.cur env.pot &&
    (match ownerGet st.owner p, prevOf env p with
     | some c, some pm =>
        decide (sizeIn st.cur c > sizeIn st.cur pm + 1) && actualOK st.moves p q c pm &&
        (match v with
         | .pinned => true
         | .guarded => AL.hasKey st.cur pm && (AL.get env.pot pm).contains p)
     | _, _ => false)
  | .moveOther p q =>
    st.snap.isSome && !st.reverted &&
    env.reassignable.contains p && !isBalanced st.cur env.pot &&
    (match ownerGet st.owner p, newConsumerFor st.cur env.pot p with
     | some c, some new =>
        (consumersOf env.pot p).any (fun o => decide (sizeIn st.cur c > sizeIn st.cur o + 1)) &&
        actualOK st.moves p q c new
     | _, _ => false)
  | .revert =>
    !env.initializing && st.performed && !st.reverted &&
    (match st.snap with
     | some s => decide (balanceScore st.cur ≥ balanceScore s.1)
     | none => false)

/-- effect of an operation -/
def apply (v : Variant) (env : SEnv) (st : SState) : SOp → SState
  | .assignAll us =>
    { st with cur := (us.foldl (assignOne env) (st.cur, st.owner)).1,
              owner := (us.foldl (assignOne env) (st.cur, st.owner)).2, assigned := true }
  | .park m => { st with fixed := AL.set st.fixed m (AL.get st.cur m), cur := AL.erase st.cur m }
  | .snapshot => { st with snap := some (st.cur, st.owner), performed := false }
  | .movePrev p q =>
    match prevOf env p with
    | some pm => processMove st q pm
    | none => st
  | .moveOther p q =>
    match newConsumerFor st.cur env.pot p with
    | some new => processMove st q new
    | none => st
  | .revert =>
    match v, st.snap with
    | .guarded, some s => { st with cur := s.1, owner := s.2, reverted := true }
    | _, _ => { st with reverted := true }

/-- run a sequence of operations; `none` as soon as a guard fails -/
def runOps (v : Variant) (env : SEnv) : SState → List SOp → Option SState
  | st, [] => some st
  | st, op :: rest => if guard v env st op then runOps v env (apply v env st op) rest else none

/-- `for consumer, assignments := range fixedAssignments { currentAssignment[consumer] = assignments }` -/
def addFixed (cur fixed : Asg) : Asg := fixed.foldl (fun c e => AL.set c e.1 e.2) cur

/-- the assignment `Plan` assembles its result from -/
def finish (v : Variant) (st : SState) : Plan :=
  match v, st.reverted with
  | .pinned, true => st.cur      -- the fixed assignments went into the local copy only
  | _, _ => addFixed st.cur st.fixed

/-! ### the state `balance` starts from (what `Plan` computes before calling it) -/

/-- `consumer2AllPotentialPartitions` -/
def potOf (ms : Members) (ts : Topics) : Asg :=
  ms.map (fun e => (e.1, e.2.flatMap (fun t => if topicExists ts t then (partsOf ts t).map (fun p => (t, p)) else [])))

/-- all partitions of the `topics` argument -/
def allParts (ts : Topics) : List TP := ts.flatMap (fun e => e.2.map (fun p => (e.1, p)))

/-- one prepopulated partition is kept by its owner if the owner is a member, the partition still exists and the
    owner still lists its topic -/
def keepClaim (ms : Members) (ts : Topics) (cur : Asg) (x : TP × Member × Option Member) : Asg :=
  if isMember ms x.2.1 && (allParts ts).contains x.1 && subscribed ms x.2.1 x.1.1
  then AL.set cur x.2.1 (AL.get cur x.2.1 ++ [x.1]) else cur

/-- `currentAssignment` after the filter loop of `Plan`: every member is a key -/
def initCur (ms : Members) (ts : Topics) (pp : List (TP × Member × Option Member)) : Asg :=
  pp.foldl (keepClaim ms ts) (ms.map (fun e => (e.1, [])))

/-- `currentPartitionConsumers` after that loop -/
def initOwner (ts : Topics) (pp : List (TP × Member × Option Member)) : OwnerMap :=
  (pp.filter (fun x => (allParts ts).contains x.1)).map (fun x => (x.1, x.2.1))

def initState (ms : Members) (ts : Topics) (pp : List (TP × Member × Option Member)) : SState :=
  { cur := initCur ms ts pp, owner := initOwner ts pp, fixed := [], moves := [], snap := none,
    performed := false, reverted := false, assigned := false }

end Model.Balance
