/-
  Model of the ClusterAdmin operations of admin.go that property C19 talks about (core Lean only).

  * `retryOnError`  – the retry wrapper (fuel = number of attempts the configured `Admin.Retry.Max`
    allows; the back-off sleep is ignored).
  * controller-bound operations (`CreateTopic`, `DeleteTopic`, `CreatePartitions`,
    `AlterPartitionReassignments`) as functions over a *script*: for attempt `i` the world says which
    broker the client's metadata names as controller (`ctrl i`; `ctrl 0` is the cached id at the start,
    `ctrl (i+1)` is what a `refreshController` made after attempt `i` learns) and what the broker that
    receives attempt `i` answers (`reply i`).
  * leader / coordinator bound operations (`DeleteRecords`, `DescribeConsumerGroups`,
    `DeleteConsumerGroup`, `ListConsumerGroupOffsets`, `DescribeLogDirs`): grouping of the items by the
    broker that owns them, one request per broker, aggregation of the answers.

  Broker answers, leadership, coordinators and the controller's whereabouts are parameters (scripts).
  The model follows the code that exists; behaviours of the pinned tree that contradict the property are
  selected by `Variant` flags (see `Variant.pinned` / `Variant.fixed`).
-/
namespace Model.Admin

/-! ## Kafka versions (`KafkaVersion.IsAtLeast`) and request-version selection -/

/-- `KafkaVersion.IsAtLeast` on the four components -/
def isAtLeast : List Nat → List Nat → Bool
  | a :: as, b :: bs => if a > b then true else if a < b then false else isAtLeast as bs
  | _, _ => true

def V0_8_2_2 : List Nat := [0, 8, 2, 2]
def V0_9_0_0 : List Nat := [0, 9, 0, 0]
def V0_10_0_0 : List Nat := [0, 10, 0, 0]
def V0_10_1_0 : List Nat := [0, 10, 1, 0]
def V0_10_2_0 : List Nat := [0, 10, 2, 0]
def V0_11_0_0 : List Nat := [0, 11, 0, 0]
def V1_0_0_0 : List Nat := [1, 0, 0, 0]
def V1_1_0_0 : List Nat := [1, 1, 0, 0]
def V2_4_0_0 : List Nat := [2, 4, 0, 0]

/-- `CreateTopic`: `request.Version` from two flags (`IsAtLeast(V0_11_0_0)`, `IsAtLeast(V1_0_0_0)`) -/
def createTopicsVersionOf (ge011 ge100 : Bool) : Nat :=
  if ge100 then 2 else if ge011 then 1 else 0

def createTopicsVersion (kv : List Nat) : Nat :=
  createTopicsVersionOf (isAtLeast kv V0_11_0_0) (isAtLeast kv V1_0_0_0)

/-- `DeleteTopic`: `request.Version` -/
def deleteTopicsVersionOf (ge011 : Bool) : Nat := if ge011 then 1 else 0
def deleteTopicsVersion (kv : List Nat) : Nat := deleteTopicsVersionOf (isAtLeast kv V0_11_0_0)

/-- `ListConsumerGroupOffsets`: `request.Version` (if / else-if chain) -/
def offsetFetchVersionOf (ge0102 ge0822 : Bool) : Nat :=
  if ge0102 then 2 else if ge0822 then 1 else 0
def offsetFetchVersion (kv : List Nat) : Nat :=
  offsetFetchVersionOf (isAtLeast kv V0_10_2_0) (isAtLeast kv V0_8_2_2)

/-- `CreateTopicsRequest.requiredVersion` / `DeleteTopicsRequest.requiredVersion` -/
def createTopicsRequired (ver : Nat) : List Nat :=
  if ver = 2 then V1_0_0_0 else if ver = 1 then V0_11_0_0 else V0_10_1_0
def deleteTopicsRequired (ver : Nat) : List Nat :=
  if ver = 1 then V0_11_0_0 else V0_10_1_0

/-! ## Errors -/

/-- Kafka error code NOT_CONTROLLER -/
def NOT_CONTROLLER : Int := 41

/-- one entry of an aggregated error (`ErrReassignPartitions` / `ErrDeleteRecords`) -/
inductive Cause
  | code (c : Int)     -- an error code reported by a broker
  | transport          -- the call to a broker failed (no usable response)
  | incomplete         -- `ErrIncompleteResponse`
  | unsupported        -- `ErrUnsupportedVersion` from `Broker.send` (nothing was sent)
  deriving DecidableEq, Repr

/-- what an admin operation returns as `error` (nil = `none`) -/
inductive Err
  | kerr (c : Int)             -- the broker's code as `KError` / `*TopicError` / `*TopicPartitionError`
  | incomplete                 -- `ErrIncompleteResponse`
  | transport                  -- error of the broker call itself
  | unsupported                -- `ErrUnsupportedVersion`, nothing sent
  | wrapped (cs : List Cause)  -- `ErrReassignPartitions{…}` / `ErrDeleteRecords{…}`
  | lookup (c : Int)           -- leader / coordinator lookup failed with this code, nothing sent
  deriving DecidableEq, Repr

abbrev Outcome := Option Err

/-- `isErrNoController`: a `*TopicError`, `*TopicPartitionError` or `KError` whose code is NOT_CONTROLLER -/
def isErrNoController : Err → Bool
  | .kerr c => c == NOT_CONTROLLER
  | _ => false

/-! ## `retryOnError` -/

/-- how many attempts `Admin.Retry.Max` buys.
    `asIs`: the pinned loop `for attempt := 0; attempt < Max; attempt++` (finding F10a: with `Max = 0` –
    accepted by `Config.Validate` – the function is never called and `nil` is returned);
    `atLeastOne`: the minimal repair (always one attempt); `plusOne`: `Max` counts retries (upstream). -/
inductive Budget | asIs | atLeastOne | plusOne
  deriving DecidableEq, Repr

def attempts : Budget → Int → Nat
  | .asIs, m => m.toNat
  | .atLeastOne, m => if m.toNat = 0 then 1 else m.toNat
  | .plusOne, m => m.toNat + 1

/-- the loop of `retryOnError` with `fuel` iterations left; `last` is the variable `err` -/
def retryLoop {σ : Type} (retryable : Err → Bool) (fn : σ → σ × Outcome) : Nat → σ → Outcome → σ × Outcome
  | 0, s, last => (s, last)
  | fuel + 1, s, _ =>
    match fn s with
    | (s', none) => (s', none)
    | (s', some e) => if retryable e then retryLoop retryable fn fuel s' (some e) else (s', some e)

def retryOnError {σ : Type} (b : Budget) (max : Int) (retryable : Err → Bool) (fn : σ → σ × Outcome) (s : σ) :
    σ × Outcome :=
  retryLoop retryable fn (attempts b max) s none

/-- `retryOnError` over a script of attempt results: returns (number of calls of `fn`, returned error) -/
def retryScript (b : Budget) (max : Int) (retryable : Err → Bool) (script : Nat → Outcome) : Nat × Outcome :=
  retryOnError b max retryable (fun i => (i + 1, script i)) 0

/-! ## Controller-bound operations -/

/-- answer of the broker an attempt was sent to. `top` is the response's top-level error code (0 for the
    response types that have none), `items` the per-item codes of the items that are present
    (item 0 = the topic for the single-topic operations, item p = partition p for reassignments). -/
inductive Reply
  | transport
  | resp (top : Int) (items : List (Nat × Int))
  deriving DecidableEq, Repr

inductive COp
  | createTopic | deleteTopic | createPartitions
  | reassign (nparts : Nat)
  deriving DecidableEq, Repr

/-- behaviours of admin.go that differ between the pinned tree and a repaired one -/
structure Variant where
  budget : Budget
  /-- `AlterPartitionReassignments` recognises a top-level NOT_CONTROLLER, refreshes the controller and
      returns a retryable error (pinned tree: every error is wrapped into `ErrReassignPartitions`, F10b) -/
  reassignRetries : Bool
  /-- top-level error test is `≠ ErrNoError` (pinned tree: `> 0`, so code −1 passes as success) -/
  reassignTopNonzero : Bool
  /-- a requested partition that is missing from the response is an error (pinned tree: not noticed) -/
  reassignChecksItems : Bool
  deriving DecidableEq, Repr

def Variant.pinned : Variant := ⟨.asIs, false, false, false⟩
def Variant.fixed (b : Budget) : Variant := ⟨b, true, true, true⟩

/-- the closure body of the single-topic operations after the broker call: (returned error, did it call
    `refreshController`) -/
def inspectItem : Reply → Outcome × Bool
  | .transport => (some .transport, false)
  | .resp _ items =>
    match items.lookup 0 with
    | none => (some .incomplete, false)
    | some c => if c = 0 then (none, false) else (some (.kerr c), c == NOT_CONTROLLER)

def itemCauses (items : List (Nat × Int)) : List Cause :=
  (items.filter (fun it => it.2 != 0)).map (fun it => Cause.code it.2)

def missingCauses (n : Nat) (items : List (Nat × Int)) : List Cause :=
  ((List.range n).filter (fun p => (items.lookup p).isNone)).map (fun _ => Cause.incomplete)

def topCauses (v : Variant) (top : Int) : List Cause :=
  if (if v.reassignTopNonzero then top != 0 else top > 0) then [Cause.code top] else []

def reassignCauses (v : Variant) (n : Nat) (top : Int) (items : List (Nat × Int)) : List Cause :=
  topCauses v top ++ itemCauses items ++ (if v.reassignChecksItems then missingCauses n items else [])

/-- the closure body of `AlterPartitionReassignments` -/
def inspectReassign (v : Variant) (n : Nat) : Reply → Outcome × Bool
  | .transport => (some (.wrapped [Cause.transport]), false)
  | .resp top items =>
    if v.reassignRetries ∧ top = NOT_CONTROLLER then (some (.kerr NOT_CONTROLLER), true)
    else if reassignCauses v n top items = [] then (none, false)
    else (some (.wrapped (reassignCauses v n top items)), false)

def inspect (v : Variant) : COp → Reply → Outcome × Bool
  | .reassign n, r => inspectReassign v n r
  | _, r => inspectItem r

/-- request version used / minimum Kafka version `Broker.send` demands for it -/
def reqVersion : COp → List Nat → Nat
  | .createTopic, kv => createTopicsVersion kv
  | .deleteTopic, kv => deleteTopicsVersion kv
  | _, _ => 0

def required : COp → List Nat → List Nat
  | .createTopic, kv => createTopicsRequired (createTopicsVersion kv)
  | .deleteTopic, kv => deleteTopicsRequired (deleteTopicsVersion kv)
  | .createPartitions, _ => V1_0_0_0
  | .reassign _, _ => V2_4_0_0

def supported (op : COp) (kv : List Nat) : Bool := isAtLeast kv (required op kv)

/-- `Broker.send` refused the request (`ErrUnsupportedVersion`); `AlterPartitionReassignments` wraps it -/
def unsupportedErr : COp → Err
  | .reassign _ => .wrapped [Cause.unsupported]
  | _ => .unsupported

/-- the scripted world of one operation -/
structure World where
  ctrl : Nat → Nat
  reply : Nat → Reply

/-- client-side state during one operation -/
structure St where
  cached : Nat          -- controller id in the client's cache
  log : List Nat        -- brokers the operation's request was sent to, oldest first
  refreshes : Nat       -- calls of refreshController
  deriving DecidableEq, Repr

/-- one call of the closure passed to `retryOnError`: `Controller()` (cached), one request to it, inspection
    of the answer, possibly `refreshController()` -/
def attempt (v : Variant) (op : COp) (kv : List Nat) (w : World) (s : St) : St × Outcome :=
  if supported op kv then
    (⟨if (inspect v op (w.reply s.log.length)).2 then w.ctrl (s.log.length + 1) else s.cached,
      s.log ++ [s.cached],
      if (inspect v op (w.reply s.log.length)).2 then s.refreshes + 1 else s.refreshes⟩,
     (inspect v op (w.reply s.log.length)).1)
  else (s, some (unsupportedErr op))

def runCtrl (v : Variant) (op : COp) (kv : List Nat) (max : Int) (w : World) : St × Outcome :=
  retryOnError v.budget max isErrNoController (attempt v op kv w) ⟨w.ctrl 0, [], 0⟩

/-! ## Leader / coordinator bound operations -/

/-- items of `items` owned by broker `b` -/
def owned (owner : Nat → Nat) (items : List Nat) (b : Nat) : List Nat :=
  items.filter (fun p => owner p == b)

/-- the `map[*Broker][]item` built by DeleteRecords / DescribeConsumerGroups, listed in the order of
    `brokers` (the Go map has no order; the harness canonicalises the same way) -/
def groupBy (brokers : List Nat) (owner : Nat → Nat) (items : List Nat) : List (Nat × List Nat) :=
  (brokers.filter (fun b => !(owned owner items b).isEmpty)).map (fun b => (b, owned owner items b))

/-- first failing lookup, in item order -/
def firstLookupError (look : Nat → Except Int Nat) : List Nat → Option Int
  | [] => none
  | p :: ps => match look p with
    | .error c => some c
    | .ok _ => firstLookupError look ps

def ownerOf (look : Nat → Except Int Nat) (p : Nat) : Nat :=
  match look p with
  | .ok b => b
  | .error _ => 0

/-- answer of one broker to a DeleteRecords request -/
inductive DRReply
  | transport
  | noTopic                               -- response without the topic
  | parts (codes : List (Nat × Int))      -- partitions present in the response with their codes
  deriving DecidableEq, Repr

def drCauses (sup : Bool) : DRReply → List Cause
  | .transport => if sup then [Cause.transport] else [Cause.unsupported]
  | .noTopic => if sup then [Cause.incomplete] else [Cause.unsupported]
  | .parts codes => if sup then itemCauses codes else [Cause.unsupported]

/-- requests `DeleteRecords` plans: one per leader with that leader's partitions -/
def drPlan (brokers : List Nat) (parts : List Nat) (leader : Nat → Except Int Nat) : List (Nat × List Nat) :=
  groupBy brokers (ownerOf leader) parts

/-- the `errs` slice of `DeleteRecords` after all brokers were asked -/
def drErrs (kv : List Nat) (brokers : List Nat) (parts : List Nat) (leader : Nat → Except Int Nat)
    (reply : Nat → DRReply) : List Cause :=
  (drPlan brokers parts leader).flatMap (fun g => drCauses (isAtLeast kv V0_11_0_0) (reply g.1))

/-- `DeleteRecords`: (returned error, requests sent as (broker, partitions)) -/
def deleteRecords (kv : List Nat) (brokers : List Nat) (parts : List Nat) (leader : Nat → Except Int Nat)
    (reply : Nat → DRReply) : Outcome × List (Nat × List Nat) :=
  match firstLookupError leader parts with
  | some c => (some (.lookup c), [])
  | none =>
    (if drErrs kv brokers parts leader reply = [] then none
     else some (.wrapped (drErrs kv brokers parts leader reply)),
     if isAtLeast kv V0_11_0_0 then drPlan brokers parts leader else [])

/-- `DescribeConsumerGroups`: `reply b = none` is a failed broker call, `some ds` the group descriptions
    (group, error code) it returned. Result: error, or all descriptions; plus the planned requests
    (when a broker call fails the Go code stops, so only a subset of the plan – in map order – is on the
    wire; when none fails the plan is exactly what was sent). -/
def describeGroups (brokers : List Nat) (groups : List Nat) (coord : Nat → Except Int Nat)
    (reply : Nat → Option (List (Nat × Int))) : Except Err (List (Nat × Int)) × List (Nat × List Nat) :=
  match firstLookupError coord groups with
  | some c => (.error (.lookup c), [])
  | none =>
    if (groupBy brokers (ownerOf coord) groups).all (fun g => (reply g.1).isSome) then
      (.ok ((groupBy brokers (ownerOf coord) groups).flatMap (fun g => (reply g.1).getD [])),
       groupBy brokers (ownerOf coord) groups)
    else (.error .transport, groupBy brokers (ownerOf coord) groups)

/-- answer of the coordinator to DeleteGroups for the one group -/
inductive DGReply
  | transport
  | missing
  | code (c : Int)
  deriving DecidableEq, Repr

/-- `DeleteConsumerGroup`: (returned error, brokers the request went to) -/
def deleteGroup (kv : List Nat) (coord : Except Int Nat) (reply : DGReply) : Outcome × List Nat :=
  match coord with
  | .error c => (some (.lookup c), [])
  | .ok b =>
    if isAtLeast kv V1_1_0_0 then
      (match reply with
       | .transport => some .transport
       | .missing => some .incomplete
       | .code c => if c = 0 then none else some (.kerr c), [b])
    else (some .unsupported, [])

/-- `ListConsumerGroupOffsets`: the coordinator's response is handed to the caller as it is.
    `reply = none`: failed call; `some (top, blocks)`: top-level code (on the wire from v2) and per-partition
    codes. Result: (error or (top, blocks)), request version, brokers asked. -/
def listGroupOffsets (kv : List Nat) (coord : Except Int Nat) (reply : Option (Int × List (Nat × Int))) :
    Except Err (Int × List (Nat × Int)) × Nat × List Nat :=
  match coord with
  | .error c => (.error (.lookup c), offsetFetchVersion kv, [])
  | .ok b =>
    match reply with
    | none => (.error .transport, offsetFetchVersion kv, [b])
    | some (top, blocks) =>
      (.ok (if offsetFetchVersion kv ≥ 2 then top else 0, blocks), offsetFetchVersion kv, [b])

/-- `DescribeLogDirs` for known broker ids: (an error is returned, ids with a result, requests) -/
def describeLogDirs (ids : List Nat) (ok : Nat → Bool) : Bool × List Nat × List Nat :=
  (!(ids.all ok), ids.filter ok, ids)

end Model.Admin
