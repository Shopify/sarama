import SaramaVerif.Model.BrokerProd
/-
  The broker worker of the IDEMPOTENT producer (Producer.Idempotent, version ≥ 0.11): `stepI`, a variant of
  `Model.BrokerProd.step` built from the same helper functions.  What differs:

    * handleSuccess, second pass: for a partition with a retriable verdict the worker does NOT hand the messages of
      the answered set to retryMessage; it starts `go retryBatch(topic, partition, pSet, err)` and goes on
      (bp.drop, retryMessages of the buffer's part, as before).  The messages given to the goroutine are the third
      component of the step's result (`batches`, one list per partition, in set order).
    * retryBatch (a goroutine of its own, `retryBatch` below): bumps the retry count of the messages one by one; if
      one of them has spent its budget the WHOLE batch is failed (the bumps already made stay); if the leader
      lookup fails the whole batch is failed; otherwise the set is sent to `getBrokerProducer(leader).output`,
      i.e. straight to the bridge goroutine of the leader's worker, without passing that worker's input or buffer.
    * that worker sees the set as an `inject`: its bridge is busy with a set the worker did not build (so it cannot
      hand over its own buffer meanwhile) and the response comes back through its `responses` channel and is
      handled like any other - verdicts, currentRetries, drop of ITS buffer, retryBatch again.
    * waitForSpace is also entered when the buffer's producer epoch differs from the message's (forceRollover): it
      then ends only by a hand-over (never by a response that made room); and after a hand-over that ended a
      wait-for-room the epoch test can send the same message into waitForSpace again (`handover again`), in which
      case the next hand-over passes an EMPTY buffer to the bridge.  In the inputs: `overflow` = wouldOverflow or
      epoch mismatch, `still` = wouldOverflow or forceRollover or a second wait.
    * `bp.buffer.add` can fail (`stepIE … addErr`, see `failAdd`).
    * DuplicateSequenceNumber is a success (class `ok`, see `classOf`); handleError and the fin handling are the same.
-/
namespace Model.BrokerProdIdem
open Model.BrokerProd

inductive InI
  | recv (t : Tok) (overflow : Bool)
  | handover (again : Bool)
  | resp (r : Resp) (still : Bool)
  | inject (set : List Tok)          -- a retryBatch goroutine put `set` into this worker's bridge

/-- second `sent.eachPartition` of handleSuccess, idempotent: state, actions, batches given to retryBatch -/
def loop2I (max : Nat) (v : Int → Verdict) : List Int → List Tok → St → St × List Action × List (List Tok)
  | [], _, s => (s, [], [])
  | p :: ps, rem, s =>
    if (onPart p rem).isEmpty ∨ v p ≠ .retriable then loop2I max v ps (offPart p rem) s
    else
      ((loop2I max v ps (offPart p rem) { s with cr := setCr s.cr p true, buffer := offPart p s.buffer }).1,
       Action.drop p :: retryMsgs max (onPart p s.buffer) ++
         (loop2I max v ps (offPart p rem) { s with cr := setCr s.cr p true, buffer := offPart p s.buffer }).2.1,
       onPart p rem ::
         (loop2I max v ps (offPart p rem) { s with cr := setCr s.cr p true, buffer := offPart p s.buffer }).2.2)

/-- handleSuccess / handleError, idempotent -/
def handleI (max : Nat) (s : St) (sent : List Tok) : Resp → St × List Action × List (List Tok)
  | .verdicts v o1 o2 =>
    if retryTopics max v sent then
      ((loop2I max v (o2 ++ partsOf sent) sent s).1,
       loop1 max v (o1 ++ partsOf sent) sent ++ (loop2I max v (o2 ++ partsOf sent) sent s).2.1,
       (loop2I max v (o2 ++ partsOf sent) sent s).2.2)
    else (s, loop1 max v (o1 ++ partsOf sent) sent, [])
  | .encErr o => ((handle max s sent (.encErr o)).1, (handle max s sent (.encErr o)).2, [])
  | .connErr o1 o2 => ((handle max s sent (.connErr o1 o2)).1, (handle max s sent (.connErr o1 o2)).2, [])

def respI (max : Nat) (s : St) (r : Resp) (still : Bool) : St × List Action × List (List Tok) :=
  match s.sets with
  | [] => (s, [.disabled], [])
  | sent :: rest =>
    ((recheck max (handleI max { s with sets := rest } sent r).1 (handleI max { s with sets := rest } sent r).2.1 still).1,
     (recheck max (handleI max { s with sets := rest } sent r).1 (handleI max { s with sets := rest } sent r).2.1 still).2,
     (handleI max { s with sets := rest } sent r).2.2)

/-- hand-over; `again`: the loop sits in waitForSpace and goes straight into a second (forced) wait -/
def handoverI (s : St) (again : Bool) : St × List Action :=
  if again && s.wait.isSome && s.sets.isEmpty then ({ s with sets := [s.buffer], buffer := [], stale := false }, [])
  else handover s

/-- a set arrives at the bridge from a retryBatch goroutine (the bridge takes one set at a time) -/
def inject (s : St) (set : List Tok) : St × List Action :=
  if !s.sets.isEmpty then (s, [.disabled]) else ({ s with sets := [set] }, [])

def stepI (max : Nat) (s : St) : InI → St × List Action × List (List Tok)
  | .recv t overflow => ((recv max s t overflow).1, (recv max s t overflow).2, [])
  | .handover again => ((handoverI s again).1, (handoverI s again).2, [])
  | .resp r still => respI max s r still
  | .inject set => ((inject s set).1, (inject s set).2, [])

/-- `bp.buffer.add(msg)` can fail in the idempotent producer ("message out of sequence added to a batch": the
    message's sequence number is below the batch's first): the hook bp.add has fired, the message is NOT in the buffer,
    returnError, `continue` (so `output` is not recomputed) -/
def failAdd (r : St × List Action × List (List Tok)) : St × List Action × List (List Tok) :=
  match r.2.1.getLast?, r.1.buffer.getLast? with
  | some (.add _ _), some t =>
    ({ r.1 with buffer := r.1.buffer.dropLast, stale := true }, r.2.1 ++ [Action.fail t.id t.part], r.2.2)
  | _, _ => r

/-- a step whose final `bp.buffer.add` (if it has one) fails when `addErr` -/
def stepIE (max : Nat) (s : St) (i : InI) (addErr : Bool) : St × List Action × List (List Tok) :=
  if addErr then failAdd (stepI max s i) else stepI max s i

def runAllI (max : Nat) (s : St) : List InI → St × List Action × List (List Tok)
  | [] => (s, [], [])
  | i :: is =>
    ((runAllI max (stepI max s i).1 is).1, (stepI max s i).2.1 ++ (runAllI max (stepI max s i).1 is).2.1,
     (stepI max s i).2.2 ++ (runAllI max (stepI max s i).1 is).2.2)

/-! ### the retryBatch goroutine -/

inductive BatchAct
  | bump (id : Int) (retries : Nat)   -- msg.retries++                      (retrybatch)
  | fail (id : Int)                   -- returnError                        (ret.err)
  | offer (set : List Tok)            -- bp.output <- produceSet  (the set appears at the leader's bridge)
  deriving Repr, DecidableEq

def bumped (t : Tok) : Tok := { t with retries := t.retries + 1 }

/-- the messages whose count is bumped before the loop meets one that has spent its budget -/
def bumpable (max : Nat) : List Tok → List Tok
  | [] => []
  | t :: ts => if t.retries ≥ max then [] else t :: bumpable max ts

def retryBatch (max : Nat) (toks : List Tok) (leaderOk : Bool) : List BatchAct :=
  (bumpable max toks).map (fun t => BatchAct.bump t.id (t.retries + 1)) ++
    (if (bumpable max toks).length < toks.length then toks.map (fun t => BatchAct.fail t.id)
     else if !leaderOk then toks.map (fun t => BatchAct.fail t.id)
     else [BatchAct.offer (toks.map bumped)])

end Model.BrokerProdIdem
