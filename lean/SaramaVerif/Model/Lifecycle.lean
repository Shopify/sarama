import SaramaVerif.Model.LifecyclePC
import SaramaVerif.Model.LifecycleBC
import SaramaVerif.Model.LifecycleGrp
import SaramaVerif.Model.LifecycleOM
import SaramaVerif.Model.LifecycleConn
/-
  Shutdown handshakes of the consumer-side components (C12): one acceptor per object, in the namespace
  `Model.Lifecycle.X`; no acceptor mentions another.  What an acceptor is and how it is run: Model/LifecycleRun.lean.

    PC   partitionConsumer   (consumer.go: AsyncClose, dispatcher, responseFeeder, the broker worker's actions on it)   LifecyclePC
    BC   brokerConsumer      (consumer.go: ref/unref, subscriptionManager, subscriptionConsumer, abort)                LifecycleBC
    Cons consumer            (children registry, Close)                                                                LifecycleBC
    Grp  consumerGroup + the session that holds its lock (consumer_group.go: Close, Consume, release, heartbeatLoop)   LifecycleGrp
    OM   offsetManager       (offset_manager.go: Close, mainLoop, final flush loop, releasePOMs)                       LifecycleOM
    POM  partitionOffsetManager                                                                                        LifecycleOM
    Cli  client              (client.go: Close, backgroundMetadataUpdater)                                             LifecycleConn
    Br   Broker              (broker.go: Open, send, responseReceiver, Close)                                          LifecycleConn
-/
