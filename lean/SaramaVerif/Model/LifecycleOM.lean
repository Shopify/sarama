import SaramaVerif.Model.LifecycleRun
/-
  Acceptors of offset_manager.go: the offsetManager (Close, mainLoop, final flush loop, releasePOMs) and a
  partitionOffsetManager.
-/
namespace Model.Lifecycle

/-! ## offset manager -/
namespace OM

inductive Ev
  | pomNew | pomRelease
  | closingClose | closedClose | closedRecv | asyncClose
  | finalBegin (max : Nat) | finalFlush (k : Nat) | finalClean | releaseForce | closeDone
  deriving Repr, DecidableEq

structure St where
  live        : Nat := 0        -- registered partition offset managers
  closing     : Bool := false   -- `closing` closed
  loopExited  : Bool := false   -- `closed` closed by mainLoop
  recv        : Bool := false   -- Close received from `closed`
  asyncClosed : Bool := false
  inFinal     : Bool := false
  max         : Nat := 0        -- Consumer.Offsets.Retry.Max
  attempts    : Nat := 0
  clean       : Bool := false
  forced      : Bool := false
  done        : Bool := false
  deriving Repr

def step (s : St) : Ev → Except String St
  | .pomNew =>
    if s.forced then .error "pom.new: after the forced release" else .ok { s with live := s.live + 1 }
  | .pomRelease =>
    if s.live = 0 then .error "pom.release: none registered" else .ok { s with live := s.live - 1 }
  | .closingClose =>
    if s.closing then .error "close of closed channel: closing" else .ok { s with closing := true }
  | .closedClose =>
    if ¬ s.closing then .error "closed.close: mainLoop left before closing was closed"
    else if s.loopExited then .error "close of closed channel: closed"
    else .ok { s with loopExited := true }
  | .closedRecv =>
    if ¬ s.loopExited then .error "closed.recv: mainLoop has not exited"
    else if s.recv then .error "closed.recv: twice"
    else .ok { s with recv := true }
  | .asyncClose =>
    if ¬ s.closing then .error "poms.asyncclose: closing still open"
    else if s.asyncClosed then .error "poms.asyncclose: twice"
    else .ok { s with asyncClosed := true }
  | .finalBegin m =>
    if ¬ s.asyncClosed then .error "final.begin: POMs not marked closed"
    else if ¬ s.recv then .error "final.begin: mainLoop not awaited"
    else if s.inFinal then .error "final.begin: twice"
    else .ok { s with inFinal := true, max := m, attempts := 0 }
  | .finalFlush k =>
    if ¬ s.inFinal then .error "final.flush: outside the final loop"
    else if s.clean ∨ s.forced then .error "final.flush: after the loop ended"
    else if k ≠ s.attempts then .error "final.flush: attempt number differs"
    else if s.max < s.attempts then .error "final.flush: more attempts than Retry.Max + 1"
    else .ok { s with attempts := s.attempts + 1 }
  | .finalClean =>
    if ¬ s.inFinal then .error "final.clean: outside the final loop"
    else if s.attempts = 0 then .error "final.clean: before the first flush"
    else if s.clean ∨ s.forced then .error "final.clean: after the loop ended"
    else if s.live ≠ 0 then .error "final.clean: POMs remain"
    else .ok { s with clean := true }
  | .releaseForce =>
    if ¬ s.asyncClosed then .error "release.force: POMs not marked closed"
    else if s.forced then .error "release.force: twice"
    else if s.inFinal ∧ ¬ s.clean ∧ s.attempts ≠ s.max + 1 then .error "release.force: final loop left early"
    else .ok { s with forced := true }
  | .closeDone =>
    if ¬ s.forced then .error "close.done: before the forced release"
    else if s.live ≠ 0 then .error "close.done: POMs remain"
    else if s.done then .error "close.done: twice"
    else .ok { s with done := true }

abbrev run := runWith step

def internal : Ev → Bool
  | .pomNew | .closingClose => false
  | _ => true

/-- termination measure of Close: the pair `(phase, inner)` in lexicographic order; `phase` counts the flags Close has
    still to set, `inner` the rounds left of the bounded final loop and the POMs still to release -/
def phase (s : St) : Nat :=
  (if s.loopExited then 0 else 1) + (if s.recv then 0 else 1) + (if s.asyncClosed then 0 else 1) + (if s.inFinal then 0 else 1)
  + (if s.clean then 0 else 1) + (if s.forced then 0 else 1) + (if s.done then 0 else 1)

def inner (s : St) : Nat := (s.max + 1 - s.attempts) + s.live

end OM

/-! ## partition offset manager -/
namespace POM

inductive Ev | new | errSend | done | errClose
  deriving Repr, DecidableEq

structure St where
  created : Bool := false
  done    : Bool := false
  closed  : Bool := false
  deriving Repr

def step (s : St) : Ev → Except String St
  | .new => if s.created then .error "new: twice" else .ok { s with created := true }
  | .errSend =>
    if s.closed then .error "send on closed channel: pom errors" else .ok s
  | .done => .ok { s with done := true }
  | .errClose =>
    if ¬ s.done then .error "errors.close: POM not closed by its owner"
    else if s.closed then .error "close of closed channel: pom errors"
    else .ok { s with closed := true }

abbrev run := runWith step

end POM

end Model.Lifecycle
