import SaramaVerif.Model.BalancePlan
/-
  Round-robin strategy (balance_strategy.go: roundRobinBalancer.Plan).

  Inputs of the model are the two sorted slices the Go code builds: `ms` = members in memberID order,
  `tps` = topic partitions in `comparedValue` ("topic-partition" string) order.  The theorems hold for every order,
  so the sort is only a permutation as far as the properties go (the driver re-does the sort on strings).

  The inner loop `for !m.hasTopic(tp.topic) { i++; m = members[i%n] }` has no exit when nobody subscribes to the
  topic.  It is modelled with an explicit bound `fuel` on the number of cursor positions tried: `none` means
  "not left within `fuel` steps".  `rr_find_terminates` (Props/C08) shows fuel = n is enough when the topic has a
  subscriber, `rr_diverges_without_subscriber` that without one the loop is not left for ANY fuel.
-/
namespace Model.Balance

/-- first cursor position ≥ i (trying at most `fuel` positions) whose member has topic `t` -/
def rrFind (ms : Members) (t : Topic) : Nat → Nat → Option Nat
  | _, 0 => none
  | i, fuel + 1 =>
    match ms[i % ms.length]? with
    | some e => if e.2.contains t then some i else rrFind ms t (i + 1) fuel
    | none => none

/-- member at cursor position `j` -/
def rrMember (ms : Members) (j : Nat) : Member :=
  match ms[j % ms.length]? with
  | some e => e.1
  | none => 0

/-- the assignment loop from cursor `i` -/
def rrLoop (ms : Members) (fuel : Nat) : List TP → Nat → Plan → Option Plan
  | [], _, plan => some plan
  | tp :: rest, i, plan =>
    match rrFind ms tp.1 i fuel with
    | none => none
    | some j => rrLoop ms fuel rest (j + 1) (plan.add (rrMember ms j) tp.1 [tp.2])

inductive RROut
  | err                -- "members and topics are not provided"
  | diverges           -- the inner loop is not left
  | plan (p : Plan)
  deriving DecidableEq, Repr

/-- `roundRobinBalancer.Plan` on the sorted slices; `noTopics` = `len(topics) == 0` -/
def rrPlan (ms : Members) (noTopics : Bool) (tps : List TP) : RROut :=
  if ms.isEmpty || noTopics then .err
  else match rrLoop ms ms.length tps 0 [] with
    | some p => .plan p
    | none => .diverges


/-- `consumerGroup.balance` (consumer_group.go): the `topics` map handed to the strategy has one key per topic some
    member lists (then filled from the client's metadata) -/
def topicsOfMembers (ms : Members) : List Topic := (ms.flatMap (·.2)).eraseDups

end Model.Balance
