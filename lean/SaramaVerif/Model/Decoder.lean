import SaramaVerif.GoSem
/-
  Model of sarama's `realDecoder` (real_decoder.go) and of the push-decoders (length_field.go,
  crc32_field.go), written from the Go source *including the checks that are missing there*.

  A getter is a total function of the buffer and the read offset with an explicit outcome:

    ok v off' a    value, new offset, bytes allocated on the way (`make`, `string(...)` copies)
    err e off' a   a Go `error` was returned (decoding stops), offset as the Go code leaves it
    panic a        a Go run-time panic: slice expression out of range, index out of range,
                   `make` with a negative or out-of-range length
    hang           (loops only) the loop makes no progress

  Conventions (each one is a fact about Go on linux/amd64, the platform the harness runs on):
    * `int` is 64 bit; `int(uint64)` / `int(n-1)` wrap (Go.wrap64);
    * `s[a:b]` on a slice panics unless 0 ≤ a ≤ b ≤ cap(s); buffers have cap = len (true for the
      buffer `responseReceiver` allocates; *not* true inside `getSubset` views);
    * `make([]T, n)` panics when n < 0 or n·sizeof(T) > 2^48 (runtime.maxAlloc), otherwise it allocates
      n·sizeof(T) bytes – recorded in the outcome, so that "allocation out of proportion" is a statement
      about the model;
    * constant-size allocations (a `realDecoder`, a struct) are not counted.

  `Variant.pinned` is the code of the pinned tree; `Variant.checked` adds the missing guard (the exact
  guard is quoted at each primitive and in known_findings.d/C10.json).  The getters in /repo carry these
  guards (DESIGN.md I.7), and Bridge/C10.lean is stated for `checked`.  Core-only.
-/
namespace Model.Decoder
open Go

abbrev Bytes := List UInt8

inductive Variant | pinned | checked
  deriving DecidableEq, Repr

inductive Err
  | insufficient            -- ErrInsufficientData
  | invalidArrayLength | invalidByteSliceLength | invalidStringLength
  | varintOverflow | uvarintOverflow | invalidBool | taggedFields
  | lengthField             -- "length field invalid"
  | crc                     -- "CRC didn't match"
  | invalidLength           -- decode(): "invalid length" (trailing bytes)
  | headerLength            -- responseHeader: "message of length %d too large or too small"
  deriving DecidableEq, Repr

inductive Res (α : Type) where
  | ok (v : α) (off : Nat) (alloc : Nat)
  | err (e : Err) (off : Nat) (alloc : Nat)
  | panic (alloc : Nat)
  | hang
  deriving Repr, DecidableEq

namespace Res
def addAlloc (a0 : Nat) : Res α → Res α
  | ok v off a => ok v off (a0 + a)
  | err e off a => err e off (a0 + a)
  | panic a => panic (a0 + a)
  | hang => hang

def bind (r : Res α) (f : α → Nat → Res β) : Res β :=
  match r with
  | ok v off a => (f v off).addAlloc a
  | err e off a => err e off a
  | panic a => panic a
  | hang => hang

def map (f : α → β) : Res α → Res β
  | ok v off a => ok (f v) off a
  | err e off a => err e off a
  | panic a => panic a
  | hang => hang
end Res

/-- the safety statement of C10 for one decoding step started at `off`:
    a value or an error – never a panic, never a hang –, the new offset stays inside the buffer and does not
    move backwards (a value consumes at least `m` bytes), and the allocation is at most `c` bytes per byte
    consumed (value) resp. per byte that was left (error) -/
def SafeN (c m : Nat) (raw : Bytes) (off : Nat) : Res α → Prop
  | .ok _ off' a => off + m ≤ off' ∧ off' ≤ raw.length ∧ a ≤ c * (off' - off)
  | .err _ off' a => off ≤ off' ∧ off' ≤ raw.length ∧ a ≤ c * (raw.length - off)
  | .panic _ => False
  | .hang => False

abbrev Safe (c : Nat) (raw : Bytes) (off : Nat) (r : Res α) : Prop := SafeN c 0 raw off r

/-! ### reading bytes -/

def byte (raw : Bytes) (i : Nat) : Nat := (raw.getD i 0).toNat

/-- big-endian unsigned value of `k` bytes starting at `off` (callers have checked that they exist) -/
def beU (raw : Bytes) (off : Nat) : Nat → Nat
  | 0 => 0
  | k+1 => byte raw off * 256 ^ k + beU raw (off + 1) k

def sgn8 (x : Nat) : Int := if x < 128 then x else (x : Int) - 256
def sgn16 (x : Nat) : Int := if x < 32768 then x else (x : Int) - 65536
def sgn32 (x : Nat) : Int := if x < 2147483648 then x else (x : Int) - 4294967296
def sgn64 (x : Nat) : Int := if x < 9223372036854775808 then x else (x : Int) - 18446744073709551616

/-- `rd.remaining()` -/
def rem (raw : Bytes) (off : Nat) : Int := (raw.length : Int) - (off : Int)

/-- bounds rule of a Go slice expression `raw[a:b]` (cap = len) -/
def sliceOK (raw : Bytes) (a b : Int) : Prop := 0 ≤ a ∧ a ≤ b ∧ b ≤ (raw.length : Int)
instance (raw : Bytes) (a b : Int) : Decidable (sliceOK raw a b) := by unfold sliceOK; infer_instance

def slice (raw : Bytes) (a b : Int) : Bytes := (raw.drop a.toNat).take (b - a).toNat

def maxAlloc : Nat := 281474976710656   -- 2^48

/-- `make([]T, n)` with sizeof(T) = elem: `none` = panic, `some bytes` = allocation -/
def mk (elem : Nat) (n : Int) : Option Nat :=
  if n < 0 ∨ n.toNat * elem > maxAlloc then none else some (n.toNat * elem)

/-! ### primitives -/

def getInt8 (raw : Bytes) (off : Nat) : Res Int :=
  if rem raw off < 1 then .err .insufficient raw.length 0 else .ok (sgn8 (beU raw off 1)) (off + 1) 0

def getInt16 (raw : Bytes) (off : Nat) : Res Int :=
  if rem raw off < 2 then .err .insufficient raw.length 0 else .ok (sgn16 (beU raw off 2)) (off + 2) 0

def getInt32 (raw : Bytes) (off : Nat) : Res Int :=
  if rem raw off < 4 then .err .insufficient raw.length 0 else .ok (sgn32 (beU raw off 4)) (off + 4) 0

def getInt64 (raw : Bytes) (off : Nat) : Res Int :=
  if rem raw off < 8 then .err .insufficient raw.length 0 else .ok (sgn64 (beU raw off 8)) (off + 8) 0

/-- encoding/binary.Uvarint: loop over the bytes with index `i`, accumulated value `x`, shift `s`.
    Result (value, n): n = 0 buffer too small, n < 0 overflow after −n bytes, n > 0 bytes read. -/
def uvarintGo : Bytes → Nat → Nat → Nat → Nat × Int
  | [], _, _, _ => (0, 0)
  | b :: rest, i, x, s =>
    if i = 10 then (0, -((i : Int) + 1))
    else if b.toNat < 128 then
      if i = 9 ∧ b.toNat > 1 then (0, -((i : Int) + 1))
      else ((x + b.toNat * 2 ^ s) % 18446744073709551616, (i : Int) + 1)
    else uvarintGo rest (i + 1) (x + (b.toNat % 128) * 2 ^ s) (s + 7)

def getUVarint (raw : Bytes) (off : Nat) : Res Nat :=
  if (uvarintGo (raw.drop off) 0 0 0).2 = 0 then .err .insufficient raw.length 0
  else if (uvarintGo (raw.drop off) 0 0 0).2 < 0 then
    .err .uvarintOverflow (off + (-(uvarintGo (raw.drop off) 0 0 0).2).toNat) 0
  else .ok (uvarintGo (raw.drop off) 0 0 0).1 (off + (uvarintGo (raw.drop off) 0 0 0).2.toNat) 0

/-- zig-zag decoding of encoding/binary.Varint -/
def unzigzag (ux : Nat) : Int := if ux % 2 = 0 then ((ux / 2 : Nat) : Int) else -((ux / 2 : Nat) : Int) - 1

def getVarint (raw : Bytes) (off : Nat) : Res Int :=
  if (uvarintGo (raw.drop off) 0 0 0).2 = 0 then .err .insufficient raw.length 0
  else if (uvarintGo (raw.drop off) 0 0 0).2 < 0 then
    .err .varintOverflow (off + (-(uvarintGo (raw.drop off) 0 0 0).2).toNat) 0
  else .ok (unzigzag (uvarintGo (raw.drop off) 0 0 0).1) (off + (uvarintGo (raw.drop off) 0 0 0).2.toNat) 0

/-- the part of getArrayLength after the 4 bytes were read (`tmp`) and `rd.off += 4` (→ `off`).
    checked: `else if tmp > 2*math.MaxUint16 || tmp < -1 { return -1, errInvalidArrayLength }` -/
def arrayLengthTail (v : Variant) (tmp : Int) (len : Nat) (off : Nat) : Res Int :=
  if tmp > (len : Int) - (off : Int) then .err .insufficient len 0
  else if tmp > 131070 then .err .invalidArrayLength off 0
  else if v = .checked ∧ tmp < -1 then .err .invalidArrayLength off 0
  else .ok tmp off 0

def getArrayLength (v : Variant) (raw : Bytes) (off : Nat) : Res Int :=
  if rem raw off < 4 then .err .insufficient raw.length 0
  else arrayLengthTail v (sgn32 (beU raw off 4)) raw.length (off + 4)

/-- `int(n) - 1` on a uint64 `n` -/
def compactLen (n : Nat) : Int := wrap64 (wrap64 n - 1)

/-- checked: `if l := int(n)-1; l < 0 || l > rd.remaining() { rd.off = len(rd.raw); return 0, ErrInsufficientData }` -/
def getCompactArrayLength (v : Variant) (raw : Bytes) (off : Nat) : Res Int :=
  (getUVarint raw off).bind fun n off1 =>
    if n = 0 then .ok 0 off1 0
    else if v = .checked ∧ (compactLen n < 0 ∨ compactLen n > rem raw off1) then .err .insufficient raw.length 0
    else .ok (compactLen n) off1 0

def getBool (raw : Bytes) (off : Nat) : Res Bool :=
  (getInt8 raw off).bind fun b off1 =>
    if b = 0 then .ok false off1 0 else if b ≠ 1 then .err .invalidBool off1 0 else .ok true off1 0

def getEmptyTaggedFieldArray (raw : Bytes) (off : Nat) : Res Int :=
  (getUVarint raw off).bind fun n off1 => if n ≠ 0 then .err .taggedFields off1 0 else .ok 0 off1 0

/-! ### collections -/

def getRawBytes (raw : Bytes) (off : Nat) (length : Int) : Res Bytes :=
  if length < 0 then .err .invalidByteSliceLength off 0
  else if length > rem raw off then .err .insufficient raw.length 0
  else .ok (slice raw off (off + length)) (off + length.toNat) 0

/-- the new decoder of `getSubset` is a view of the same bytes: the value is the sub-buffer -/
def getSubset (raw : Bytes) (off : Nat) (length : Int) : Res Bytes := getRawBytes raw off length

def getBytes (raw : Bytes) (off : Nat) : Res (Option Bytes) :=
  (getInt32 raw off).bind fun tmp off1 =>
    if tmp = -1 then .ok none off1 0 else (getRawBytes raw off1 tmp).map some

def getVarintBytes (raw : Bytes) (off : Nat) : Res (Option Bytes) :=
  (getVarint raw off).bind fun tmp off1 =>
    if tmp = -1 then .ok none off1 0 else (getRawBytes raw off1 tmp).map some

/-- `length := int(n - 1)` on a uint64 `n` -/
def compactLen' (n : Nat) : Int := wrap64 ((n : Int) - 1)

def getCompactBytes (raw : Bytes) (off : Nat) : Res Bytes :=
  (getUVarint raw off).bind fun n off1 => getRawBytes raw off1 (compactLen' n)

/-- the part of getStringLength after the int16 was read -/
def stringLengthTail (n : Int) (len : Nat) (off : Nat) : Res Int :=
  if n < -1 then .err .invalidStringLength off 0
  else if n > (len : Int) - (off : Int) then .err .insufficient len 0
  else .ok n off 0

def getStringLength (raw : Bytes) (off : Nat) : Res Int :=
  (getInt16 raw off).bind fun n off1 => stringLengthTail n raw.length off1

/-- `string(rd.raw[rd.off : rd.off+n])`: slice-bounds panic when out of range, a copy of n bytes otherwise -/
def takeString (raw : Bytes) (off : Nat) (n : Int) : Res Bytes :=
  if sliceOK raw off (off + n) then .ok (slice raw off (off + n)) (off + n.toNat) n.toNat else .panic 0

def getString (raw : Bytes) (off : Nat) : Res Bytes :=
  (getStringLength raw off).bind fun n off1 => if n = -1 then .ok [] off1 0 else takeString raw off1 n

def getNullableString (raw : Bytes) (off : Nat) : Res (Option Bytes) :=
  (getStringLength raw off).bind fun n off1 =>
    if n = -1 then .ok none off1 0 else (takeString raw off1 n).map some

/-- checked:
    `if length < 0 { return "", errInvalidStringLength }`
    `if length > rd.remaining() { rd.off = len(rd.raw); return "", ErrInsufficientData }` -/
def getCompactString (v : Variant) (raw : Bytes) (off : Nat) : Res Bytes :=
  (getUVarint raw off).bind fun n off1 =>
    if v = .checked ∧ compactLen' n < 0 then .err .invalidStringLength off1 0
    else if v = .checked ∧ compactLen' n > rem raw off1 then .err .insufficient raw.length 0
    else takeString raw off1 (compactLen' n)

/-- checked: `if length > rd.remaining() { rd.off = len(rd.raw); return nil, ErrInsufficientData }` after the
    existing `length < 0` test -/
def getCompactNullableString (v : Variant) (raw : Bytes) (off : Nat) : Res (Option Bytes) :=
  (getUVarint raw off).bind fun n off1 =>
    if compactLen' n < 0 then .ok none off1 0
    else if v = .checked ∧ compactLen' n > rem raw off1 then .err .insufficient raw.length 0
    else (takeString raw off1 (compactLen' n)).map some

def readI32s (raw : Bytes) : Nat → Nat → List Int
  | 0, _ => []
  | n+1, off => sgn32 (beU raw off 4) :: readI32s raw n (off + 4)

def readI64s (raw : Bytes) : Nat → Nat → List Int
  | 0, _ => []
  | n+1, off => sgn64 (beU raw off 8) :: readI64s raw n (off + 8)

/-- `make([]int32, n)` followed by the unchecked read loop `binary.BigEndian.Uint32(rd.raw[rd.off:])` -/
def readI32Loop (raw : Bytes) (off : Nat) (n : Int) : Res (List Int) :=
  match mk 4 n with
  | none => .panic 0
  | some a => if 4 * n > rem raw off then .panic a else .ok (readI32s raw n.toNat off) (off + 4 * n.toNat) a

/-- checked: `if arrayLength < 0 || arrayLength > rd.remaining()/4 { rd.off = len(rd.raw); return nil, ErrInsufficientData }` -/
def getCompactInt32Array (v : Variant) (raw : Bytes) (off : Nat) : Res (List Int) :=
  (getUVarint raw off).bind fun n off1 =>
    if n = 0 then .ok [] off1 0
    else if v = .checked ∧ (compactLen n < 0 ∨ 4 * compactLen n > rem raw off1) then .err .insufficient raw.length 0
    else readI32Loop raw off1 (compactLen n)

/-- `n := int(binary.BigEndian.Uint32(..))` is non-negative on a 64-bit platform -/
def getInt32Array (raw : Bytes) (off : Nat) : Res (List Int) :=
  if rem raw off < 4 then .err .insufficient raw.length 0
  else if rem raw (off + 4) < 4 * (beU raw off 4 : Int) then .err .insufficient raw.length 0
  else if beU raw off 4 = 0 then .ok [] (off + 4) 0
  else .ok (readI32s raw (beU raw off 4) (off + 4)) (off + 4 + 4 * beU raw off 4) (4 * beU raw off 4)

def getInt64Array (raw : Bytes) (off : Nat) : Res (List Int) :=
  if rem raw off < 4 then .err .insufficient raw.length 0
  else if rem raw (off + 4) < 8 * (beU raw off 4 : Int) then .err .insufficient raw.length 0
  else if beU raw off 4 = 0 then .ok [] (off + 4) 0
  else .ok (readI64s raw (beU raw off 4) (off + 4)) (off + 4 + 8 * beU raw off 4) (8 * beU raw off 4)

def stringLoop (raw : Bytes) : Nat → Nat → Res (List Bytes)
  | 0, off => .ok [] off 0
  | n+1, off => (getString raw off).bind fun s off1 => (stringLoop raw n off1).map (s :: ·)

/-- `make([]string, n)` (16 bytes per element) before a single string was read.
    checked: `if n > rd.remaining() { rd.off = len(rd.raw); return nil, ErrInsufficientData }` before the make -/
def getStringArray (v : Variant) (raw : Bytes) (off : Nat) : Res (List Bytes) :=
  if rem raw off < 4 then .err .insufficient raw.length 0
  else if beU raw off 4 = 0 then .ok [] (off + 4) 0
  else if v = .checked ∧ (beU raw off 4 : Int) > rem raw (off + 4) then .err .insufficient raw.length 0
  else (stringLoop raw (beU raw off 4) (off + 4)).addAlloc (16 * beU raw off 4)

/-! ### peeking -/

/-- `peek(offset, length)`; the arguments are `int`s of the caller -/
def peek (raw : Bytes) (off : Nat) (offset length : Int) : Res Bytes :=
  if rem raw off < offset + length then .err .insufficient off 0
  else if sliceOK raw (off + offset) (off + offset + length) then
    .ok (slice raw (off + offset) (off + offset + length)) off 0
  else .panic 0

def peekInt8 (raw : Bytes) (off : Nat) (offset : Int) : Res Int :=
  if rem raw off < offset + 1 then .err .insufficient off 0
  else if 0 ≤ (off : Int) + offset then .ok (sgn8 (byte raw ((off : Int) + offset).toNat)) off 0
  else .panic 0

/-! ### push / pop -/

/-- what a pushed field remembers -/
inductive Frame
  | length (start : Nat) (stored : Int)                 -- lengthField
  | varintLength (start : Nat) (stored : Int) (fieldLen : Nat) -- varintLengthField (+ bytes the varint occupied)
  | crc (start : Nat) (castagnoli : Bool)               -- crc32Field
  deriving Repr, DecidableEq

/-- `push(&lengthField{})`: lengthField is a dynamicPushDecoder, its `decode` runs at push time -/
def pushLength (raw : Bytes) (off : Nat) : Res Frame :=
  (getInt32 raw off).bind fun l off1 =>
    if l > wrap32 (rem raw off1) then .err .insufficient off1 0 else .ok (.length off l) off1 0

def pushVarintLength (raw : Bytes) (off : Nat) : Res Frame :=
  (getVarint raw off).bind fun l off1 => .ok (.varintLength off l (off1 - off)) off1 0

/-- `push(crc32Field)`: static reserve of 4 bytes -/
def pushCrc (castagnoli : Bool) (raw : Bytes) (off : Nat) : Res Frame :=
  if rem raw off < 4 then .err .insufficient raw.length 0 else .ok (.crc off castagnoli) (off + 4) 0

/-- number of bytes of binary.PutUvarint -/
def uvarintSizeFuel : Nat → Nat → Nat
  | 0, _ => 1
  | f+1, u => if u < 128 then 1 else 1 + uvarintSizeFuel f (u / 128)

/-- `varintLengthField.reserveLength()`: size of the *canonical* encoding of the stored length -/
def varintSize (x : Int) : Nat :=
  uvarintSizeFuel 10 (if x ≥ 0 then (2 * x).toNat else (-2 * x - 1).toNat)

/-- `pop()` = `check(curOffset, buf)` of the frame; `crcf castagnoli bytes` is the checksum function.
    checked (varint length only): compare with the bytes the length field really occupied. -/
def pop (v : Variant) (crcf : Bool → Bytes → Nat) (raw : Bytes) (fr : Frame) (cur : Nat) : Res Unit :=
  match fr with
  | .length start stored =>
      if wrap32 ((cur : Int) - start - 4) ≠ stored then .err .lengthField cur 0 else .ok () cur 0
  | .varintLength start stored fieldLen =>
      if wrap64 ((cur : Int) - start - (if v = .checked then (fieldLen : Int) else (varintSize stored : Int))) ≠ stored
      then .err .lengthField cur 0 else .ok () cur 0
  | .crc start cast =>
      if sliceOK raw (start + 4) cur then
        (if crcf cast (slice raw (start + 4) cur) ≠ beU raw start 4 then .err .crc cur 0 else .ok () cur 0)
      else .panic 0

/-! ### entry points -/

/-- `decode` / `versionedDecode` (encoder_decoder.go): run a decoder on the whole buffer, then the
    whole-buffer check `helper.off != len(buf)`. -/
def topLevel (r : Res α) (len : Nat) : Res α :=
  match r with
  | .ok v off a => if off ≠ len then .err .invalidLength off a else .ok v off a
  | r => r

/-- responseHeader.decode (response_header.go); value = (length, correlationID) -/
def decodeHeader (maxResponseSize : Int) (version : Int) (raw : Bytes) (off : Nat) : Res (Int × Int) :=
  (getInt32 raw off).bind fun length off1 =>
    if length ≤ 4 ∨ length > maxResponseSize then .err .headerLength off1 0
    else
      match getInt32 raw off1 with
      | .ok cid off2 a =>
          if version ≥ 1 then (getEmptyTaggedFieldArray raw off2).bind fun _ off3 => .ok (length, cid) off3 a
          else .ok (length, cid) off2 a
      | .err e off2 a =>
          -- the error of the second getInt32 is kept in `err` and only returned at the end
          if version ≥ 1 then
            (match getEmptyTaggedFieldArray raw off2 with
             | .ok _ off3 _ => .err e off3 a
             | .err e3 off3 a3 => .err e3 off3 a3
             | .panic a3 => .panic a3
             | .hang => .hang)
          else .err e off2 a
      | .panic a => .panic a
      | .hang => .hang

/-- `getHeaderLength` (broker.go) -/
def headerLength (version : Int) : Int := if version < 1 then 8 else 9

/-- size of the body buffer `responseReceiver` allocates: `decodedHeader.length - int32(headerLength) + 4` -/
def bodySize (length version : Int) : Int := wrap32 (wrap32 (length - headerLength version) + 4)

end Model.Decoder
