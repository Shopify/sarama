import SaramaVerif.GoSem
/-
  Model of the parse side of the partition consumer (consumer.go: parseResponse, parseRecords,
  parseMessages, chooseStartingOffset; fetch_response.go: getAbortedTransactions).  Pure core, no Mathlib.

  Abstract wire content of one partition block of a FetchResponse, after the (real) decoder:
    * record batches (magic 2): base offset, last offset delta, records (offset delta, key, value, headers,
      timestamp delta), control flag + control type, transactional flag, producer id, log-append flag,
      first / max timestamp;
    * legacy message sets (magic 0/1): top-level message blocks, each either a plain message or a compressed
      wrapper with inner messages (v0: absolute inner offsets, v1: relative inner offsets rebased on the
      wrapper's offset);
    * the partial-trailing flag, error blocks, throttled empty responses, a missing block.
  Payloads (key, value, headers) are opaque strings; timestamps are milliseconds (-1 = Go's zero time).
  Offsets are unbounded integers (int64 wrap-around is not modelled: Kafka offsets stay far below 2^63).
-/
namespace Model.ConsumerParse
open Go

/-- a stored record / delivered message: absolute offset, payload, timestamp -/
structure SRec where
  off : Int
  key : String
  value : String
  headers : String
  ts : Int
  deriving DecidableEq, Repr

/-- record of a magic-2 batch -/
structure Rec where
  delta : Int
  key : String
  value : String
  headers : String
  tsDelta : Int
  deriving DecidableEq, Repr

inductive Ctl | abort | commit | unknown | malformed
  deriving DecidableEq, Repr

structure Batch where
  base : Int
  lastDelta : Int
  recs : List Rec
  control : Bool
  ctl : Ctl
  txn : Bool
  pid : Int
  logAppend : Bool
  firstTs : Int
  maxTs : Int
  deriving DecidableEq, Repr

/-- inner message of a compressed legacy wrapper -/
structure LMsg where
  off : Int
  ver : Int
  logAppend : Bool
  ts : Int
  key : String
  value : String
  deriving DecidableEq, Repr

/-- top-level legacy MessageBlock: plain message (`inner = none`) or compressed wrapper -/
structure LBlock where
  off : Int
  ver : Int
  logAppend : Bool
  ts : Int
  key : String
  value : String
  inner : Option (List LMsg)
  deriving DecidableEq, Repr

/-- one element of `FetchResponseBlock.RecordsSet`: a legacy message set (all consecutive legacy blocks
    are decoded into ONE set) or one record batch -/
inductive Entry
  | legacy (blocks : List LBlock)
  | batch (b : Batch)
  deriving DecidableEq, Repr

inductive Block
  /-- `ThrottleTime ≠ 0` and no blocks at all -/
  | throttled
  /-- the response has no block for this topic/partition -/
  | missing
  /-- block with an error code (≠ 0) -/
  | err (code : Int)
  /-- decoded record sets, `block.isPartial()`, the aborted-transaction index (producer id, first offset) -/
  | data (entries : List Entry) (partialTrail : Bool) (aborted : List (Int × Int))
  deriving DecidableEq, Repr

structure Cfg where
  fetchDefault : Int
  fetchMax : Int
  readCommitted : Bool
  /-- variant flag: `true` = the timestamp of an inner message of a v1 wrapper follows the WRAPPER's
      log-append attribute (Kafka's rule); `false` = it follows the inner message's own attribute
      (what parseMessages of the pinned tree does) -/
  tsFromWrapper : Bool
  deriving DecidableEq, Repr

structure PState where
  offset : Int
  fetchSize : Int
  deriving DecidableEq, Repr

inductive Verdict
  | ok
  /-- ok, and ErrMessageTooLarge was reported to the user (one offset skipped) -/
  | tooLarge
  /-- ErrIncompleteResponse -/
  | incomplete
  | kerr (code : Int)
  /-- a control batch whose control record cannot be decoded -/
  | ctlErr
  deriving DecidableEq, Repr

/-! ### the offset filter shared by parseRecords / parseMessages -/

/-- the loop body `if offset < child.offset {continue}; append; child.offset = offset+1` -/
def scan (o : Int) : List SRec → List SRec × Int
  | [] => ([], o)
  | r :: rs => if r.off < o then scan o rs else (r :: (scan (r.off + 1) rs).1, (scan (r.off + 1) rs).2)

/-- `if len(messages) == 0 { child.offset++ }` -/
def bump (p : List SRec × Int) : List SRec × Int :=
  (p.1, if p.1.isEmpty then p.2 + 1 else p.2)

/-- records of a batch with absolute offsets and the timestamp rule of parseRecords -/
def batchRecs (b : Batch) : List SRec :=
  b.recs.map (fun r => ⟨b.base + r.delta, r.key, r.value, r.headers,
                        if b.logAppend then b.maxTs else b.firstTs + r.tsDelta⟩)

def batchLast (b : Batch) : Int := b.base + b.lastDelta

/-- offset of the last inner message (0 when there is none; never used then) -/
def lastOff (ms : List LMsg) : Int := (ms.getLast?.map (·.off)).getD 0

/-- offset / timestamp rule of parseMessages for one inner message of wrapper `blk` -/
def innerRec (tsFromWrapper : Bool) (blk : LBlock) (last : Int) (m : LMsg) : SRec :=
  ⟨if m.ver ≥ 1 then m.off + (blk.off - last) else m.off, m.key, m.value, "-",
   if m.ver ≥ 1 ∧ (if tsFromWrapper then blk.logAppend else m.logAppend) = true then blk.ts else m.ts⟩

/-- messages of one top-level block (`msgBlock.Messages()` + rebasing) -/
def blockRecs (tsFromWrapper : Bool) (blk : LBlock) : List SRec :=
  match blk.inner with
  | none => [⟨blk.off, blk.key, blk.value, "-", blk.ts⟩]
  | some ms => ms.map (innerRec tsFromWrapper blk (lastOff ms))

/-- parseRecords: delivered candidates and the new offset -/
def parseRecords (b : Batch) (o : Int) : List SRec × Int := bump (scan o (batchRecs b))

/-- parseMessages over a whole legacy set -/
def parseMessages (tsFromWrapper : Bool) (blks : List LBlock) (o : Int) : List SRec × Int :=
  bump (scan o (blks.flatMap (blockRecs tsFromWrapper)))

/-! ### aborted-transaction index -/

/-- insertion into a list sorted by first offset (stable) -/
def insAborted (x : Int × Int) : List (Int × Int) → List (Int × Int)
  | [] => [x]
  | y :: ys => if x.2 < y.2 then x :: y :: ys else y :: insAborted x ys

/-- `getAbortedTransactions`: sorted by first offset (Go's sort.Slice is not stable; the order among equal
    first offsets cannot influence the result, see `Props.C11.read_committed_exact_perm`) -/
def sortAborted : List (Int × Int) → List (Int × Int)
  | [] => []
  | x :: xs => insAborted x (sortAborted xs)

/-- the loop `for _, txn := range abortedTransactions { if txn.FirstOffset > last {break}; add; pop }`:
    returns (remaining index, aborted producer ids) -/
def consumeAborted (last : Int) : List (Int × Int) → List Int → List (Int × Int) × List Int
  | [], abs => ([], abs)
  | t :: ts, abs => if t.2 > last then (t :: ts, abs) else consumeAborted last ts (t.1 :: abs)

def Ctl.bad (b : Batch) : Bool := b.recs.isEmpty || b.ctl == Ctl.malformed

abbrev PResult := List SRec × Int × Verdict

/-- `messages = append(messages, …)` in front of the rest of the loop; an error return drops everything -/
def prepend (pre : List SRec) (r : PResult) : PResult :=
  if r.2.2 = .ok then (pre ++ r.1, r.2) else ([], r.2)

/-- `if controlRecord.Type == ControlRecordAbort { delete(abortedProducerIDs, pid) }` -/
def absAfter (b : Batch) (abs : List Int) : List Int :=
  if b.ctl = .abort then abs.filter (· ≠ b.pid) else abs

/-- body of the `case defaultRecords` branch; `ca` is the result of consuming the aborted index up to the
    batch's last offset, `k` the rest of the loop (offset, remaining index, aborted ids) -/
def batchStep (cfg : Cfg) (b : Batch) (o : Int) (ca : List (Int × Int) × List Int)
    (k : Int → List (Int × Int) → List Int → PResult) : PResult :=
  if b.control then
    if Ctl.bad b then ([], (parseRecords b o).2, .ctlErr)
    else k (parseRecords b o).2 ca.1 (absAfter b ca.2)
  else if cfg.readCommitted ∧ b.txn ∧ b.pid ∈ ca.2 then k (parseRecords b o).2 ca.1 ca.2
  else prepend (parseRecords b o).1 (k (parseRecords b o).2 ca.1 ca.2)

/-- the `for _, records := range block.RecordsSet` loop of parseResponse.
    Arguments: current offset, remaining (sorted) aborted index, aborted producer ids.
    Result: delivered messages, new offset, verdict (`ctlErr` returns no messages but keeps the offset). -/
def parseEntries (cfg : Cfg) : List Entry → Int → List (Int × Int) → List Int → PResult
  | [], o, _, _ => ([], o, .ok)
  | .legacy blks :: es, o, rem, abs =>
      prepend (parseMessages cfg.tsFromWrapper blks o).1
        (parseEntries cfg es (parseMessages cfg.tsFromWrapper blks o).2 rem abs)
  | .batch b :: es, o, rem, abs =>
      batchStep cfg b o (consumeAborted (batchLast b) rem abs) (parseEntries cfg es)

def entryCount : Entry → Nat
  | .legacy blks => blks.length
  | .batch b => b.recs.length

/-- `block.numRecords()` -/
def nRecs (es : List Entry) : Nat := (es.map entryCount).sum

/-- the fetch-size growth `child.fetchSize *= 2` with the int32 overflow check and the Fetch.Max cap -/
def growFetch (fetchMax fs : Int) : Int :=
  if fetchMax > 0 ∧ (if mul32 fs 2 < 0 then 2147483647 else mul32 fs 2) > fetchMax then fetchMax
  else (if mul32 fs 2 < 0 then 2147483647 else mul32 fs 2)

/-- `FetchResponseBlock.decode` keeps a decoded record set only when it has records (an empty batch left by
    compaction is dropped before parseResponse sees it) -/
def decodeView (es : List Entry) : List Entry := es.filter (fun e => entryCount e ≠ 0)

/-- parseResponse for this partition's block -/
def parseBlock (cfg : Cfg) (st : PState) : Block → List SRec × PState × Verdict
  | .throttled => ([], st, .ok)
  | .missing => ([], st, .incomplete)
  | .err c => ([], st, .kerr c)
  | .data es partialTrail aborted =>
      if nRecs es = 0 then
        if partialTrail then
          if cfg.fetchMax > 0 ∧ st.fetchSize = cfg.fetchMax then ([], ⟨st.offset + 1, st.fetchSize⟩, .tooLarge)
          else ([], ⟨st.offset, growFetch cfg.fetchMax st.fetchSize⟩, .ok)
        else ([], st, .ok)
      else
        ((parseEntries cfg (decodeView es) st.offset (sortAborted aborted) []).1,
         ⟨(parseEntries cfg (decodeView es) st.offset (sortAborted aborted) []).2.1, cfg.fetchDefault⟩,
         (parseEntries cfg (decodeView es) st.offset (sortAborted aborted) []).2.2)

/-- a fetch history: responses parsed one after the other; delivered messages concatenated -/
def run (cfg : Cfg) : PState → List Block → List SRec × PState
  | st, [] => ([], st)
  | st, b :: bs => ((parseBlock cfg st b).1 ++ (run cfg (parseBlock cfg st b).2.1 bs).1,
                    (run cfg (parseBlock cfg st b).2.1 bs).2)

/-! ### chooseStartingOffset -/

def offsetNewest : Int := -1
def offsetOldest : Int := -2

/-- `none` = ErrOffsetOutOfRange -/
def chooseStart (offset newest oldest : Int) : Option Int :=
  if offset = offsetNewest then some newest
  else if offset = offsetOldest then some oldest
  else if offset ≥ oldest ∧ offset ≤ newest then some offset
  else none

end Model.ConsumerParse
