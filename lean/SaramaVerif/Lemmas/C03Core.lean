import SaramaVerif.Model.ConsumerParseSpec
/-
  Generic offset-filter machinery for C03 / C11: the scan loop over ascending records, windows of a sorted
  record list, and the walk over "segments" (what the offset logic sees of one RecordsSet entry).
-/
namespace Lemmas.C03
open Model.ConsumerParse

theorem Asc.mono {b b' : Int} (h : b' ≤ b) : ∀ {l}, Asc b l → Asc b' l
  | [], _ => trivial
  | _ :: _, ⟨h1, h2⟩ => ⟨Int.lt_of_le_of_lt h h1, h2⟩

theorem Asc.all_gt : ∀ {l b}, Asc b l → ∀ r ∈ l, b < r.off
  | [], _, _, r, hr => by cases hr
  | x :: xs, b, ⟨h1, h2⟩, r, hr => by
      rcases List.mem_cons.1 hr with rfl | h
      · exact h1
      · exact Int.lt_trans h1 (Asc.all_gt h2 r h)

theorem Asc.append : ∀ {l1 l2 : List SRec} {b m : Int}, Asc b l1 → (∀ r ∈ l1, r.off ≤ m) → b ≤ m → Asc m l2 →
    Asc b (l1 ++ l2)
  | [], _, _, _, _, _, hb, h2 => Asc.mono hb h2
  | x :: _, _, _, _, ⟨h1, hx⟩, hle, _, h2 =>
    ⟨h1, Asc.append hx (fun r hr => hle r (List.mem_cons_of_mem _ hr)) (hle x List.mem_cons_self) h2⟩

theorem Asc.filter (p : SRec → Bool) : ∀ {l : List SRec} {b : Int}, Asc b l → Asc b (l.filter p)
  | [], _, _ => trivial
  | x :: xs, b, ⟨h1, h2⟩ => by
      rw [List.filter_cons]
      split
      · exact ⟨h1, Asc.filter p h2⟩
      · exact Asc.mono (Int.le_of_lt h1) (Asc.filter p h2)

theorem Asc.filter_split (p : SRec → Bool) (b : Int) {l : List SRec} : ∀ {bnd : Int}, Asc bnd l →
    l.filter p = l.filter (fun r => p r && decide (r.off < b)) ++ l.filter (fun r => p r && decide (b ≤ r.off)) := by
  induction l with
  | nil => exact fun _ => rfl
  | cons x xs ih =>
    intro _ ⟨_, hx⟩
    by_cases h : x.off < b
    · have hn : ¬ b ≤ x.off := Int.not_le.mpr h
      simp only [List.filter_cons, h, hn, decide_true, decide_false, Bool.and_true, Bool.and_false]
      rw [ih hx]
      cases p x <;> rfl
    · have hge : ∀ r ∈ x :: xs, b ≤ r.off := fun r hr =>
        Int.le_trans (Int.not_lt.mp h) ((List.mem_cons.1 hr).elim (fun e => e ▸ Int.le_refl _)
          fun hr => Int.le_of_lt (Asc.all_gt hx r hr))
      have hl : (x :: xs).filter (fun r => p r && decide (r.off < b)) = [] :=
        List.filter_eq_nil_iff.2 fun r hr hd =>
          Int.not_lt.mpr (hge r hr) (of_decide_eq_true (Bool.and_eq_true_iff.mp hd).2)
      rw [hl, List.nil_append]
      exact List.filter_congr fun r hr => by rw [decide_eq_true (hge r hr), Bool.and_true]

instance decAsc : ∀ (b : Int) (l : List SRec), Decidable (Asc b l)
  | _, [] => isTrue trivial
  | _, r :: rs => @instDecidableAnd _ _ _ (decAsc r.off rs)

instance decLogWF (tsw : Bool) : ∀ (b : Int) (L : List LUnit), Decidable (LogWF tsw b L)
  | _, [] => isTrue trivial
  | _, u :: us =>
    @instDecidableAnd _ _ _ (@instDecidableAnd _ _ _ (@instDecidableAnd _ _ _ (decLogWF tsw (unitHi u) us)))

theorem window_append (a b : Int) (l1 l2 : List SRec) : window a b (l1 ++ l2) = window a b l1 ++ window a b l2 :=
  List.filter_append ..

theorem window_nil {a b : Int} {l : List SRec} (h : ∀ r ∈ l, r.off < a ∨ b ≤ r.off) : window a b l = [] :=
  List.filter_eq_nil_iff.2 fun r hr hd => (h r hr).elim (fun h1 => Int.not_le.mpr h1 (of_decide_eq_true hd).1)
    fun h2 => Int.not_lt.mpr h2 (of_decide_eq_true hd).2

theorem window_congr {a a' b b' : Int} {l : List SRec}
    (h : ∀ r ∈ l, (a ≤ r.off ∧ r.off < b) ↔ (a' ≤ r.off ∧ r.off < b')) : window a b l = window a' b' l :=
  List.filter_congr fun r hr => decide_eq_decide.2 (h r hr)

theorem window_split {bnd : Int} {l : List SRec} (hl : Asc bnd l) {a b c : Int} (hab : a ≤ b) (hbc : b ≤ c) :
    window a c l = window a b l ++ window b c l := by
  rw [window, Asc.filter_split _ b hl]
  congr 1 <;> refine List.filter_congr fun r _ => (Bool.decide_and ..).symm.trans (decide_eq_decide.mpr ?_)
  · exact ⟨fun h => ⟨h.1.1, h.2⟩, fun h => ⟨⟨h.1, Int.lt_of_lt_of_le h.2 hbc⟩, h.2⟩⟩
  · exact ⟨fun h => ⟨h.2, h.1.2⟩, fun h => ⟨⟨Int.le_trans hab h.1, h.2⟩, h.1⟩⟩

theorem scan_fst {l : List SRec} : ∀ (o : Int) {bnd : Int}, Asc bnd l →
    (scan o l).1 = l.filter (fun r => decide (o ≤ r.off)) := by
  induction l with
  | nil => exact fun _ _ _ => rfl
  | cons x xs ih =>
    intro o _ ⟨_, hx⟩
    rw [scan, List.filter_cons]
    split
    · rw [if_neg (mt of_decide_eq_true (Int.not_le.mpr ‹_›))]
      exact ih o hx
    · -- after `x` every record passes either filter
      rw [if_pos (decide_eq_true (Int.not_lt.mp ‹_›)), ih (x.off + 1) hx]
      exact congrArg _ (List.filter_congr fun r hr =>
        have := Asc.all_gt hx r hr
        decide_eq_decide.mpr (iff_of_true (Int.add_one_le_of_lt this)
          (Int.le_trans (Int.not_lt.mp ‹_›) (Int.le_of_lt this))))

theorem scan_snd (o : Int) (l : List SRec) :
    o ≤ (scan o l).2 ∧ (∀ r ∈ l, r.off < (scan o l).2) ∧ ((scan o l).1 = [] → (scan o l).2 = o) ∧
    ((scan o l).1 ≠ [] → o < (scan o l).2 ∧ ∀ m, (∀ r ∈ l, r.off ≤ m) → (scan o l).2 ≤ m + 1) := by
  induction l generalizing o with
  | nil => exact ⟨Int.le_refl _, fun _ h => (nomatch h), fun _ => rfl, fun h => absurd rfl h⟩
  | cons x xs ih =>
    by_cases h : x.off < o
    · rw [scan, if_pos h]
      have ⟨i1, i2, i3, i4⟩ := ih o
      exact ⟨i1, fun r hr => (List.mem_cons.1 hr).elim (· ▸ Int.lt_of_lt_of_le h i1) (i2 r), i3,
        fun hne => ⟨(i4 hne).1, fun m hm => (i4 hne).2 m fun r hr => hm r (List.mem_cons_of_mem _ hr)⟩⟩
    · rw [scan, if_neg h]
      have ⟨i1, i2, i3, i4⟩ := ih (x.off + 1)
      have hx : x.off < (scan (x.off + 1) xs).2 := Int.lt_of_lt_of_le (Int.lt_succ _) i1
      have ho : o < (scan (x.off + 1) xs).2 := Int.lt_of_le_of_lt (Int.not_lt.mp h) hx
      refine ⟨Int.le_of_lt ho, fun r hr => (List.mem_cons.1 hr).elim (· ▸ hx) (i2 r), nofun,
        fun _ => ⟨ho, fun m hm => ?_⟩⟩
      by_cases he : (scan (x.off + 1) xs).1 = []
      · exact (i3 he).symm ▸ Int.add_le_add_right (hm x List.mem_cons_self) 1
      · exact (i4 he).2 m fun r hr => hm r (List.mem_cons_of_mem _ hr)

/-- what the offset logic sees of one RecordsSet entry: its records (absolute offsets), the last offset of
    its range, and whether its records are handed to the application -/
structure Seg where
  recs : List SRec
  hi : Int
  keep : Bool

def segStep (o : Int) (s : Seg) : List SRec × Int := bump (scan o s.recs)

/-- the offsets advance over every entry; the records of an entry not kept are dropped from the output only -/
def segWalk (o : Int) : List Seg → List SRec × Int
  | [] => ([], o)
  | s :: ss => ((if s.keep then (segStep o s).1 else []) ++ (segWalk (segStep o s).2 ss).1,
                (segWalk (segStep o s).2 ss).2)

theorem segStep_spec {bnd o : Int} {s : Seg} (h1 : Asc bnd s.recs) (h2 : ∀ r ∈ s.recs, r.off ≤ s.hi) (ho : o ≤ s.hi) :
    (segStep o s).1 = window o (segStep o s).2 s.recs ∧ o < (segStep o s).2 ∧ (segStep o s).2 ≤ s.hi + 1 ∧
    ∀ r ∈ s.recs, r.off < (segStep o s).2 := by
  have ⟨s1, s2, s3, s4⟩ := scan_snd o s.recs
  have hb : (scan o s.recs).2 ≤ (segStep o s).2 ∧ o < (segStep o s).2 ∧ (segStep o s).2 ≤ s.hi + 1 := by
    unfold segStep bump
    dsimp only
    split
    · rw [s3 (List.isEmpty_iff.mp ‹_›)]
      exact ⟨Int.le_of_lt (Int.lt_succ o), Int.lt_succ o, Int.add_le_add_right ho 1⟩
    · have := s4 (fun e => ‹¬ _› (List.isEmpty_iff.mpr e))
      exact ⟨Int.le_refl _, this.1, this.2 _ h2⟩
  have hpass : ∀ r ∈ s.recs, r.off < (segStep o s).2 := fun r hr => Int.lt_of_lt_of_le (s2 r hr) hb.1
  exact ⟨(scan_fst o h1).trans (List.filter_congr fun r hr => decide_eq_decide.mpr (and_iff_left (hpass r hr)).symm),
    hb.2.1, hb.2.2, hpass⟩

/-- the entries lie one after the other above `bnd`; gaps between and inside entries are allowed (compaction) -/
def SegsWF (bnd : Int) : List Seg → Prop
  | [] => True
  | s :: ss => Asc bnd s.recs ∧ (∀ r ∈ s.recs, r.off ≤ s.hi) ∧ bnd < s.hi ∧ SegsWF s.hi ss

def segVis (ss : List Seg) : List SRec := ss.flatMap (fun s => if s.keep then s.recs else [])
def segAll (ss : List Seg) : List SRec := ss.flatMap (·.recs)

theorem SegsWF.mono {b b' : Int} (h : b' ≤ b) : ∀ {ss}, SegsWF b ss → SegsWF b' ss
  | [], _ => trivial
  | _ :: _, ⟨h1, h2, h3, h4⟩ => ⟨Asc.mono h h1, h2, Int.lt_of_le_of_lt h h3, h4⟩

theorem SegsWF.sublist {l' l : List Seg} (hs : List.Sublist l' l) : ∀ {b}, SegsWF b l → SegsWF b l' := by
  induction hs with
  | slnil => exact id
  | cons _ _ ih => exact fun ⟨_, _, h3, h4⟩ => SegsWF.mono (Int.le_of_lt h3) (ih h4)
  | cons_cons _ _ ih => exact fun ⟨h1, h2, h3, h4⟩ => ⟨h1, h2, h3, ih h4⟩

theorem SegsWF.mem {ss : List Seg} {b : Int} (h : SegsWF b ss) {s : Seg} (hs : s ∈ ss) :
    b < s.hi ∧ ∀ r ∈ s.recs, b < r.off ∧ r.off ≤ s.hi :=
  have ⟨h1, h2, h3, _⟩ := h.sublist (List.singleton_sublist.2 hs)
  ⟨h3, fun r hr => ⟨Asc.all_gt h1 r hr, h2 r hr⟩⟩

theorem SegsWF.filter (p : Seg → Bool) : ∀ {ss b}, SegsWF b ss → SegsWF b (ss.filter p) :=
  fun h => h.sublist List.filter_sublist

theorem SegsWF.append_left {s1 s2 : List Seg} {b : Int} (h : SegsWF b (s1 ++ s2)) : SegsWF b s1 :=
  h.sublist (List.sublist_append_left ..)

def lastHi (b : Int) : List Seg → Int
  | [] => b
  | s :: ss => lastHi s.hi ss

theorem SegsWF.append_right : ∀ {s1 s2 : List Seg} {b}, SegsWF b (s1 ++ s2) → SegsWF (lastHi b s1) s2
  | [], _, _, h => h
  | x :: xs, s2, _, ⟨_, _, _, h4⟩ => SegsWF.append_right (s1 := xs) (s2 := s2) (b := x.hi) h4

theorem SegsWF.replace_tail {s1 t t' : List Seg} : ∀ {b}, SegsWF b (s1 ++ t) → SegsWF (lastHi b s1) t' → SegsWF b (s1 ++ t') := by
  induction s1 with
  | nil => exact fun _ h => h
  | cons x xs ih => exact fun ⟨h1, h2, h3, h4⟩ h => ⟨h1, h2, h3, ih h4 h⟩

theorem SegsWF.le_lastHi : ∀ {ss b}, SegsWF b ss → b ≤ lastHi b ss ∧ ∀ s ∈ ss, s.hi ≤ lastHi b ss := by
  intro ss
  induction ss with
  | nil => exact fun _ => ⟨Int.le_refl _, fun _ h => nomatch h⟩
  | cons x xs ih =>
    intro b ⟨_, _, h3, h4⟩
    have ⟨i1, i2⟩ := ih h4
    exact ⟨Int.le_trans (Int.le_of_lt h3) i1, fun s hs => (List.mem_cons.1 hs).elim (· ▸ i1) (i2 s)⟩

theorem segVis_cons (s : Seg) (ss : List Seg) : segVis (s :: ss) = (if s.keep then s.recs else []) ++ segVis ss :=
  rfl

theorem segVis_append (a b : List Seg) : segVis (a ++ b) = segVis a ++ segVis b :=
  List.flatMap_append

theorem segVis_mem {ss : List Seg} {r : SRec} (h : r ∈ segVis ss) : ∃ s ∈ ss, r ∈ s.recs := by
  obtain ⟨s, hs, hr⟩ := List.mem_flatMap.1 h
  refine ⟨s, hs, ?_⟩
  split at hr
  · exact hr
  · cases hr

theorem segVis_asc {ss : List Seg} : ∀ {b}, SegsWF b ss → Asc b (segVis ss) := by
  induction ss with
  | nil => exact fun _ => trivial
  | cons x xs ih =>
    intro b ⟨h1, h2, h3, h4⟩
    rw [segVis_cons]
    split
    · exact Asc.append h1 h2 (Int.le_of_lt h3) (ih h4)
    · exact Asc.mono (Int.le_of_lt h3) (ih h4)

/-- The walk over a well-formed chain whose first segment reaches the current offset delivers exactly the kept
    records from the current offset up to the new offset, whatever lies between the segments. -/
theorem walk_spec {ss : List Seg} : ∀ {b o : Int}, SegsWF b ss → (∀ s, ss.head? = some s → o ≤ s.hi) →
    (segWalk o ss).1 = window o (segWalk o ss).2 (segVis ss) ∧ (ss ≠ [] → o < (segWalk o ss).2) ∧
    o ≤ (segWalk o ss).2 ∧ (segWalk o ss).2 ≤ max o (lastHi b ss + 1) ∧
    (∀ s ∈ ss, ∀ r ∈ s.recs, r.off < (segWalk o ss).2) := by
  induction ss with
  | nil => exact fun _ _ => ⟨rfl, fun h => absurd rfl h, Int.le_refl _, Int.le_max_left .., fun _ h => nomatch h⟩
  | cons x xs ih =>
    intro b o ⟨h1, h2, h3, h4⟩ hhd
    have ⟨t1, t2, t3, t4⟩ := segStep_spec h1 h2 (hhd x rfl)
    -- the next segment, if any, reaches the offset after `x`
    have ⟨i1, _, i3, i4, i5⟩ := ih (o := (segStep o x).2) h4 fun y hy =>
      Int.le_trans t3 (Int.add_one_le_of_lt (h4.mem (List.mem_of_mem_head? hy)).1)
    have e : segWalk o (x :: xs) =
        ((if x.keep then (segStep o x).1 else []) ++ (segWalk (segStep o x).2 xs).1, (segWalk (segStep o x).2 xs).2) := rfl
    rw [e, lastHi]
    have hl := (SegsWF.le_lastHi h4).1
    generalize (segWalk (segStep o x).2 xs).2 = F at *
    generalize (segStep o x).2 = S at *
    refine ⟨?_, fun _ => Int.lt_of_lt_of_le t2 i3, Int.le_trans (Int.le_of_lt t2) i3, ?_, ?_⟩
    · show _ ++ _ = _
      rw [segVis_cons, window_append, i1]
      congr 1
      · split
        · exact t1.trans (window_congr fun r hr =>
            and_congr_right fun _ => iff_of_true (t4 r hr) (Int.lt_of_lt_of_le (t4 r hr) i3))
        · rfl
      · exact window_congr fun r hr => by
          obtain ⟨s, hs, hrs⟩ := segVis_mem hr
          have hS := Int.le_trans t3 (Int.add_one_le_of_lt ((h4.mem hs).2 r hrs).1)
          exact and_congr_left fun _ => iff_of_true hS (Int.le_trans (Int.le_of_lt t2) hS)
    · exact Int.le_trans i4 (Int.max_le.mpr ⟨Int.le_trans (Int.le_trans t3 (Int.add_le_add_right hl 1))
        (Int.le_max_right ..), Int.le_max_right ..⟩)
    · intro s hs r hr
      rcases List.mem_cons.1 hs with rfl | hs
      · exact Int.lt_of_lt_of_le (t4 r hr) i3
      · exact i5 s hs r hr

end Lemmas.C03
