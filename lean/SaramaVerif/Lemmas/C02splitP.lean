/-
  C02 composition, per-stay split: the simulation of the partition producer's step (`ppRecv`), action by action
  (`ActSim`, `sim_ppAct`).  What goes to the real worker bound goes to the chain worker of its newest stay (`relW_push`).
  A successful lookup of real worker `w` is answered by a lookup of a chain worker not named so far, `newId w seen`
  (`relW_lookup`): it serves the new stay at once if `w` is in its initial state, and waits behind the earlier stays of
  `w` otherwise.  A failed lookup and the other actions are answered as they are.
-/
import SaramaVerif.Lemmas.C02splitW

namespace Lemmas.C02sys
open Model Model.Pipeline Props.C02sys

variable {M : Nat} {seen : List Nat} {g : Ghost} {s t s' t' : Sys}

theorem inqOf_pushW_not (t : Sys) (id : Nat) (x : Tok) (l : List Nat) (h : id ∉ l) (t' : Sys)
    (ht' : t'.wk = pushW t.wk id x) : inqOf t' l = inqOf t l :=
  inqOf_congr (fun j hj => by rw [ht']; exact if_neg (fun e : j = id => h (e ▸ hj)))

theorem inqOf_pushW_last (t t' : Sys) (x : Tok) : ∀ (l : List Nat) (hl : l ≠ []), l.Nodup →
    t'.wk = pushW t.wk (l.getLast hl) x → inqOf t' l = inqOf t l ++ [x] := by
  intro l
  induction l with
  | nil => intro hl; exact absurd rfl hl
  | cons a r ih =>
    intro hl hnd ht'
    simp only [List.nodup_cons] at hnd
    cases r with
    | nil =>
      simp only [List.getLast_singleton] at ht'
      simp [inqOf, ht', pushW, setW]
    | cons b r' =>
      rw [List.getLast_cons (List.cons_ne_nil _ _)] at ht'
      have hne : a ≠ (b :: r').getLast (List.cons_ne_nil _ _) := fun e => hnd.1 (e ▸ List.getLast_mem _)
      have := ih (List.cons_ne_nil _ _) hnd.2 ht'
      simp only [inqOf, List.flatMap_cons] at this ⊢
      rw [this]
      simp [ht', pushW, setW, hne, List.append_assoc]

theorem mergeW_push {t t' : Sys} {a : Nat} {L : List Nat} {x : Tok} (hnd : (live (a, L)).Nodup)
    (ht' : t'.wk = pushW t.wk (lastOf (a, L)) x) :
    mergeW t' a L = ⟨(mergeW t a L).inq ++ [x], (mergeW t a L).bp, (mergeW t a L).pend⟩ := by
  cases L with
  | nil =>
    simp only [lastOf_nil] at ht'
    simp [mergeW, inqOf, ht', pushW, setW]
  | cons b r =>
    rw [lastOf_cons] at ht'
    have hne : a ≠ lastOf (b, r) := fun e => (List.nodup_cons.1 hnd).1 (e ▸ lastOf_mem (b, r))
    have h2 := inqOf_pushW_last t t' x (b :: r) (List.cons_ne_nil _ _) (List.nodup_cons.1 hnd).2 ht'
    simp only [mergeW, h2]
    simp [ht', pushW, setW, hne, List.append_assoc]

theorem relW_push (h : RelW seen g s t) {w : Nat}
    {xx : Nat × List Nat} (hg : g w = some xx) (tok : Tok)
    (hs' : s'.wk = pushW s.wk w tok) (ht' : t'.wk = pushW t.wk (lastOf xx) tok)
    (hc : (s'.cur = s.cur ∧ t'.cur = t.cur) ∨ (s'.cur = none ∧ t'.cur = none ∧ t.cur = some (lastOf xx)))
    (ho : outerOf s' = outerOf t') : RelW seen g s' t' := by
  obtain ⟨a, L⟩ := xx
  have hto : ∀ id, id ≠ lastOf (a, L) → t'.wk id = t.wk id := fun id hid => by rw [ht']; exact if_neg hid
  have parts : ∀ j, (t'.wk j).bp = (t.wk j).bp ∧ (t'.wk j).pend = (t.wk j).pend ∧
      ((t.wk j).inq ≠ [] → (t'.wk j).inq ≠ []) ∧ (j = lastOf (a, L) → (t'.wk j).inq ≠ []) := fun j => by
    rw [ht', pushW_apply]
    exact ⟨rfl, rfl, fun hq e => hq (List.append_eq_nil_iff.1 e).1,
      fun hj e => by rw [if_pos hj] at e; exact absurd (List.append_eq_nil_iff.1 e).2 (List.cons_ne_nil _ _)⟩
  have hst := h.stay w a L hg
  refine h.set (hgok := h.toGOK) (hsub := fun _ => id) (hg' := fun _ _ => rfl) (hgw := hg)
    (ha0 := .inl ⟨_, hg, lastOf_mem _⟩) (ha0' := (h.ids w _ hg _ (lastOf_mem _)).1)
    (hs' := fun w' hw => by rw [hs']; exact if_neg hw) (ht' := hto) (hcur := ?_) (hc := ?_)
    (hstay := ⟨?_, fun id hid => ?_, fun hl => (parts a).2.2.1 (hst.actne hl), fun hl hi _ => ?_⟩) (ho := ho)
  · rcases hc with ⟨_, c2⟩ | ⟨_, _, c3⟩
    · exact fun a' _ e => c2.trans e
    · exact fun a' ha e => absurd (Option.some.inj (c3.symm.trans e)).symm ha
  · rcases hc with ⟨c1, c2⟩ | ⟨c1, c2, _⟩
    · rw [c1, c2]; exact h.cur
    · exact .inl ⟨c1, c2⟩
  · rw [hs', mergeW_push (h.nd w _ hg) ht', ← hst.wk, pushW_apply, if_pos rfl]
  · rw [(parts id).1, (parts id).2.1]
    exact ⟨(parts id).2.2.1 (hst.later id hid).1, (hst.later id hid).2⟩
  · subst hl; exact absurd hi ((parts a).2.2.2 rfl)

/-- the chain worker for a new stay of real worker `w`: on the same broker (`brokerOf`, 64 workers per broker), with
    the number of workers named so far as its number there - unused as long as fewer than 64 are named.  (`attrib` of
    Props/C02stays counts per broker instead: with several brokers the chain of `split_sim` and the chain that `splitRun`
    computes name their workers differently.) -/
def newId (w : Nat) (seen : List Nat) : Nat := (w / 64) * 64 + seen.length

theorem newId_fresh (hidn : ∀ id ∈ seen, id % 64 < seen.length) (hlt : seen.length < 64) (w : Nat) :
    newId w seen ∉ seen ∧ newId w seen / 64 = w / 64 ∧ newId w seen % 64 = seen.length := by
  have hmod : newId w seen % 64 = seen.length := by
    rw [newId, Nat.add_comm, Nat.add_mul_mod_self_right, Nat.mod_eq_of_lt hlt]
  refine ⟨fun hm => ?_, ?_, hmod⟩
  · have := hidn _ hm
    rw [hmod] at this; exact Nat.lt_irrefl _ this
  · rw [newId, Nat.add_comm, Nat.add_mul_div_right _ _ (by decide : 0 < 64), Nat.div_eq_of_lt hlt, Nat.zero_add]

theorem relW_open (h : RelW seen g s t) (w : Nat)
    (x' : Nat × List Nat) (hct : t.cur = none) (hlt : seen.length < 64) (tok : Tok)
    (hlast : lastOf x' = newId w seen)
    (hsub : ∀ id ∈ live x', id = newId w seen ∨ ∃ x, g w = some x ∧ id ∈ live x) (hnd : (live x').Nodup)
    (hstay : StayRel (openS t (newId w seen) tok) ((openS s w tok).wk w) x'.1 x'.2) :
    RelW (seen ++ [newId w seen]) (setF g w (some x')) (openS s w tok) (openS t (newId w seen) tok) := by
  obtain ⟨hfr, hbr, hmod⟩ := newId_fresh h.idn hlt w
  have hin : ∀ id ∈ seen, id ∈ seen ++ [newId w seen] := fun _ => List.mem_append_left _
  have hnew : newId w seen ∈ seen ++ [newId w seen] := List.mem_append_right _ (List.mem_singleton.2 rfl)
  have hgok := h.toGOK.set hin (fun id hid => by
      rw [List.length_append]
      rcases List.mem_append.1 hid with e | e
      · exact Nat.lt_succ_of_lt (h.idn id e)
      · rw [List.mem_singleton.1 e, hmod]; exact Nat.lt_succ_self _) w x'
    (fun id hid => (hsub id hid).imp_left (fun e => by rw [e]; exact ⟨hnew, hfr, hbr⟩)) hnd
  exact h.set (hgok := hgok) (hsub := hin) (hg' := fun w' hw => setF_other _ _ hw) (hgw := setF_same ..)
    (ha0 := .inr hfr) (ha0' := hnew)
    (hs' := fun w' hw => by rw [openS_wk, if_neg hw, List.append_nil])
    (ht' := fun j hj => by rw [openS_wk, if_neg hj, List.append_nil])
    (hcur := fun a' _ e => by rw [hct] at e; cases e)
    (hc := .inr ⟨w, x', rfl, setF_same .., congrArg some hlast.symm⟩) (hstay := hstay) (ho := h.outer)

/-- a lookup selects real worker `w`: a fresh chain worker stands for the new stay.  If the real worker is in its
    initial state (never used, or used up and reset by its chaser) it serves the new stay at once; otherwise the new
    stay waits behind the tokens of the earlier ones -/
theorem relW_lookup (h : RelW seen g s t) (hct : t.cur = none)
    (hlt : seen.length < 64) (w : Nat) (tok : Tok) :
    ∃ g', RelW (seen ++ [newId w seen]) g' (openS s w tok) (openS t (newId w seen) tok) := by
  obtain ⟨hfr, _, _⟩ := newId_fresh h.idn hlt w
  have tid : (openS t (newId w seen) tok).wk (newId w seen) = ⟨[synTok, tok], {}, none⟩ := by
    rw [openS_wk, h.blank _ hfr, if_pos rfl]; rfl
  have tj : ∀ j, j ≠ newId w seen → (openS t (newId w seen) tok).wk j = t.wk j := fun j hj => by
    rw [openS_wk, if_neg hj, List.append_nil]
  have fresh_case : s.wk w = {} →
      ∃ g', RelW (seen ++ [newId w seen]) g' (openS s w tok) (openS t (newId w seen) tok) := fun hw0 =>
    ⟨_, relW_open h w (newId w seen, []) hct hlt tok rfl (fun id hid => .inl (List.mem_singleton.1 hid))
      (by simp [live]) ⟨by rw [openS_wk, hw0, if_pos rfl, mergeW, tid]; rfl,
        List.forall_mem_nil _, fun hl => absurd rfl hl, fun _ hi _ => by rw [tid] at hi; cases hi⟩⟩
  cases hg : g w with
  | none => exact fresh_case (h.idle w hg)
  | some xx =>
    obtain ⟨a, L⟩ := xx
    have hst := h.stay w a L hg
    by_cases hdr : L = [] ∧ (t.wk a).inq = []
    · obtain ⟨rfl, hi⟩ := hdr
      obtain ⟨d1, d2⟩ := hst.drained rfl hi (fun e => nomatch hct.symm.trans e)
      refine fresh_case ?_
      rw [hst.wk, mergeW, hi, d1, d2]; rfl
    · have hidL : newId w seen ∉ live (a, L) := fun hm => hfr (h.ids w _ hg _ hm).1
      have tL : ∀ id ∈ live (a, L), (openS t (newId w seen) tok).wk id = t.wk id := fun id hid =>
        tj id (fun e => hidL (e ▸ hid))
      have tL' := fun id (hid : id ∈ L) => tL id (List.mem_cons_of_mem _ hid)
      refine ⟨_, relW_open h w (a, L ++ [newId w seen]) hct hlt tok (lastOf_append ..)
        (fun id hid => (List.mem_append.1 hid).elim (fun e => .inr ⟨_, hg, e⟩) (fun e => .inl (List.mem_singleton.1 e)))
        (List.nodup_append.2 ⟨h.nd w _ hg, List.nodup_cons.2 ⟨List.not_mem_nil, .nil⟩, fun x hx y hy e =>
          hidL (by rw [← List.mem_singleton.1 hy, ← e]; exact hx)⟩)
        ⟨?_, fun id hid => ?_, fun _ => ?_, fun hl => nomatch (List.append_eq_nil_iff.1 hl).2⟩⟩
      · rw [openS_wk, if_pos rfl, mergeW, tL a (List.mem_cons_self ..), inqOf, List.flatMap_append, ← inqOf,
          inqOf_congr tL', List.flatMap_singleton, tid, hst.wk, mergeW, List.append_assoc]
      · rcases List.mem_append.1 hid with e | e
        · rw [tL' id e]; exact hst.later id e
        · rw [List.mem_singleton.1 e, tid]; exact ⟨List.cons_ne_nil _ _, rfl, rfl⟩
      · rw [tL a (List.mem_cons_self ..)]
        by_cases hL : L = []
        · exact fun e => hdr ⟨hL, e⟩
        · exact hst.actne hL

/-- ONE action `a` of the partition producer in both runs: `lk` is what the chain uses of its lookup list (nothing, a
    failure, or the fresh worker of a new stay) -/
def ActSim (seen : List Nat) (s t : Sys) (lks : List (Option Nat)) (a : PartProd.Action) : Prop :=
  ∃ (lk : List (Option Nat)) (g' : Ghost) (t1 : Sys),
    Fresh seen (lk.filterMap id) ∧
    (lk.filterMap id).length + ((ppAct s lks a).2.filterMap id).length ≤ (lks.filterMap id).length ∧
    (∀ rest, ppAct t (lk ++ rest) a = (t1, rest)) ∧ RelW (seen ++ lk.filterMap id) g' (ppAct s lks a).1 t1

theorem sim_ppAct (h : RelW seen g s t) (lks : List (Option Nat))
    (a : PartProd.Action) (hb : seen.length + (lks.filterMap id).length ≤ 64) : ActSim seen s t lks a := by
  have quiet : ∀ (lk r : List (Option Nat)) (s1 t1 : Sys), lk.filterMap id = [] → ppAct s lks a = (s1, r) →
      (r.filterMap id).length ≤ (lks.filterMap id).length → (∀ rest, ppAct t (lk ++ rest) a = (t1, rest)) →
      RelW seen g s1 t1 → ActSim seen s t lks a := by
    intro lk r s1 t1 hk e1 hr e2 hrel
    refine ⟨lk, g, t1, ?_, ?_, e2, ?_⟩ <;> rw [hk]
    · exact Fresh.nil seen
    · rw [e1, List.length_nil, Nat.zero_add]; exact hr
    · rw [e1, List.append_nil]; exact hrel
  have same : ∀ s1 t1, ppAct s lks a = (s1, lks) → (∀ rest, ppAct t rest a = (t1, rest)) → RelW seen g s1 t1 →
      ActSim seen s t lks a := fun s1 t1 e1 e2 => quiet [] lks s1 t1 rfl e1 (Nat.le_refl _) e2
  cases a with
  | park i => exact same s t rfl (fun _ => rfl) h
  | finDone => exact same s t rfl (fun _ => rfl) h
  | finSend l =>
    rcases h.cur with ⟨c1, c2⟩ | ⟨w, x, c1, c2, c3⟩
    · exact same _ _ (ppAct_finSend_none c1 lks l) (ppAct_finSend_none c2 · l)
        (h.frame rfl rfl rfl rfl (congrArg (fun o : Sys => { o with crash := true }) h.outer))
    · exact same _ _ (ppAct_finSend_some c1 lks l) (ppAct_finSend_some c3 · l)
        (relW_push h c2 (finTok l) rfl rfl (.inr ⟨rfl, rfl, c3⟩) h.outer)
  | emit i l fin =>
    rcases h.cur with ⟨c1, c2⟩ | ⟨w, x, c1, c2, c3⟩
    · rcases ppAct_emit_eq s lks i l fin with ⟨w, hc, _⟩ | ⟨_, _, e⟩ | ⟨w, r, _, rfl, e⟩
      · rw [c1] at hc; cases hc
      · exact quiet [none] _ _ { t with errs := if fin then t.errs else t.errs ++ [i] } rfl e ((List.tail_sublist lks).filterMap id).length_le
          (fun rest => ppAct_emit_fail c2 (lks := none :: rest) nofun i l fin)
          (h.frame rfl rfl rfl rfl
            (congrArg (fun o : Sys => { o with errs := if fin then o.errs else o.errs ++ [i] }) h.outer))
      · have hlt : seen.length < 64 := Nat.lt_of_lt_of_le (Nat.lt_add_of_pos_right (Nat.succ_pos _)) hb
        obtain ⟨g', hrel⟩ := relW_lookup h c2 hlt w (mkTok i l fin)
        refine ⟨[some (newId w seen)], g', _, ⟨List.nodup_cons.2 ⟨List.not_mem_nil, .nil⟩, fun j hj => ?_⟩, ?_,
          fun _ => ppAct_emit_open c2 _ _ i l fin, by rw [e]; exact hrel⟩
        · rw [List.mem_singleton.1 hj]; exact (newId_fresh h.idn hlt w).1
        · rw [e]; exact Nat.le_of_eq (Nat.add_comm ..)
    · exact same _ _ (ppAct_emit_some c1 lks i l fin) (ppAct_emit_some c3 · i l fin)
        (relW_push h c2 _ rfl rfl (.inl ⟨rfl, rfl⟩) h.outer)

theorem sim_ppActs (as : List PartProd.Action) : ∀ (seen : List Nat) (g : Ghost) (s t : Sys) (lks : List (Option Nat)),
    RelW seen g s t → seen.length + (lks.filterMap id).length ≤ 64 →
    ∃ (lks' : List (Option Nat)) (g' : Ghost), Fresh seen (lks'.filterMap id) ∧
      (lks'.filterMap id).length ≤ (lks.filterMap id).length ∧
      RelW (seen ++ lks'.filterMap id) g' (ppActs s lks as) (ppActs t lks' as) := by
  induction as with
  | nil => intro seen g s t lks h _; exact ⟨[], g, Fresh.nil seen, Nat.zero_le _, (List.append_nil seen).symm ▸ h⟩
  | cons a r ih =>
    intro seen g s t lks h hb
    obtain ⟨lk, g1, t1, f1, f3, f4, f5⟩ := sim_ppAct h lks a hb
    obtain ⟨lks2, g2, k1, k4, k3⟩ := ih (seen ++ lk.filterMap id) g1 (ppAct s lks a).1 t1 (ppAct s lks a).2 f5
      (by rw [List.length_append]; omega)
    refine ⟨lk ++ lks2, g2, ?_, ?_, ?_⟩ <;> rw [List.filterMap_append]
    · exact f1.append k1
    · rw [List.length_append]; omega
    · rw [ppActs, ppActs, f4 lks2, ← List.append_assoc]; exact k3

theorem sim_ppRecv (hM : 1 ≤ M) (h : Rel M seen g s t)
    {lks : List (Option Nat)} (hb : seen.length + (lks.filterMap id).length ≤ 64)
    (hs : sysStep M s (.ppRecv lks) = some s') : Sim M seen s' t (.ppRecv lks) := by
  cases step_iff.1 hs with
  | worker hf => cases hf
  | @ppRecv x r _ hq =>
    have h0 : RelW seen g { s with pq := r, pp := (PartProd.recv s.pp (toPP x)).1 }
        { t with pq := r, pp := (PartProd.recv s.pp (toPP x)).1 } :=
      h.toRelW.frame rfl rfl rfl rfl
        (congrArg (fun o : Sys => { o with pq := r, pp := (PartProd.recv s.pp (toPP x)).1 }) h.outer)
    obtain ⟨lks', g', k1, k4, k3⟩ := sim_ppActs (PartProd.recv s.pp (toPP x)).2 seen g _ _ lks h0 hb
    have ht := step_iff.2 (.ppRecv (M := M) lks' (h.pq ▸ hq))
    rw [← h.pp] at ht
    exact ⟨.ppRecv lks', g', _, ht,
      { toRelW := k3, cinv := chain_step hM (.ppRecv lks') k1.2 h.cinv ht }, k4, k1⟩

end Lemmas.C02sys
