import SaramaVerif.Lemmas.C11Truth
import SaramaVerif.Lemmas.C03Hist
/-
  C11: the sorted aborted-transaction index and its consumption (`getAbortedTransactions`, the
  `for _, txn := range abortedTransactions` loop of parseResponse), the invariant of the abort filter along a
  response (`JInv`), and from it: the keep decisions of parseResponse under read-committed with a faithful index
  are the ground truth.
-/
namespace Lemmas.C11
open Model.ConsumerParse Model.Txn Lemmas.C03

/-- index entries `(producer, first offset)` in the order in which `getAbortedTransactions` leaves them -/
def SortedA : List (Int × Int) → Prop
  | [] => True
  | x :: xs => (∀ y ∈ xs, x.2 ≤ y.2) ∧ SortedA xs

theorem mem_insAborted (x : Int × Int) (l : List (Int × Int)) (t : Int × Int) : t ∈ insAborted x l ↔ t = x ∨ t ∈ l := by
  induction l with
  | nil => simp [insAborted]
  | cons y ys ih =>
    rw [insAborted]
    split
    · exact List.mem_cons
    · rw [List.mem_cons, ih, List.mem_cons]
      exact or_left_comm

theorem sorted_insAborted (x : Int × Int) : ∀ (l : List (Int × Int)), SortedA l → SortedA (insAborted x l)
  | [], _ => ⟨(fun _ h => by cases h), trivial⟩
  | y :: ys, ⟨h1, h2⟩ => by
      unfold insAborted
      split
      · rename_i hlt
        refine ⟨?_, h1, h2⟩
        intro z hz
        rcases List.mem_cons.1 hz with rfl | hz
        · exact Int.le_of_lt hlt
        · exact Int.le_trans (Int.le_of_lt hlt) (h1 z hz)
      · rename_i hge
        refine ⟨?_, sorted_insAborted x ys h2⟩
        intro z hz
        rcases (mem_insAborted x ys z).1 hz with rfl | hz
        · exact Int.not_lt.mp hge
        · exact h1 z hz

theorem sorted_sortAborted : ∀ (l : List (Int × Int)), SortedA (sortAborted l)
  | [] => trivial
  | x :: xs => sorted_insAborted x _ (sorted_sortAborted xs)

theorem mem_sortAborted : ∀ (l : List (Int × Int)) (t : Int × Int), t ∈ sortAborted l ↔ t ∈ l
  | [], t => by simp [sortAborted]
  | x :: xs, t => by simp [sortAborted, mem_insAborted, mem_sortAborted xs t]

theorem consume_spec (last : Int) : ∀ (rem : List (Int × Int)) (abs : List Int), SortedA rem →
    SortedA (consumeAborted last rem abs).1 ∧
    (∀ t, t ∈ (consumeAborted last rem abs).1 ↔ t ∈ rem ∧ last < t.2) ∧
    (∀ p, p ∈ (consumeAborted last rem abs).2 ↔ p ∈ abs ∨ ∃ f, (p, f) ∈ rem ∧ f ≤ last) := by
  intro rem
  induction rem with
  | nil => exact fun abs _ => ⟨trivial, fun t => by simp [consumeAborted], fun p => by simp [consumeAborted]⟩
  | cons t0 ts ih =>
    intro abs ⟨h1, h2⟩
    rw [consumeAborted]
    by_cases h : t0.2 > last
    · have hall : ∀ t ∈ t0 :: ts, last < t.2 := fun t ht =>
        (List.mem_cons.1 ht).elim (· ▸ h) fun ht => Int.lt_of_lt_of_le h (h1 t ht)
      rw [if_pos h]
      exact ⟨⟨h1, h2⟩, fun t => ⟨fun ht => ⟨ht, hall t ht⟩, And.left⟩,
        fun p => ⟨Or.inl, fun hp => hp.elim id fun ⟨f, hf, hle⟩ => absurd (hall _ hf) (Int.not_lt.2 hle)⟩⟩
    · rw [if_neg h]
      have ⟨i1, i2, i3⟩ := ih (t0.1 :: abs) h2
      refine ⟨i1, fun t => ?_, fun p => ?_⟩
      · rw [i2 t, List.mem_cons]
        exact ⟨fun ⟨a, b⟩ => ⟨.inr a, b⟩, fun ⟨a, b⟩ => ⟨a.resolve_left fun e => h (e ▸ b), b⟩⟩
      · rw [i3 p, List.mem_cons]
        constructor
        · rintro ((rfl | hp) | ⟨f, hf, hle⟩)
          · exact .inr ⟨t0.2, List.mem_cons_self, Int.not_lt.mp h⟩
          · exact .inl hp
          · exact .inr ⟨f, List.mem_cons_of_mem _ hf, hle⟩
        · rintro (hp | ⟨f, hf, hle⟩)
          · exact .inl (.inr hp)
          · rcases List.mem_cons.1 hf with heq | hf
            · exact .inl (.inl (congrArg Prod.fst heq))
            · exact .inr ⟨f, hf, hle⟩

/-- state of the abort filter after the entries `P` of the response.  `rem` is what is left of the index: the entries
    whose first offset lies beyond every batch of `P`.  A producer is in `abs` exactly when the index lists a
    transaction of it that has begun at or below a batch of `P` and `P` has no abort marker of it at or after that
    first offset: the transaction is open where the response stands, and the index says it will abort. -/
structure JInv (idx : List (Int × Int)) (P : List Entry) (rem : List (Int × Int)) (abs : List Int) : Prop where
  sorted : SortedA rem
  rem_iff : ∀ t, t ∈ rem ↔ t ∈ idx ∧ ∀ c, Entry.batch c ∈ P → batchLast c < t.2
  abs_iff : ∀ p, p ∈ abs ↔ ∃ f, (p, f) ∈ idx ∧ (∃ c, Entry.batch c ∈ P ∧ f ≤ batchLast c) ∧
    ∀ c, Entry.batch c ∈ P → isAbortMarker p c → batchLast c < f

theorem JInv.init (idx : List (Int × Int)) : JInv idx [] (sortAborted idx) [] where
  sorted := sorted_sortAborted idx
  rem_iff := fun t => by simp [mem_sortAborted]
  abs_iff := fun p => by simp

theorem JInv.legacy {idx P rem abs} (h : JInv idx P rem abs) (blks : List LBlock) :
    JInv idx (P ++ [Entry.legacy blks]) rem abs :=
  -- a legacy set adds no batch
  have mem {c : Batch} : Entry.batch c ∈ P ++ [Entry.legacy blks] ↔ Entry.batch c ∈ P := by
    rw [List.mem_append, List.mem_singleton]; exact or_iff_left nofun
  { sorted := h.sorted
    rem_iff := fun t => by simp only [mem]; exact h.rem_iff t
    abs_iff := fun p => by simp only [mem]; exact h.abs_iff p }

theorem JInv.consumed {idx P rem abs} (h : JInv idx P rem abs) (b : Batch)
    (hP : ∀ c, Entry.batch c ∈ P → batchLast c < batchLast b) (p : Int) :
    p ∈ (consumeAborted (batchLast b) rem abs).2 ↔
      ∃ f, (p, f) ∈ idx ∧ f ≤ batchLast b ∧ ∀ c, Entry.batch c ∈ P → isAbortMarker p c → batchLast c < f := by
  have ⟨_, _, c3⟩ := consume_spec (batchLast b) rem abs h.sorted
  rw [c3 p]
  constructor
  · rintro (hp | ⟨f, hf, hle⟩)
    · obtain ⟨f, hf, ⟨c, hc, hfc⟩, hclean⟩ := (h.abs_iff p).1 hp
      exact ⟨f, hf, Int.le_trans hfc (Int.le_of_lt (hP c hc)), hclean⟩
    · have ⟨hi, hnc⟩ := (h.rem_iff (p, f)).1 hf
      exact ⟨f, hi, hle, fun c hc _ => hnc c hc⟩
  · rintro ⟨f, hf, hle, hclean⟩
    by_cases hcons : ∃ c, Entry.batch c ∈ P ∧ f ≤ batchLast c
    · exact Or.inl ((h.abs_iff p).2 ⟨f, hf, hcons, hclean⟩)
    · refine Or.inr ⟨f, (h.rem_iff (p, f)).2 ⟨hf, ?_⟩, hle⟩
      intro c hc
      by_cases hlt : batchLast c < f
      · exact hlt
      · exact absurd ⟨c, hc, Int.not_lt.mp hlt⟩ hcons

theorem JInv.step {idx P rem abs} (h : JInv idx P rem abs) (b : Batch)
    (hP : ∀ c, Entry.batch c ∈ P → batchLast c < batchLast b) :
    JInv idx (P ++ [Entry.batch b]) (consumeAborted (batchLast b) rem abs).1
      (if b.control = true then absAfter b (consumeAborted (batchLast b) rem abs).2
       else (consumeAborted (batchLast b) rem abs).2) := by
  have ⟨c1, c2, _⟩ := consume_spec (batchLast b) rem abs h.sorted
  have mem {c : Batch} : Entry.batch c ∈ P ++ [Entry.batch b] ↔ Entry.batch c ∈ P ∨ c = b := by
    rw [List.mem_append, List.mem_singleton, Entry.batch.injEq]
  refine ⟨c1, fun t => ?_, ?_⟩
  · rw [c2 t, h.rem_iff t]
    simp only [mem, or_imp, forall_and, forall_eq, and_assoc]
  · intro p
    have hnew : p ∈ (if b.control = true then absAfter b (consumeAborted (batchLast b) rem abs).2
        else (consumeAborted (batchLast b) rem abs).2) ↔
        p ∈ (consumeAborted (batchLast b) rem abs).2 ∧ ¬ isAbortMarker p b := by
      unfold isAbortMarker absAfter
      by_cases hc : b.control = true
      · by_cases ha : b.ctl = Ctl.abort
        · simp only [hc, ha, ↓reduceIte, List.mem_filter, decide_eq_true_eq, true_and, and_true, ne_eq]
          constructor
          · rintro ⟨h1, h2⟩; exact ⟨h1, fun h => h2 h.symm⟩
          · rintro ⟨h1, h2⟩; exact ⟨h1, fun h => h2 h.symm⟩
        · simp [hc, ha]
      · simp [hc]
    rw [hnew, h.consumed b hP p]
    constructor
    · rintro ⟨⟨f, hf, hle, hclean⟩, hnb⟩
      exact ⟨f, hf, ⟨b, mem.2 (.inr rfl), hle⟩, fun c hc hcm =>
        (mem.1 hc).elim (fun hc => hclean c hc hcm) fun e => absurd (e ▸ hcm) hnb⟩
    · rintro ⟨f, hf, ⟨c, hc, hfc⟩, hclean⟩
      have hfb : f ≤ batchLast b := (mem.1 hc).elim (fun hc => Int.le_trans hfc (Int.le_of_lt (hP c hc))) fun e => e ▸ hfc
      exact ⟨⟨f, hf, hfb, fun c hc => hclean c (mem.2 (.inl hc))⟩, fun hbm =>
        Int.lt_irrefl _ (Int.lt_of_lt_of_le (hclean b (mem.2 (.inr rfl)) hbm) hfb)⟩

theorem mem_units_bat {c : Batch} : ∀ {es : List Entry}, LUnit.bat c ∈ es.flatMap entryUnits ↔ Entry.batch c ∈ es
  | [] => by simp
  | .legacy blks :: es => by
      simp only [List.flatMap_cons, List.mem_append, List.mem_cons, reduceCtorEq, false_or, mem_units_bat (es := es)]
      constructor
      · rintro (h | h)
        · simp [entryUnits] at h
        · exact h
      · exact Or.inr
  | .batch b :: es => by
      simp only [List.flatMap_cons, List.mem_append, List.mem_cons, Entry.batch.injEq, mem_units_bat (es := es)]
      simp [entryUnits]

theorem keepIso_bat (b : Batch) (rest : List LUnit) :
    keepIso true (.bat b) rest = (!b.control && !(b.txn && nextMarker b.pid rest == some Ctl.abort)) := rfl

/-- the flag `keeps` computes against the one `keepIso` computes, once membership in the aborted set is known to mean
    that the producer's next marker aborts -/
theorem keep_flag {rc ctl txn : Bool} {X : Prop} [Decidable X] {nm : Option Ctl} (hrc : rc = true)
    (h : ctl = false → txn = true → (X ↔ nm = some Ctl.abort)) :
    (!ctl && !decide (rc = true ∧ txn = true ∧ X)) = (!ctl && !(txn && nm == some Ctl.abort)) := by
  cases ctl
  · cases txn
    · exact congrArg (true && !·) (decide_eq_false fun h => Bool.false_ne_true h.2.1)
    · refine congrArg (true && !·) ?_
      rw [Bool.true_and, Bool.eq_iff_iff, decide_eq_true_iff, beq_iff_eq, ← h rfl rfl]
      exact ⟨fun h => h.2.2, fun h => ⟨hrc, rfl, h⟩⟩
  · rfl

theorem keeps_truth (cfg : Cfg) (hrc : cfg.readCommitted = true) (L pre post : List LUnit) (esAll : List Entry)
    (idx : List (Int × Int)) (o hiEnd : Int)
    (hL : L = pre ++ esAll.flatMap entryUnits ++ post) (hs : HiSorted L) (hbase : BaseWF L)
    (hidx : FaithfulIndex L o hiEnd idx) (hpre : ∀ u ∈ pre, unitHi u < o)
    (hrun : ∀ u ∈ esAll.flatMap entryUnits, o ≤ unitHi u)
    (hend : ∀ b, Entry.batch b ∈ esAll → batchLast b ≤ hiEnd) :
    ∀ (Q P : List Entry) (rem : List (Int × Int)) (abs : List Int), esAll = P ++ Q → JInv idx P rem abs →
      keeps cfg Q rem abs = truthKeeps true Q post := by
  intro Q
  induction Q with
  | nil => exact fun _ _ _ _ _ => rfl
  | cons e Q' ih =>
    intro P rem abs hPQ hJ
    cases e with
    | legacy blks =>
      rw [keeps, truthKeeps, ih (P ++ [Entry.legacy blks]) rem abs (by rw [hPQ, List.append_assoc]; rfl) (hJ.legacy blks)]
    | batch b =>
      have hL' : L = (pre ++ P.flatMap entryUnits) ++ LUnit.bat b :: (Q'.flatMap entryUnits ++ post) := by
        rw [hL, hPQ]; simp [List.flatMap_append, entryUnits, List.append_assoc]
      have hs' : HiSorted ((pre ++ P.flatMap entryUnits) ++ LUnit.bat b :: (Q'.flatMap entryUnits ++ post)) := by
        rw [← hL']; exact hs
      have ⟨hA, hS, _⟩ := hiSorted_split hs'
      have hPin : ∀ c, Entry.batch c ∈ P → LUnit.bat c ∈ L ∧ batchLast c < batchLast b := fun c hc =>
        have hcA : LUnit.bat c ∈ pre ++ P.flatMap entryUnits := List.mem_append_right _ (mem_units_bat.2 hc)
        ⟨by rw [hL']; exact List.mem_append_left _ hcA, hA (.bat c) hcA⟩
      have hbAll : Entry.batch b ∈ esAll := by rw [hPQ]; exact List.mem_append_right _ List.mem_cons_self
      have ih := ih (P ++ [Entry.batch b]) _ _ (by rw [hPQ, List.append_assoc]; rfl) (hJ.step b fun c hc => (hPin c hc).2)
      have hiff (hd : isTxnData b.pid b) : b.pid ∈ (consumeAborted (batchLast b) rem abs).2 ↔
          nextMarker b.pid (Q'.flatMap entryUnits ++ post) = some Ctl.abort := by
        rw [hJ.consumed b (fun c hc => (hPin c hc).2), nextMarker_nextAbort b.pid _ _ b hs', ← hL']
        refine index_agrees L o hiEnd idx b.pid b _ hs hbase hidx (by rw [hL']; exact List.mem_append_right _ List.mem_cons_self) hd
          (hrun (.bat b) (mem_units_bat.2 hbAll)) (hend b hbAll) hPin fun c hcL hco hcb => ?_
        -- a batch of the log from `o` on that ends before `b` is one of `P`
        rw [hL'] at hcL
        rcases List.mem_append.1 hcL with h | h
        · rcases List.mem_append.1 h with h | h
          · exact absurd (Int.lt_of_lt_of_le (hpre _ h) hco) (Int.lt_irrefl _)
          · exact mem_units_bat.1 h
        · rcases List.mem_cons.1 h with h | h
          · cases h; exact absurd hcb (Int.lt_irrefl _)
          · exact absurd (Int.lt_trans (hS _ h) hcb) (Int.lt_irrefl _)
      rw [keeps, truthKeeps, keepIso_bat, ih]
      exact congrArg (· :: _) (keep_flag hrc fun hc ht => hiff ⟨hc, ht, rfl⟩)

end Lemmas.C11
