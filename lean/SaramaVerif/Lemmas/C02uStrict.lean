/-
  C02 composition, hand-over chain runs: the shape of the workers' input channels, as an invariant of its own
  (`Strict`, one `Chan` per worker, kept by a step whose look-ups name workers in their initial state).  A syn is pushed
  on the channel of a worker in its initial state and is the first token the worker takes, so it is seen only at the
  head of the channel of the bound worker, which is then still in its initial state; a chaser is pushed as the
  partition producer leaves, and the worker left is never selected again, so a chaser is the last token of a channel.
  Hence the channel of a worker the partition producer is not bound to is messages and, last, at most one chaser
  (`Strict.released`): that shape is what `released_worker_holds_nothing` (Props/C02stays.lean) states, and the ordering
  invariant `GoodU`, which also covers a worker selected again while it drains, does not keep it.  Two facts come from
  the ordering invariant and are hypotheses of `strict_step`: the worker left at a new retry level refuses (so its syn
  is gone: a worker in its initial state accepts), and a chaser in front of the partition producer is at or below the
  watermark (so what is forwarded is a message).
-/
import SaramaVerif.Lemmas.C02base

namespace Lemmas.C02sys
open Model Model.Pipeline

/-- worker `x`, bound (`b`) or not: nothing is behind a chaser and nothing in front of a syn (`ord`); a syn is in the
    channel of the bound worker only, which is still in its initial state; the bound worker has no chaser -/
structure Chan (b : Prop) (x : Worker) : Prop where
  ord : x.inq.Pairwise fun a c => a.kind ≠ .fin ∧ c.kind ≠ .syn
  syn : ∀ t ∈ x.inq, t.kind = .syn → b ∧ x.bp = {} ∧ x.pend = none
  fin : ∀ t ∈ x.inq, t.kind = .fin → ¬ b

namespace Chan

/-- neither bound before nor after: the shape of the channel does not depend on who else is bound -/
theorem unbound {b b' : Prop} {x : Worker} (h : Chan b x) (hb : ¬ b) (hb' : ¬ b') : Chan b' x :=
  ⟨h.ord, fun t ht hk => absurd (h.syn t ht hk).1 hb, fun _ _ _ => hb'⟩

/-- the bound worker (`hb`) gets `t` at the end of its channel; `b'` is whether it is bound afterwards.  A data token
    leaves that open; a chaser is pushed as the worker is left (`¬ b'`).  `hsyn`: a worker that still has its syn in
    the channel stays bound. -/
theorem snoc {b b' : Prop} {x : Worker} {t : Tok} (h : Chan b x) (hb : b)
    (ht : t.kind = .data ∨ t.kind = .fin ∧ ¬ b') (hsyn : ∀ a ∈ x.inq, a.kind = .syn → b') :
    Chan b' { x with inq := x.inq ++ [t] } :=
  have hts : t.kind ≠ .syn := fun e => ht.elim (fun d => BrokerProd.Kind.noConfusion (e.symm.trans d)) fun f =>
    BrokerProd.Kind.noConfusion (e.symm.trans f.1)
  have hfin : t.kind = .fin → ¬ b' := fun e =>
    ht.elim (fun d => BrokerProd.Kind.noConfusion (e.symm.trans d)) (·.2)
  ⟨List.pairwise_append.2 ⟨h.ord, List.pairwise_singleton .., fun a ha _ hc =>
      List.mem_singleton.1 hc ▸ ⟨fun e => h.fin a ha e hb, hts⟩⟩,
    fun a ha hk => (List.mem_append.1 ha).elim (fun ha => ⟨hsyn a ha hk, (h.syn a ha hk).2⟩)
      fun ha => absurd (List.mem_singleton.1 ha ▸ hk) hts,
    fun a ha hk => (List.mem_append.1 ha).elim (fun ha => absurd hb (h.fin a ha hk))
      fun ha => hfin (List.mem_singleton.1 ha ▸ hk)⟩

end Chan

def Strict (s : Sys) : Prop := ∀ w, Chan (s.cur = some w) (s.wk w)

theorem strict_init : Strict {} :=
  fun _ => ⟨.nil, fun _ h => (List.not_mem_nil h).elim, fun _ h => (List.not_mem_nil h).elim⟩

namespace Strict

theorem released {s : Sys} (h : Strict s) {w : Nat} (hw : s.cur ≠ some w) {q : List Tok} {k : Nat}
    (e : (s.wk w).inq = q ++ [finTok k]) : ∀ t ∈ q, t.kind = .data := by
  intro t ht
  cases hk : t.kind with
  | data => rfl
  | syn => exact absurd ((h w).syn t (e ▸ List.mem_append_left _ ht) hk).1 hw
  | fin => exact absurd hk ((List.pairwise_append.1 (e ▸ (h w).ord)).2.2 t ht _ (List.mem_singleton_self _)).1

/-- worker `w` works: it takes `p` off the head of its channel; with a syn at the head and in its initial state it
    can do nothing but take the syn -/
theorem work {s : Sys} (h : Strict s) {w : Nat} {x : Worker} {p ret : List Tok} {log errs : List Int}
    {succ : List (Int × Nat)} (hp : (s.wk w).inq = p ++ x.inq)
    (idle : p = [] → headSyn (s.wk w).inq = true → (s.wk w).bp = {} → (s.wk w).pend = none → False) :
    Strict { s with wk := setW s.wk w x, ret := ret, log := log, succ := succ, errs := errs } := by
  intro k
  have ho := (h w).ord
  rw [hp] at ho
  refine forall_setW (P := fun k y => Chan (s.cur = some k) y) ⟨(List.pairwise_append.1 ho).2.1, fun t ht hk => ?_,
    fun t ht => (h w).fin t (hp ▸ List.mem_append_right _ ht)⟩ (fun k _ => h k) k
  obtain ⟨_, hbp, hpd⟩ := (h w).syn t (hp ▸ List.mem_append_right _ ht) hk
  obtain ⟨a, r, e⟩ := List.append_of_mem ht
  rw [e, ← List.append_assoc] at hp ho
  obtain ⟨rfl, rfl⟩ := List.append_eq_nil_iff.1 (List.eq_nil_iff_forall_not_mem.2 fun c hc =>
    ((List.pairwise_append.1 ho).2.2 c hc t (List.mem_cons_self ..)).2 hk)
  exact (idle rfl (hp ▸ decide_eq_true hk) hbp hpd).elim

end Strict

theorem strict_push {s : Sys} {w : Nat} {t : Tok} {c : Option Nat}
    (hv : Chan (c = some w) { s.wk w with inq := (s.wk w).inq ++ [t] })
    (hf : ∀ k, k ≠ w → Chan (c = some k) (s.wk k)) : Strict { s with wk := pushW s.wk w t, cur := c } :=
  forall_setW (P := fun k y => Chan (c = some k) y) hv hf

/-- `hl` only while none is bound: the first look-up that succeeds binds one, and no further look-up is made -/
theorem strict_ppActs {as : List PartProd.Action} {s : Sys} {lks : List (Option Nat)}
    (has : ∀ a ∈ as, ∃ i l, a = .emit i l false) (h : Strict s)
    (hl : s.cur = none → ∀ w, some w ∈ lks → s.wk w = {}) : Strict (ppActs s lks as) := by
  induction as generalizing s lks with
  | nil => exact h
  | cons a r ih =>
    have hr := fun b hb => has b (List.mem_cons_of_mem _ hb)
    rw [ppActs]
    obtain ⟨i, l, rfl⟩ := has a (List.mem_cons_self ..)
    rcases ppAct_emit_eq s lks i l false with ⟨w, hc, e⟩ | ⟨hc, _, e⟩ | ⟨w, r, hc, rfl, e⟩ <;> rw [e]
    · exact ih hr (strict_push ((h w).snoc hc (.inl rfl) fun _ _ _ => hc) fun k _ => h k)
        fun hn => absurd (hc.symm.trans hn) (Option.some_ne_none w)
    · exact ih hr h fun _ w hw => hl hc w (List.mem_of_mem_tail hw)
    · -- the syn goes to a worker in its initial state, then the message to the bound worker
      have h1 := strict_push (t := synTok) (c := some w)
        (by rw [hl hc w (List.mem_cons_self ..)]; exact ⟨List.pairwise_singleton .., fun _ _ _ => ⟨rfl, rfl, rfl⟩,
          fun t ht hk => by cases List.mem_singleton.1 ht; cases hk⟩)
        fun k hk => (h k).unbound (fun e => Option.some_ne_none k (e.symm.trans hc)) fun e =>
          hk (Option.some.inj e).symm
      exact ih hr (strict_push ((h1 w).snoc rfl (.inl rfl) fun _ _ _ => rfl) fun k _ => h1 k) fun e =>
        absurd e (Option.some_ne_none w)

theorem strict_recv {s : Sys} {lks : List (Option Nat)} {pp : PartProd.St} {x : PartProd.Tok} (h : Strict s)
    (hty : ∀ l, ∀ t ∈ pp.bufs l, t.fin = false) (hl : ∀ w, some w ∈ lks → s.wk w = {})
    (hrise : pp.hwm < x.retries → ∀ w, s.cur = some w → BrokerProd.needsRetry (s.wk w).bp 0 = true)
    (hx : x.fin = true → 1 ≤ x.retries ∧ x.retries ≤ pp.hwm) :
    Strict (ppActs s lks (PartProd.recv pp x).2) := by
  rcases recv_eq pp x with ⟨hr, e⟩ | ⟨_, _, e⟩ | ⟨_, _, e⟩ | ⟨_, _, _, e⟩ | ⟨he, h0, e⟩ <;> rw [e]
  · have hf : x.fin = false := Bool.eq_false_iff.2 fun e => Nat.lt_irrefl _ (Nat.lt_of_lt_of_le hr (hx e).2)
    rw [hf, ppActs]
    rcases ppAct_finSend_eq s lks (x.retries - 1) with ⟨_, e⟩ | ⟨u, hc, e⟩ <;> rw [e]
    · exact strict_ppActs (List.forall_mem_singleton.2 ⟨_, _, rfl⟩) h fun _ => hl
    · have hu := hrise hr u hc
      refine strict_ppActs (List.forall_mem_singleton.2 ⟨_, _, rfl⟩) (strict_push
        ((h u).snoc hc (.inr ⟨rfl, fun e => Option.some_ne_none u e.symm⟩) fun a ha hk => ?_)
        fun k hk => (h k).unbound (fun e => ?_) fun e => Option.some_ne_none k e.symm)
        fun _ w hw => (setW_other _ _ fun e => ?_).trans (hl w hw)
      · rw [((h u).syn a ha hk).2.1] at hu; cases hu
      · exact hk (Option.some.inj (hc.symm.trans e)).symm
      · rw [← e, hl w hw] at hu; cases hu
  · exact h
  · exact h
  · rw [ppActs]
    refine strict_ppActs (fun a ha => ?_) h fun _ => hl
    obtain ⟨l, px, hpx, rfl⟩ := flush_all_emit _ _ _ a ha
    exact ⟨_, _, by rw [hty l px hpx]⟩
  · have hf : x.fin = false := Bool.eq_false_iff.2 fun e => Nat.ne_of_gt (hx e).1 (he.trans (h0 e))
    rw [hf]
    exact strict_ppActs (List.forall_mem_singleton.2 ⟨_, _, rfl⟩) h fun _ => hl

theorem strict_step {M : Nat} {s s' : Sys} {c : Choice} (h : Strict s) (hb : Base M s)
    (hl : ∀ w, w ∈ lookupsOf c → s.wk w = {})
    (hrise : ∀ t r, s.pq = t :: r → s.pp.hwm < t.retries → ∀ w, s.cur = some w →
      BrokerProd.needsRetry (s.wk w).bp 0 = true)
    (hfin : ∀ t r, s.pq = t :: r → t.kind = .fin → 1 ≤ t.retries ∧ t.retries ≤ s.pp.hwm)
    (hs : sysStep M s c = some s') : Strict s' := by
  cases step_iff.1 hs with
  | submit | retryOut | dispatch | moveLeader => exact h
  | worker hf hd =>
    cases hf with
    | @recv t r ov hq => exact h.work (p := [t]) hq (fun e => absurd e (List.cons_ne_nil t []))
    | handover => exact h.work (p := []) rfl (fun _ _ e _ => hd (by rw [e]; rfl))
    | deliver still hp => exact h.work (p := []) rfl (fun _ _ _ e => Option.some_ne_none _ (hp.symm.trans e))
  | broker hsets => exact h.work (p := []) rfl (fun _ _ e _ => by rw [e] at hsets; cases hsets)
  | closeW hg => exact h.work (p := []) rfl (fun _ e _ _ => Bool.noConfusion ((canClose_facts hg).2.1.symm.trans e))
  | @ppRecv t r lks hq =>
    refine strict_recv (s := { s with pq := r, pp := (PartProd.recv s.pp (toPP t)).1 }) h hb.typed
      (fun w hw => hl w (by simp [lookupsOf, hw])) (hrise t r hq) (fun e => hfin t r hq ((Props.C02bp.isFin_iff t).1 e))

end Lemmas.C02sys
