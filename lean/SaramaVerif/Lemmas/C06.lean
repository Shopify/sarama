import SaramaVerif.Model.OffsetMgr
/-
  C06, one partition: the invariant `PInv` and its preservation by every step (`pstep_cases` is the case analysis
  the step lemmas share), where the entries of the position log come from, reset-free runs (`Anchor`, `Below`),
  the final flush of `Close` (`Closing`).
-/
namespace Lemmas.C06
open Model.OffsetMgr

structure PInv (p : PState) : Prop where
  /-- a block is in flight only for a registered, dirty partition -/
  infl_dirty : ∀ c, p.inflight = some c → p.dirty = true ∧ p.live = true
  clean_stored : p.obj = true → p.dirty = false → (p.offset, p.md) = fetched p.store
  live_obj : p.live = true → p.obj = true
  /-- the newest entry of the position log is the pending pair -/
  hist_head : p.obj = true → p.hist.head? = some (p.offset, p.md)
  store_hist : fetched p.store ∈ p.hist
  infl_hist : ∀ c, p.inflight = some c → c ∈ p.hist
  commits_hist : ∀ c ∈ p.commits, c ∈ p.hist

/-- `op`, executed in state `q`, set the position to `c` (an accepted MarkOffset / ResetOffset) -/
def Accepts (q : PState) (op : POp) (c : Pair) : Prop :=
  q.obj = true ∧ ((op = .mark c.1 c.2 ∧ c.1 > q.offset) ∨ (op = .reset c.1 c.2 ∧ c.1 ≤ q.offset))

/-- A step leaves the state alone or makes one of eight updates, each under its guard (the nineteen branches of
    `pstep` come down to these). -/
theorem pstep_cases {motive : PState → Prop} (p : PState) (op : POp)
    (same : motive p)
    (manage : op = .manage → ¬ p.live = true →
      motive { p with offset := (fetched p.store).1, md := (fetched p.store).2, dirty := false, done := false,
                      obj := true, live := true, hist := fetched p.store :: p.hist })
    (move : ∀ o m, Accepts p op (o, m) →
      motive { p with offset := o, md := m, dirty := true, hist := (o, m) :: p.hist })
    (close : (op = .aclose ∧ p.obj = true) ∨ (op = .acloseLive ∧ p.live = true) → motive { p with done := true })
    (snap : op = .snap → p.live = true → p.dirty = true →
      motive { p with inflight := some (p.offset, p.md), commits := (p.offset, p.md) :: p.commits })
    (ok : ∀ c, op = .verdict .ok → p.inflight = some c →
      motive { p with store := some c, inflight := none,
                      dirty := updateCommitted p.offset p.md p.dirty c.1 c.2 })
    (okLost : ∀ c, op = .verdict .okLost → p.inflight = some c → motive { p with store := some c, inflight := none })
    (fail : ∀ c, op = .verdict .fail → p.inflight = some c → motive { p with inflight := none })
    (release : ∀ f, op = .release f → p.live = true → releaseDue p.done f p.dirty = true → p.inflight = none →
      motive { p with live := false }) :
    motive (pstep p op) := by
  cases op with
  | nop => exact same
  | manage => exact iteInduction (fun _ => same) (manage rfl)
  | mark o m => exact iteInduction (fun h => move o m ⟨h.1, .inl ⟨rfl, h.2⟩⟩) fun _ => same
  | reset o m => exact iteInduction (fun h => move o m ⟨h.1, .inr ⟨rfl, h.2⟩⟩) fun _ => same
  | aclose => exact iteInduction (fun h => close (.inl ⟨rfl, h⟩)) fun _ => same
  | acloseLive => exact iteInduction (fun h => close (.inr ⟨rfl, h⟩)) fun _ => same
  | snap => exact iteInduction (fun h => snap rfl h.1 h.2) fun _ => same
  | verdict v =>
    simp only [pstep]
    cases hi : p.inflight with
    | none => exact same
    | some c =>
      cases v with
      | ok => exact ok c rfl hi
      | okLost => exact okLost c rfl hi
      | fail => exact fail c rfl hi
  | release f => exact iteInduction (fun h => release f rfl h.1 h.2.1 h.2.2) fun _ => same

theorem pinv_init (st : Option Pair) : PInv (pinit st) := by
  constructor <;> simp [pinit]

theorem updateCommitted_false_iff {o m : Int} {d : Bool} {c : Pair} :
    updateCommitted o m d c.1 c.2 = false ↔ ((o, m) = c ∨ d = false) := by
  unfold updateCommitted
  split
  · rename_i h; simp [h]
  · rename_i h; simp [Prod.ext_iff, h]

theorem releaseDue_unforced {done dirty : Bool} (h : releaseDue done false dirty = true) : dirty = false := by
  cases dirty
  · rfl
  · cases done <;> cases h

theorem pinv_step {p : PState} (h : PInv p) (op : POp) : PInv (pstep p op) := by
  have hcons {c} (hc : c ∈ p.hist) {a} : c ∈ a :: p.hist := List.mem_cons_of_mem _ hc
  apply pstep_cases (motive := PInv) p op
  case same => exact h
  case manage =>
    exact fun _ hl =>
      { infl_dirty := fun c hi => absurd (h.infl_dirty c hi).2 hl
        clean_stored := fun _ _ => rfl
        live_obj := fun _ => rfl
        hist_head := fun _ => rfl
        store_hist := List.mem_cons_self
        infl_hist := fun c hi => hcons (h.infl_hist c hi)
        commits_hist := fun c hc => hcons (h.commits_hist c hc) }
  case move =>
    exact fun o m _ =>
      { infl_dirty := fun c hi => ⟨rfl, (h.infl_dirty c hi).2⟩
        clean_stored := fun _ hd => nomatch hd
        live_obj := h.live_obj
        hist_head := fun _ => rfl
        store_hist := hcons h.store_hist
        infl_hist := fun c hi => hcons (h.infl_hist c hi)
        commits_hist := fun c hc => hcons (h.commits_hist c hc) }
  case close => exact fun _ => { h with }
  case snap =>
    intro _ hl hd
    have hmem : (p.offset, p.md) ∈ p.hist := List.mem_of_mem_head? (h.hist_head (h.live_obj hl) ▸ rfl)
    exact { h with
      infl_dirty := fun _ _ => ⟨hd, hl⟩
      infl_hist := fun c hi => Option.some.inj hi ▸ hmem
      commits_hist := fun c hc => (List.mem_cons.mp hc).elim (· ▸ hmem) (h.commits_hist c) }
  case ok =>
    intro c _ hi
    exact { h with
      infl_dirty := fun _ h => nomatch h
      clean_stored := fun _ hd => (updateCommitted_false_iff.mp hd).resolve_right
        (by rw [(h.infl_dirty c hi).1]; decide)
      store_hist := h.infl_hist c hi
      infl_hist := fun _ h => nomatch h }
  case okLost =>
    intro c _ hi
    exact { h with
      infl_dirty := fun _ h => nomatch h
      clean_stored := fun _ hd => nomatch (h.infl_dirty c hi).1.symm.trans hd
      store_hist := h.infl_hist c hi
      infl_hist := fun _ h => nomatch h }
  case fail => exact fun _ _ _ => { h with infl_dirty := fun _ h => (nomatch h), infl_hist := fun _ h => nomatch h }
  case release =>
    exact fun _ _ _ _ hi => { h with infl_dirty := fun c hc => (nomatch hi.symm.trans hc), live_obj := nofun }

theorem pinv_run {p : PState} (h : PInv p) (ops : List POp) : PInv (prun p ops) := by
  induction ops generalizing p with
  | nil => exact h
  | cons op ops ih => exact ih (pinv_step h op)

theorem prun_append (p : PState) (a b : List POp) : prun p (a ++ b) = prun (prun p a) b := by
  induction a generalizing p with
  | nil => rfl
  | cons x xs ih => exact ih (pstep p x)

theorem hist_step {p : PState} (h : PInv p) (op : POp) :
    ∀ c ∈ (pstep p op).hist, c ∈ p.hist ∨ Accepts p op c := by
  apply pstep_cases (motive := fun q => ∀ c ∈ q.hist, c ∈ p.hist ∨ Accepts p op c) p op
  case manage => exact fun _ _ c hc => .inl ((List.mem_cons.mp hc).elim (· ▸ h.store_hist) id)
  case move => exact fun o m ha c hc => (List.mem_cons.mp hc).elim (fun e => .inr (e ▸ ha)) .inl
  all_goals intros; exact .inl ‹_›

theorem hist_run {p : PState} (h : PInv p) (ops : List POp) :
    ∀ c ∈ (prun p ops).hist,
      c ∈ p.hist ∨ ∃ pre op post, ops = pre ++ op :: post ∧ Accepts (prun p pre) op c := by
  induction ops generalizing p with
  | nil => intro c hc; exact Or.inl hc
  | cons op ops ih =>
    intro c hc
    rcases ih (pinv_step h op) c hc with h1 | ⟨pre, op', post, he, ha⟩
    · exact (hist_step h op c h1).imp_right fun h2 => ⟨[], op, ops, rfl, h2⟩
    · exact Or.inr ⟨op :: pre, op', post, he ▸ rfl, ha⟩

/-- the operations the committer performs on a partition (no application call, no ManagePartition) -/
def isCommitter : POp → Bool
  | .nop => true
  | .acloseLive => true
  | .snap => true
  | .verdict _ => true
  | .release _ => true
  | _ => false

theorem committer_pending {p : PState} {op : POp} (hop : isCommitter op = true) :
    (pstep p op).offset = p.offset ∧ (pstep p op).md = p.md ∧ (pstep p op).obj = p.obj ∧
      (p.done = true → (pstep p op).done = true) := by
  apply pstep_cases (motive := fun q => q.offset = p.offset ∧ q.md = p.md ∧ q.obj = p.obj ∧
    (p.done = true → q.done = true)) p op
  case manage => rintro rfl; cases hop
  case move => rintro o m ⟨_, ⟨rfl, _⟩ | ⟨rfl, _⟩⟩ <;> cases hop
  case close => exact fun _ => ⟨rfl, rfl, rfl, fun _ => rfl⟩
  all_goals intros; exact ⟨rfl, rfl, rfl, id⟩

theorem app_step_frame {p : PState} {op : POp} (h : op.isApp = true) :
    (pstep p op).live = p.live ∧ (pstep p op).inflight = p.inflight ∧
      ((pstep p op).dirty = true ∨ pstep p op = p) := by
  cases op with
  | mark o m | reset o m =>
    refine iteInduction (motive := fun q : PState => q.live = p.live ∧ q.inflight = p.inflight ∧ (q.dirty = true ∨ q = p))
      (fun _ => ?_) fun _ => ?_
    · exact ⟨rfl, rfl, .inl rfl⟩
    · exact ⟨rfl, rfl, .inr rfl⟩
  | _ => cases h

theorem app_run_frame {p : PState} {win : List POp} (h : ∀ op ∈ win, op.isApp = true) :
    (prun p win).live = p.live ∧ (prun p win).inflight = p.inflight ∧
      ((prun p win).dirty = true ∨ prun p win = p) := by
  induction win generalizing p with
  | nil => exact ⟨rfl, rfl, .inr rfl⟩
  | cons op ops ih =>
    have h1 := app_step_frame (p := p) (h op List.mem_cons_self)
    have h2 := ih (p := pstep p op) (fun o ho => h o (List.mem_cons_of_mem _ ho))
    refine ⟨h2.1.trans h1.1, h2.2.1.trans h1.2.1, h2.2.2.elim .inl fun e => ?_⟩
    simp only [prun]
    rw [e]
    exact h1.2.2

theorem verdict_frame (p : PState) (v : PVerdict) :
    (pstep p (.verdict v)).live = p.live ∧ (pstep p (.verdict v)).inflight = none := by
  simp only [pstep]
  cases hi : p.inflight with
  | none => exact ⟨rfl, hi⟩
  | some c => cases v <;> exact ⟨rfl, rfl⟩

def NoAcceptedReset : PState → List POp → Prop
  | _, [] => True
  | p, op :: ops =>
    (∀ o m, op = .reset o m → ¬ (p.obj = true ∧ o ≤ p.offset)) ∧ NoAcceptedReset (pstep p op) ops

theorem noAcceptedReset_append {p : PState} {a b : List POp} (h : NoAcceptedReset p (a ++ b)) :
    NoAcceptedReset p a ∧ NoAcceptedReset (prun p a) b := by
  induction a generalizing p with
  | nil => exact ⟨trivial, h⟩
  | cons x xs ih => exact ⟨⟨h.1, (ih h.2).1⟩, (ih h.2).2⟩

theorem commits_step (p : PState) (op : POp) :
    (pstep p op).commits = p.commits ∨ (p.live = true ∧
      pstep p op = { p with inflight := some (p.offset, p.md), commits := (p.offset, p.md) :: p.commits }) := by
  apply pstep_cases (motive := fun q => q.commits = p.commits ∨ (p.live = true ∧
    q = { p with inflight := some (p.offset, p.md), commits := (p.offset, p.md) :: p.commits })) p op
  case snap => exact fun _ hl _ => .inr ⟨hl, rfl⟩
  all_goals intros; exact .inl rfl

/-- anchor invariant for `commits_monotone_without_reset`: the position is at least `b`, and a partition
    that is not registered would be re-created at a position that is at least `b` -/
structure Anchor (b : Int) (p : PState) : Prop where
  inv : PInv p
  obj : p.obj = true
  pos : b ≤ p.offset
  back : p.live = true ∨ b ≤ (fetched p.store).1

theorem anchor_step {b : Int} {p : PState} (h : Anchor b p) (op : POp)
    (hr : ∀ o m, op = .reset o m → ¬ (p.obj = true ∧ o ≤ p.offset)) (hf : op ≠ .release true) :
    Anchor b (pstep p op) := by
  obtain ⟨hinv, hobj, hpos, hback⟩ := h
  have hq := pinv_step hinv op
  revert hq
  apply pstep_cases (motive := fun q => PInv q → Anchor b q) p op
  case manage => exact fun _ hl hq => ⟨hq, rfl, hback.resolve_left hl, .inl rfl⟩
  case move =>
    rintro o m ⟨_, ⟨rfl, hgt⟩ | ⟨rfl, hle⟩⟩ hq
    · exact ⟨hq, hobj, Int.le_trans hpos (Int.le_of_lt hgt), hback⟩
    · exact absurd ⟨hobj, hle⟩ (hr o m rfl)
  case ok | okLost => exact fun c _ hi hq => ⟨hq, hobj, hpos, .inl (hinv.infl_dirty c hi).2⟩
  case release =>
    rintro (_ | _) rfl _ hdue _ hq
    · -- released clean: the store holds the position
      exact ⟨hq, hobj, hpos, .inr (hinv.clean_stored hobj (releaseDue_unforced hdue) ▸ hpos)⟩
    · exact absurd rfl hf
  all_goals intros; exact ⟨‹_›, hobj, hpos, hback⟩

theorem anchored_commits {b : Int} {p : PState} (h : Anchor b p) (ops : List POp)
    (hr : NoAcceptedReset p ops) (hf : ∀ op ∈ ops, op ≠ .release true) :
    ∃ new, (prun p ops).commits = new ++ p.commits ∧ (∀ c ∈ new, b ≤ c.1) ∧
      List.Pairwise (fun a c => c.1 ≤ a.1) new := by
  induction ops generalizing p b with
  | nil => exact ⟨[], rfl, fun _ h => (nomatch h), .nil⟩
  | cons op ops ih =>
    have hstep := anchor_step h op hr.1 (hf op List.mem_cons_self)
    have hf' : ∀ o ∈ ops, o ≠ .release true := fun o ho => hf o (List.mem_cons_of_mem _ ho)
    rcases commits_step p op with hc | ⟨hlive, hq⟩
    · obtain ⟨new, h1, h2, h3⟩ := ih hstep hr.2 hf'
      exact ⟨new, by rw [prun, h1, hc], h2, h3⟩
    · -- a commit of the pending pair: it becomes the new anchor
      obtain ⟨new, h1, h2, h3⟩ :=
        ih ⟨hstep.inv, hstep.obj, by rw [hq]; exact Int.le_refl _, .inl (by rw [hq]; exact hlive)⟩ hr.2 hf'
      refine ⟨new ++ [(p.offset, p.md)], by rw [prun, h1, hq, List.append_assoc]; rfl, ?_, ?_⟩
      · intro c hcm
        rcases List.mem_append.mp hcm with hm | hm
        · exact Int.le_trans h.pos (h2 c hm)
        · rw [List.mem_singleton.mp hm]; exact h.pos
      · rw [List.pairwise_append]
        exact ⟨h3, List.pairwise_singleton _ _, fun a ha c hc3 => List.mem_singleton.mp hc3 ▸ h2 a ha⟩

/-- the stored offset is below the block in flight, which is below the pending position -/
structure Below (p : PState) : Prop where
  store_pos : p.obj = true → (fetched p.store).1 ≤ p.offset
  infl : ∀ c, p.inflight = some c → (fetched p.store).1 ≤ c.1 ∧ c.1 ≤ p.offset

theorem below_init (st : Option Pair) : Below (pinit st) := by
  constructor <;> simp [pinit]

theorem below_of_clean {p : PState} (h : PInv p) (hc : p.dirty = false) : Below p := by
  constructor
  · intro ho; rw [← h.clean_stored ho hc]; exact Int.le_refl _
  · intro c hi; have := (h.infl_dirty c hi).1; rw [hc] at this; exact absurd this (by decide)

theorem below_step {p : PState} (hinv : PInv p) (h : Below p) (op : POp)
    (hr : ∀ o m, op = .reset o m → ¬ (p.obj = true ∧ o ≤ p.offset)) :
    Below (pstep p op) ∧ (fetched p.store).1 ≤ (fetched (pstep p op).store).1 := by
  obtain ⟨h1, h2⟩ := h
  apply pstep_cases (motive := fun q => Below q ∧ (fetched p.store).1 ≤ (fetched q.store).1) p op
  case manage =>
    exact fun _ hl => ⟨⟨fun _ => Int.le_refl _, fun c hi => absurd (hinv.infl_dirty c hi).2 hl⟩, Int.le_refl _⟩
  case move =>
    rintro o m ⟨hobj, ⟨rfl, hgt⟩ | ⟨rfl, hle⟩⟩
    · have hlt := Int.le_of_lt hgt
      exact ⟨⟨fun _ => Int.le_trans (h1 hobj) hlt, fun c hi => ⟨(h2 c hi).1, Int.le_trans (h2 c hi).2 hlt⟩⟩,
        Int.le_refl _⟩
    · exact absurd ⟨hobj, hle⟩ (hr o m rfl)
  case snap =>
    exact fun _ hl _ => ⟨⟨h1, fun c hi => Option.some.inj hi ▸ ⟨h1 (hinv.live_obj hl), Int.le_refl _⟩⟩, Int.le_refl _⟩
  case ok | okLost => exact fun c _ hi => ⟨⟨fun _ => (h2 c hi).2, fun _ h => nomatch h⟩, (h2 c hi).1⟩
  case fail => exact fun c _ hi => ⟨⟨h1, fun _ h => nomatch h⟩, Int.le_refl _⟩
  all_goals intros; exact ⟨⟨h1, h2⟩, Int.le_refl _⟩

theorem below_run {p : PState} (hinv : PInv p) (h : Below p) (ops : List POp) (hr : NoAcceptedReset p ops) :
    Below (prun p ops) ∧ (fetched p.store).1 ≤ (fetched (prun p ops).store).1 := by
  induction ops generalizing p with
  | nil => exact ⟨h, Int.le_refl _⟩
  | cons op ops ih =>
    have h1 := below_step hinv h op hr.1
    have h2 := ih (pinv_step hinv op) h1.1 hr.2
    exact ⟨h2.1, Int.le_trans h1.2 h2.2⟩

/-- state of a partition during the final flush: closed by `asyncClosePOMs`, position frozen at `pend`;
    what is in flight is `pend`; once it is no longer registered the coordinator holds `pend` -/
structure Closing (pend : Pair) (p : PState) : Prop where
  inv : PInv p
  obj : p.obj = true
  pending : (p.offset, p.md) = pend
  done : p.done = true
  infl : ∀ c, p.inflight = some c → c = pend
  dead : p.live = false → fetched p.store = pend ∧ p.inflight = none

theorem closing_step {pend : Pair} {p : PState} (h : Closing pend p) (op : POp)
    (hc : isCommitter op = true) (hf : op ≠ .release true) :
    Closing pend (pstep p op) ∧ (fetched p.store = pend → fetched (pstep p op).store = pend) ∧
      ((pstep p op).live = true → p.live = true) := by
  obtain ⟨hinv, hobj, hpend, hdone, hinfl, hdead⟩ := h
  have hq := pinv_step hinv op
  revert hq
  apply pstep_cases (motive := fun q => PInv q → Closing pend q ∧ (fetched p.store = pend → fetched q.store = pend) ∧
    (q.live = true → p.live = true)) p op
  case same => exact fun _ => ⟨⟨hinv, hobj, hpend, hdone, hinfl, hdead⟩, id, id⟩
  case manage => rintro rfl; cases hc
  case move => rintro o m ⟨_, ⟨rfl, _⟩ | ⟨rfl, _⟩⟩ <;> cases hc
  case close => exact fun _ hq => ⟨⟨hq, hobj, hpend, rfl, hinfl, hdead⟩, id, id⟩
  case snap =>
    exact fun _ hl _ hq =>
      ⟨⟨hq, hobj, hpend, hdone, fun c hi => Option.some.inj hi ▸ hpend, fun hl' => nomatch hl.symm.trans hl'⟩, id, id⟩
  case ok | okLost =>
    exact fun c _ hi hq => ⟨⟨hq, hobj, hpend, hdone, fun _ h => (nomatch h), fun hl => nomatch (hinv.infl_dirty c hi).2.symm.trans hl⟩,
      fun _ => hinfl c hi, id⟩
  case fail =>
    exact fun c _ hi hq => ⟨⟨hq, hobj, hpend, hdone, fun _ h => (nomatch h), fun hl => nomatch (hinv.infl_dirty c hi).2.symm.trans hl⟩,
      id, id⟩
  case release =>
    rintro (_ | _) rfl _ hdue hi hq
    · -- released clean: the store holds the pending pair
      exact ⟨⟨hq, hobj, hpend, hdone, hinfl,
        fun _ => ⟨hinv.clean_stored hobj (releaseDue_unforced hdue) ▸ hpend, hi⟩⟩, id, nofun⟩
    · exact absurd rfl hf

theorem closing_run {pend : Pair} {p : PState} (h : Closing pend p) (ops : List POp)
    (hc : ∀ op ∈ ops, isCommitter op = true ∧ op ≠ .release true) :
    Closing pend (prun p ops) ∧ (fetched p.store = pend → fetched (prun p ops).store = pend) ∧
      ((prun p ops).live = true → p.live = true) := by
  induction ops generalizing p with
  | nil => exact ⟨h, id, id⟩
  | cons op ops ih =>
    have h1 := closing_step h op (hc op List.mem_cons_self).1 (hc op List.mem_cons_self).2
    have h2 := ih h1.1 (fun o ho => hc o (List.mem_cons_of_mem _ ho))
    exact ⟨h2.1, fun hs => h2.2.1 (h1.2.1 hs), fun hl => h1.2.2 (h2.2.2 hl)⟩

theorem snap_eq {p : PState} (hl : p.live = true) (hd : p.dirty = true) :
    pstep p .snap = { p with inflight := some (p.offset, p.md), commits := (p.offset, p.md) :: p.commits } :=
  if_pos ⟨hl, hd⟩

theorem snap_skip {p : PState} (h : ¬ (p.live = true ∧ p.dirty = true)) : pstep p .snap = p :=
  if_neg h

theorem snap_live (p : PState) : (pstep p .snap).live = p.live :=
  iteInduction (motive := fun q : PState => q.live = p.live) (fun _ => rfl) fun _ => rfl

theorem snap_pending {p : PState} (hp : PInv p) (hl : p.live = true) {c : Pair}
    (hi : (pstep p .snap).inflight = some c) : (p.offset, p.md) = c := by
  by_cases hd : p.dirty = true
  · rw [snap_eq hl hd] at hi
    exact Option.some.inj hi
  · rw [snap_skip fun h => hd h.2] at hi
    exact absurd (hp.infl_dirty c hi).1 hd

theorem nonsnap_inflight {p : PState} {op : POp} (hn : op ≠ .snap) (hi : p.inflight = none) :
    (pstep p op).inflight = none := by
  apply pstep_cases (motive := fun q => q.inflight = none) p op
  case snap => exact fun e => absurd e hn
  case ok | okLost | fail => exact fun _ _ _ => rfl
  all_goals intros; exact hi

theorem closing_start {p : PState} (hp : PInv p) (hlive : p.live = true) (hinfl : p.inflight = none) :
    Closing (p.offset, p.md) (pstep p .acloseLive) := by
  have hq := pinv_step hp .acloseLive
  have e : pstep p .acloseLive = { p with done := true } := by simp only [pstep, hlive, if_true]
  rw [e] at hq ⊢
  exact ⟨hq, hp.live_obj hlive, rfl, rfl, fun c hc => (nomatch hinfl.symm.trans hc),
    fun hl => nomatch hlive.symm.trans hl⟩

theorem closing_attempt_keeps {pend : Pair} {p : PState} (h : Closing pend p) (v : PVerdict) :
    Closing pend (closeAttemptP p v) ∧ (closeAttemptP p v).inflight = none ∧
      (fetched p.store = pend → fetched (closeAttemptP p v).store = pend) := by
  have hr := closing_run h [.snap, .verdict v, .release false] fun op hop => by
    simp only [List.mem_cons, List.not_mem_nil, or_false] at hop
    rcases hop with rfl | rfl | rfl <;> exact ⟨rfl, nofun⟩
  exact ⟨hr.1, nonsnap_inflight nofun (verdict_frame ..).2, hr.2.1⟩

theorem closing_attempt {pend : Pair} {p : PState} (h : Closing pend p) (hi : p.inflight = none)
    (v : PVerdict) (hv : v ≠ .fail) :
    fetched (closeAttemptP p v).store = pend ∧ (v = .ok → (closeAttemptP p v).live = false) := by
  obtain ⟨hinv, hobj, hpend, hdone, hinfl, hdead⟩ := h
  cases hl : p.live with
  | false =>
    -- not registered, nothing in flight: the three steps do nothing
    have : closeAttemptP p v = p := by simp [closeAttemptP, pstep, hl, hi]
    rw [this]; exact ⟨(hdead hl).1, fun _ => hl⟩
  | true =>
    cases hdirty : p.dirty with
    | false =>
      -- clean: no snapshot, so no block for the verdict; `releasePOMs(false)` drops the closed clean partition
      have : closeAttemptP p v = { p with live := false } := by
        simp [closeAttemptP, pstep, hl, hi, hdirty, releaseDue, hdone]
      rw [this]; exact ⟨hinv.clean_stored hobj hdirty ▸ hpend, fun _ => rfl⟩
    | true =>
      cases v with
      | fail => exact absurd rfl hv
      | ok =>
        -- dirty: the pending pair goes in flight and is stored; being the pending pair it clears the dirty flag,
        -- so that `releasePOMs(false)` drops the partition
        have hu : updateCommitted p.offset p.md true p.offset p.md = false := by simp [updateCommitted]
        constructor
        · simp [closeAttemptP, pstep, hl, hdirty, releaseDue, hdone, hu, fetched]
          exact hpend
        · intro _
          simp [closeAttemptP, pstep, hl, hdirty, releaseDue, hdone, hu]
      | okLost =>
        -- the pair is stored as well, but the partition stays dirty and registered
        constructor
        · simp [closeAttemptP, pstep, hl, hdirty, releaseDue, hdone, fetched]
          exact hpend
        · intro h; exact absurd h (by decide)

theorem closing_attempts {pend : Pair} {p : PState} (h : Closing pend p) (hi : p.inflight = none)
    (vs : List PVerdict) :
    Closing pend (vs.foldl closeAttemptP p) ∧ (vs.foldl closeAttemptP p).inflight = none ∧
      ((fetched p.store = pend ∨ ∃ v ∈ vs, v ≠ PVerdict.fail) →
        fetched (vs.foldl closeAttemptP p).store = pend) := by
  induction vs generalizing p with
  | nil => exact ⟨h, hi, fun hs => hs.elim id nofun⟩
  | cons v vs ih =>
    have hk := closing_attempt_keeps h v
    have := ih hk.1 hk.2.1
    refine ⟨this.1, this.2.1, fun hs => this.2.2 ?_⟩
    rcases hs with hs | ⟨v', hv', hne⟩
    · exact .inl (hk.2.2 hs)
    · rcases List.mem_cons.mp hv' with rfl | hv'
      · exact .inl (closing_attempt h hi v' hne).1
      · exact .inr ⟨v', hv', hne⟩

end Lemmas.C06
