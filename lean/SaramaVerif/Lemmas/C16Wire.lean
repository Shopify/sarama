import SaramaVerif.Model.ProduceSet
import SaramaVerif.Lemmas.C16Sets
/-
  For the request-size statements of C16: the encoded size of an uncompressed request against the running estimate
  `bufferBytes`.  The comparison is made per record (`recWire_le`; for a message of a message set it is a step of
  `sum_msgWire_eq`) and summed along `renumber` to one per batch, whose format comes from `buildBatch_eq`:
  `batchWire_le` (at most the estimate plus `under`), `batchWire_legacy` (exactly that, for message sets).
  A per-batch fact becomes a per-request fact through `sumMap`: `sumMap_le_sumMap` / `sumMap_congr` carry `≤` / `=`
  from the summands to the sums over the partitions, and `sum_estimates` is the closed form of the summed right-hand
  side, the part of `slack` that depends on the set.
-/
namespace Lemmas.C16
open Model.ProduceSet

theorem zigzag_nonneg (x : Int) : 0 ≤ zigzag x := by unfold zigzag; split <;> omega

theorem ite_bounds {c : Prop} [Decidable c] {a b lo hi : Int} (ha : lo ≤ a ∧ a ≤ hi) (hb : lo ≤ b ∧ b ≤ hi) :
    lo ≤ (if c then a else b) ∧ (if c then a else b) ≤ hi := by
  split
  · exact ha
  · exact hb

theorem varintLen_bounds (x : Int) : 1 ≤ varintLen x ∧ varintLen x ≤ 10 := by
  unfold varintLen
  iterate 9 apply ite_bounds (by decide)
  decide

/-- values of int32 magnitude take at most binary.MaxVarintLen32 = 5 bytes: the fifth guard of the chain holds -/
theorem varintLen_int32 (x : Int) (h : -2147483648 ≤ x ∧ x < 2147483648) : 1 ≤ varintLen x ∧ varintLen x ≤ 5 := by
  have hz : zigzag x < 34359738368 := by unfold zigzag; split <;> omega
  unfold varintLen
  iterate 4 apply ite_bounds (by decide)
  rw [if_pos hz]; decide

theorem varintLen_nat (k : Nat) (h : (k : Int) < 2147483648) : 1 ≤ varintLen k ∧ varintLen k ≤ 5 :=
  varintLen_int32 k ⟨Int.le_trans (by decide) (Int.natCast_nonneg k), h⟩

/-- headers whose estimate is of int32 size have int32 lengths, so each length varint fits the 5 bytes estimated -/
theorem hdrsWire_bounds (hs : List (Nat × Nat)) (h : headersSize hs < 2147483648) :
    0 ≤ hdrsWire hs ∧ hdrsWire hs ≤ headersSize hs := by
  induction hs with
  | nil => simp [hdrsWire, headersSize]
  | cons a t ih =>
    have := headersSize_nonneg t
    simp only [headersSize, maxVarintLen32] at h
    have hlt : (a.1 : Int) < 2147483648 ∧ (a.2 : Int) < 2147483648 ∧ headersSize t < 2147483648 := by omega
    have := ih hlt.2.2
    have := varintLen_nat a.1 hlt.1
    have := varintLen_nat a.2 hlt.2.1
    simp only [hdrsWire, headersSize, maxVarintLen32]; omega

/-- the conservative per-record estimate of `add` / `byteSize(2)` -/
def recEst (r : Rec) : Int := maximumRecordOverhead + (r.keyLen : Int) + (r.valLen : Int) + headersSize r.headers

theorem recWire_le (r : Rec) (hoff : 0 ≤ r.offset ∧ r.offset < 2147483648)
    (hn : r.headers.length < 2147483648) (hsz : recEst r < 2147483648) :
    0 ≤ recWire r ∧ recWire r ≤ recEst r := by
  have hh := headersSize_nonneg r.headers
  unfold recEst maximumRecordOverhead at hsz
  -- the body: 1 byte of attributes, 10 for the timestamp delta, 5 for each of the four int32 varints
  have hlt : (r.keyLen : Int) < 2147483648 ∧ (r.valLen : Int) < 2147483648 ∧ headersSize r.headers < 2147483648 := by
    omega
  have hb : 0 ≤ recBody r ∧ recBody r ≤ 31 + (r.keyLen : Int) + (r.valLen : Int) + headersSize r.headers := by
    have hw := hdrsWire_bounds r.headers hlt.2.2
    have h1 := varintLen_bounds r.tsDelta
    have h2 := varintLen_int32 r.offset ⟨Int.le_trans (by decide) hoff.1, hoff.2⟩
    have h3 := varintLen_nat r.keyLen hlt.1
    have h4 := varintLen_nat r.valLen hlt.2.1
    have h5 := varintLen_nat r.headers.length (Int.ofNat_lt.mpr hn)
    unfold recBody; omega
  -- and 5 more for its length
  have h6 := varintLen_int32 (recBody r) (by omega)
  unfold recWire recEst maximumRecordOverhead
  omega

theorem sumMap_nonneg {α : Type} (f : α → Int) (l : List α) (h : ∀ a ∈ l, 0 ≤ f a) : 0 ≤ sumMap f l := by
  induction l with
  | nil => simp [sumMap]
  | cons a t ih =>
    have := h a List.mem_cons_self
    have := ih (fun x hx => h x (List.mem_cons_of_mem _ hx))
    simp only [sumMap]; omega

theorem sumMap_le_sumMap {α : Type} {f g : α → Int} (l : List α) (h : ∀ a ∈ l, f a ≤ g a) : sumMap f l ≤ sumMap g l := by
  induction l with
  | nil => exact Int.le_refl 0
  | cons a t ih =>
    exact Int.add_le_add (h a List.mem_cons_self) (ih fun x hx => h x (List.mem_cons_of_mem _ hx))

theorem sumMap_congr {α : Type} {f g : α → Int} (l : List α) (h : ∀ a ∈ l, f a = g a) : sumMap f l = sumMap g l := by
  induction l with
  | nil => rfl
  | cons a t ih => rw [sumMap, sumMap, h a List.mem_cons_self, ih fun x hx => h x (List.mem_cons_of_mem _ hx)]

/-- induction along two lists with the same image, `as.map f = bs.map g`: they are walked together, and every step has
    `f a = g b` of the two heads (here: a record and the message it was built from have the same sizes) -/
theorem map_eq_map_ind {α β γ : Type} {f : α → γ} {g : β → γ} {P : List α → List β → Prop} (nil : P [] [])
    (cons : ∀ a b as bs, f a = g b → P as bs → P (a :: as) (b :: bs)) :
    ∀ as bs, as.map f = bs.map g → P as bs
  | [], [], _ => nil
  | a :: as, b :: bs, h =>
    have h := List.cons.inj h
    cons a b as bs h.1 (map_eq_map_ind nil cons as bs h.2)
  | [], _ :: _, h => nomatch h
  | _ :: _, [], h => nomatch h

theorem sum_recWire_le (c : Conf) (hv : c.v2 = true) (msgs : List Msg) (recs : List Rec)
    (h : recs.map recSizes = msgs.map (msgSizes c)) :
    ∀ i : Int, 0 ≤ i → i + (recs.length : Int) ≤ 2147483648 →
      (∀ m ∈ msgs, byteSize 2 m < 2147483648 ∧ m.headers.length < 2147483648) →
      0 ≤ sumMap recWire (renumber i recs) ∧ sumMap recWire (renumber i recs) ≤ restBytes c msgs := by
  apply map_eq_map_ind ?_ ?_ recs msgs h
  · intro _ _ _ _; exact ⟨Int.le_refl 0, Int.le_refl 0⟩
  · intro r m recs msgs hrm ih i hi hlen hsm
    simp only [recSizes, msgSizes, hv, ↓reduceIte, Prod.mk.injEq] at hrm
    simp only [List.length_cons] at hlen
    have hm := hsm m List.mem_cons_self
    have hrec := ih (i + 1) (by omega) (by omega) (fun x hx => hsm x (List.mem_cons_of_mem _ hx))
    have hest : recEst { r with offset := i } = byteSize 2 m := by
      simp [recEst, byteSize, hrm]; omega
    have hr := recWire_le { r with offset := i } (by simp; omega) (by simpa [hrm] using hm.2) (by rw [hest]; exact hm.1)
    simp only [renumber, sumMap, restBytes, addSize_false, sizeVersion, hv, ↓reduceIte]
    omega

theorem sum_msgWire_eq (c : Conf) (hv : c.v2 = false) (magic : Int) (msgs : List Msg) (recs : List Rec)
    (h : recs.map recSizes = msgs.map (msgSizes c)) :
    sumMap (msgWire magic) recs = restBytes c msgs + (if magic ≥ 1 then 8 else 0) * (msgs.length : Int) := by
  apply map_eq_map_ind ?_ ?_ recs msgs h
  · simp [sumMap, restBytes]
  · intro r m recs msgs hrm ih
    simp only [recSizes, msgSizes, Prod.mk.injEq] at hrm
    simp only [sumMap, restBytes, msgWire, addSize, hv, producerMessageOverhead, List.length_cons, ih, hrm.1, hrm.2.1]
    split <;> simp <;> omega

/-- the int32-size assumption under which the record estimate is conservative -/
def SmallSet (s : State) : Prop :=
  ∀ p ∈ s.parts, (p.msgs.length : Int) ≤ 2147483648 ∧
    ∀ m ∈ p.msgs, byteSize 2 m < 2147483648 ∧ m.headers.length < 2147483648

/-- what the running estimate leaves out of one batch: 12 bytes of the record batch header (the estimate counts 49
    of 61), or the 8-byte timestamp of every format-1 message -/
def under (c : Conf) (p : PSet) : Int :=
  if c.v2 = true then 12 else if c.v1 = true then 8 * (p.msgs.length : Int) else 0

/-- the 8: partition id and size, written before every batch -/
theorem sum_estimates (c : Conf) (ps : List PSet) :
    sumMap (fun p => 8 + (p.bufferBytes + under c p)) ps = sumBytes ps + 8 * (ps.length : Int) +
      (if c.v2 = true then 12 * (ps.length : Int) else if c.v1 = true then 8 * sumCount ps else 0) := by
  induction ps with
  | nil => simp [sumMap, sumBytes, sumCount]
  | cons q t ih =>
    rw [sumMap, ih, sumBytes, sumCount, List.length_cons, under]
    cases c.v2 <;> cases c.v1 <;> simp only [Bool.false_eq_true, ↓reduceIte] <;> omega

theorem batchWire_legacy {c : Conf} {p : PSet} (hc : c.codec = 0) (hp : PInv c p) (hv : c.v2 = false) :
    batchWire (buildBatch c p) = p.bufferBytes + under c p := by
  rw [hp.bytes, estimate_eq_restBytes c p.msgs hp.nonempty, under, buildBatch_eq (gates_of_uncompressed hc),
    if_neg (Bool.eq_false_iff.mp hv), if_pos hc, batchWire, sum_msgWire_eq c hv _ p.msgs p.recs hp.sizes]
  simp only [hv, Bool.false_eq_true, ↓reduceIte]
  cases c.v1 <;> simp only [Bool.false_eq_true, ↓reduceIte, ge_iff_le, Int.reduceLE] <;> omega

theorem batchWire_le {c : Conf} {p : PSet} (hc : c.codec = 0) (hp : PInv c p)
    (hsm : (p.msgs.length : Int) ≤ 2147483648 ∧ ∀ m ∈ p.msgs, byteSize 2 m < 2147483648 ∧ m.headers.length < 2147483648) :
    0 ≤ batchWire (buildBatch c p) ∧ batchWire (buildBatch c p) ≤ p.bufferBytes + under c p := by
  cases hv : c.v2
  · have := batchWire_legacy hc hp hv
    have := hp.bytes_pos
    have : 0 ≤ under c p := by unfold under; split; omega; split <;> omega
    omega
  · have hb := hp.bytes
    rw [estimate_eq_restBytes c p.msgs hp.nonempty] at hb
    have hlen : p.recs.length = p.msgs.length := by simpa using congrArg List.length hp.sizes
    rw [buildBatch_eq (gates_of_uncompressed hc), if_pos hv, batchWire]
    simp only [under, hv, ↓reduceIte, recordBatchOverhead] at hb ⊢
    have := sum_recWire_le c hv p.msgs p.recs hp.sizes 0 (Int.le_refl 0) (by rw [hlen]; omega) hsm.2
    omega

end Lemmas.C16
