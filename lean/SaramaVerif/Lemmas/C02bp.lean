import SaramaVerif.Model.BrokerProd
/-
  One broker worker (`Model.BrokerProd`), characterised once; the other C02 files read `step` through what is here
  (the exceptions are named under `handle`).

  * `recv`, `handover`, `recheck` each have a case type (`RecvCase`, `HandoverCase`, `RecheckCase` with `recv_case`,
    `handover_case`, `recheck_case`): one constructor per outcome, carrying the condition under which it occurs and the
    result, so that a fact about the operation is a `cases` on it.  Where the decision has to commute with a map of
    the state (the projection on one partition) `recv` is also read as a function: `recvDo` decides, `RecvDo.run`
    acts (`recv_eq`).  A hand-over that takes place is one equation (`handover_eq`).
  * `handle` (handleResponse: the passes `loop1`, `loop2`, handleError) iterates over the partitions of the answered
    set in map order, so its action list is not canonical; what is read of it is.  Three statements, for every
    response and every iteration order: `handle_state`, the state afterwards in closed form for all partitions at
    once (through `failsFor`); `handle_own`, the outcome-bearing actions of ONE partition `p` in order
    (`filter (isOwn p)`), a function `handleOwn` of `p`'s part of the set, `p`'s part of the buffer and the response
    at `p` alone; `report_handle`, the list holds nothing but reports (`isReport`: outcomes, `drop`, `abandon`,
    `closing`).  The inductions over `loop1` / `loop2` for an arbitrary response are behind these three (`own_loop1`,
    `own_loop2`, `loop2_state`, `report_loop1`, `report_loop2`); per-partition readings of the state
    (`handle_buffer`, `handle_needsRetry`), the id views (`view_own`, `handle_view`) and `handle_reports_held` follow
    from them.  Three files unfold `handle` for a purpose of their own: Lemmas/C02sysBP.lean (the action list itself
    when all tokens are of one partition: `loop1_P0`, `loop2_P0_hit`, `arrange_P0`), Props/C05bp.lean (`loop2I_loop2`,
    the second pass of the idempotent worker beside this one) and Props/C02multiV.lean (`handle` of the empty set
    and of a connection error, evaluated; `recheck` unfolded where two workers are compared branch by branch).
  * `resp` is `recheck` after `handle` on the state without the answered set (`resp_cons`, `resp_nil`).
  * `step` answers `[.disabled]` when it refuses its input (`RecvCase.busy`, `HandoverCase.idle`, `resp_nil`) and
    something else otherwise: `recv_enabled` / `recv_disabled`, `handover_enabled` (for a worker that holds
    something to hand over), `resp_enabled` (through `NoDis` of what `handle` and `recheck` answer), at the end, in
    the namespace `Lemmas.C02sys` of the composed model, which uses them; `resp_disabled` is in
    Lemmas/C02sysBP.lean.
  * what a step does with tokens, whatever the state: those it re-queues it held or took (`step_requeue`; for `handle`
    read off `handle_own`, `handle_requeue`), so are those it holds afterwards (`step_inside`), and it changes the
    retry mark of a partition only if it holds or takes a token of it (`step_cr`).  That all tokens stay of one
    partition and that the retry levels stay within the budget, in every run of the composed model, are read off these
    (Lemmas/C02splitInv.lean, Lemmas/C02base.lean).

  Action lists are read through `view d r a p`, which picks the ids of tokens of `p` by kind of action; the
  projections `outData`, `bounces`, `adds` are instances of it (`*_eq`).  `bouncedData` is `view false (!·) false`,
  but nothing here uses that: its one theorem (`bp_bounce_order_preserving`, Props/C02bp.lean) compares it with
  `outData` action by action.  Each part then has the same facets: the invariant (`*_own`, `*_inv`), order (`*_fifo`:
  what leaves ++ what is inside = what was inside ++ what arrived), the quiet period of a refused partition
  (`*_quiet`) and the stale `output` variable (`*_stale`).  Props/C02bp.lean puts them together along a run; the
  namespace here is that file's, except for the selectors of outcome-bearing actions (`isOwn`, `isOut`, `outPart`)
  and `recvDo` with its `recv_eq`, which are in `Props.C02sys`, the namespace of the several-partitions files
  (Props/C02multi*.lean) whose statements are written with them.
-/
namespace Props.C02bp
open Model.BrokerProd

def ids (ts : List Tok) : List Int := ts.map (·.id)

theorem ids_append (a b : List Tok) : ids (a ++ b) = ids a ++ ids b := List.map_append

theorem append_comm_of_nil {α : Type} {x y : List α} (h : x = [] ∨ y = []) : x ++ y = y ++ x := by
  rcases h with rfl | rfl
  · exact (List.append_nil _).symm
  · exact List.append_nil _

/-- everything the worker holds: the set at the bridge, the buffer, the token held in waitForSpace -/
def inside (s : St) : List Tok := s.sets.flatten ++ s.buffer ++ s.wait.toList

theorem onPart_append (p : Int) (a b : List Tok) : onPart p (a ++ b) = onPart p a ++ onPart p b :=
  List.filter_append ..

theorem mem_onPart {p : Int} {l : List Tok} {t : Tok} (h : t ∈ onPart p l) : t ∈ l := (List.mem_filter.1 h).1

theorem part_of_mem_onPart {p : Int} {l : List Tok} {t : Tok} (h : t ∈ onPart p l) : t.part = p :=
  beq_iff_eq.1 (List.mem_filter.1 h).2
theorem part_of_mem_offPart {p : Int} {l : List Tok} {t : Tok} (h : t ∈ offPart p l) : t.part ≠ p :=
  bne_iff_ne.1 (List.mem_filter.1 h).2

theorem onPart_single (p : Int) (t : Tok) : onPart p [t] = if t.part = p then [t] else [] := by
  simp [onPart, List.filter_cons]

theorem onPart_eq_nil {p : Int} {l : List Tok} : onPart p l = [] ↔ ∀ t ∈ l, t.part ≠ p :=
  List.filter_eq_nil_iff.trans (forall₂_congr fun _ _ => not_congr beq_iff_eq)

theorem filter_filter_of_imp {α : Type} {f g : α → Bool} (h : ∀ x, f x = true → g x = true) (l : List α) :
    (l.filter g).filter f = l.filter f := by
  rw [List.filter_filter]
  refine List.filter_congr fun x _ => ?_
  cases hf : f x
  · rfl
  · exact h x hf

theorem filter_all {α : Type} (l : List α) : l.filter (fun _ => true) = l := List.filter_eq_self.2 fun _ _ => rfl

theorem filterMap_filter_of_none {α β : Type} {f : α → Option β} {g : α → Bool} {l : List α}
    (h : ∀ x ∈ l, g x = false → f x = none) : (l.filter g).filterMap f = l.filterMap f := by
  induction l with
  | nil => rfl
  | cons x l ih =>
    have ih := ih fun y hy => h y (List.mem_cons_of_mem _ hy)
    cases hg : g x
    · rw [List.filter_cons_of_neg (by simp [hg]), List.filterMap_cons, h x List.mem_cons_self hg, ih]
    · rw [List.filter_cons_of_pos hg, List.filterMap_cons, List.filterMap_cons, ih]

theorem onPart_onPart (p q : Int) (l : List Tok) : onPart p (onPart q l) = if p = q then onPart p l else [] := by
  split
  · next h => subst h; exact filter_filter_of_imp (fun _ e => e) l
  · next h => exact onPart_eq_nil.2 fun t ht e => h (e.symm.trans (part_of_mem_onPart ht))

theorem onPart_offPart (p q : Int) (l : List Tok) : onPart p (offPart q l) = if p = q then [] else onPart p l := by
  split
  · next h => subst h; exact onPart_eq_nil.2 fun t ht => part_of_mem_offPart ht
  · next h => exact filter_filter_of_imp (fun t e => bne_iff_ne.2 fun e' => h ((beq_iff_eq.1 e).symm.trans e')) l

theorem exists_of_onPart_ne {p : Int} {l : List Tok} (h : onPart p l ≠ []) : ∃ t ∈ l, t.part = p := by
  obtain ⟨t, ht⟩ := List.exists_mem_of_ne_nil _ h
  exact ⟨t, mem_onPart ht, part_of_mem_onPart ht⟩

theorem mem_parts_of_onPart (p : Int) (l : List Tok) (h : onPart p l ≠ []) : p ∈ partsOf l := by
  obtain ⟨t, ht, e⟩ := exists_of_onPart_ne h
  exact List.mem_map.2 ⟨t, ht, e⟩

theorem onPart_arrange (p : Int) (ps : List Int) (rem : List Tok) :
    onPart p (arrange ps rem) = if p ∈ ps then onPart p rem else [] := by
  induction ps generalizing rem with
  | nil => rfl
  | cons q ps ih =>
    simp only [arrange, onPart_append, onPart_onPart, ih, onPart_offPart, List.mem_cons]
    by_cases h : p = q <;> simp [h]

/-- map iteration visits every partition of the set, whatever order `o` it is given -/
theorem onPart_arrange_all (p : Int) (o : List Int) (l : List Tok) :
    onPart p (arrange (o ++ partsOf l) l) = onPart p l := by
  rw [onPart_arrange]
  split
  · rfl
  · next h => exact (Classical.not_not.1 fun e => h (List.mem_append_right _ (mem_parts_of_onPart p l e))).symm

/-- data tokens of partition `p` leaving the worker (success, failure, bounce), in order -/
def outD (p : Int) : Action → Option Int
  | .requeue i q _ false => if q = p then some i else none
  | .expire i q false => if q = p then some i else none
  | .succ i q => if q = p then some i else none
  | .fail i q => if q = p then some i else none
  | _ => none

def outData (p : Int) (as : List Action) : List Int := as.filterMap (outD p)

/-- every token of partition `p` handed to retryMessage (re-queued, or failed because the budget is spent), fin
    chasers included, in order -/
def bnc (p : Int) : Action → Option Int
  | .requeue i q _ _ => if q = p then some i else none
  | .expire i q _ => if q = p then some i else none
  | _ => none

def bounces (p : Int) (as : List Action) : List Int := as.filterMap (bnc p)

def addD (p : Int) : Action → Option Int
  | .add i q => if q = p then some i else none
  | _ => none

def adds (p : Int) (as : List Action) : List Int := as.filterMap (addD p)

def bncD (p : Int) : Action → Option Int
  | .requeue i q _ false => if q = p then some i else none
  | .expire i q false => if q = p then some i else none
  | _ => none

def bouncedData (p : Int) (as : List Action) : List Int := as.filterMap (bncD p)

theorem outData_append (p : Int) (a b : List Action) : outData p (a ++ b) = outData p a ++ outData p b :=
  List.filterMap_append ..
theorem adds_append (p : Int) (a b : List Action) : adds p (a ++ b) = adds p a ++ adds p b :=
  List.filterMap_append ..

/-- Every view of the action list used here picks, per action, the id of a token of partition `p`; the views differ
    in which actions count: `done` - success and failure, `retry b` - hand-over to retryMessage of a token with
    `isFin = b`, `add` - appends to the buffer. -/
def pick (done : Bool) (retry : Bool → Bool) (add : Bool) (p : Int) : Action → Option Int
  | .succ i q => if done then (if q = p then some i else none) else none
  | .fail i q => if done then (if q = p then some i else none) else none
  | .requeue i q _ b => if retry b then (if q = p then some i else none) else none
  | .expire i q b => if retry b then (if q = p then some i else none) else none
  | .add i q => if add then (if q = p then some i else none) else none
  | _ => none

def view (done : Bool) (retry : Bool → Bool) (add : Bool) (p : Int) (as : List Action) : List Int :=
  as.filterMap (pick done retry add p)

theorem outData_eq (p : Int) : outData p = view true (!·) false p := by
  funext as; unfold outData view; congr 1; funext a
  cases a with
  | requeue _ _ _ b | expire _ _ b => cases b <;> rfl
  | _ => rfl
theorem bounces_eq (p : Int) : bounces p = view false (fun _ => true) false p := by
  funext as; unfold bounces view; congr 1; funext a
  cases a <;> rfl
theorem adds_eq (p : Int) : adds p = view false (fun _ => false) true p := by
  funext as; unfold adds view; congr 1; funext a
  cases a <;> rfl

theorem isFin_iff (t : Tok) : t.isFin = true ↔ t.kind = .fin := by
  cases h : t.kind <;> simp [Tok.isFin, h]
theorem isFin_of_data {t : Tok} (h : t.kind = .data) : t.isFin = false := by simp [Tok.isFin, h]
theorem isFin_of_fin {t : Tok} (h : t.kind = .fin) : t.isFin = true := (isFin_iff t).2 h

/-- ids of the tokens among `ts` that a view with retry selector `r` sees when `ts` goes to retryMessage -/
def seen (r : Bool → Bool) (ts : List Tok) : List Int := ids (ts.filter fun t => r t.isFin)

theorem seen_all (ts : List Tok) : seen (fun _ => true) ts = ids ts := congrArg ids (filter_all ts)
theorem seen_none (ts : List Tok) : seen (fun _ => false) ts = [] :=
  congrArg ids (List.filter_eq_nil_iff.2 fun _ _ => Bool.false_ne_true)
theorem seen_onPart (r : Bool → Bool) (p : Int) (l : List Tok) :
    seen r (onPart p l) = ids (onPart p (l.filter fun t => r t.isFin)) := by
  simp only [seen, onPart, List.filter_filter]
  exact congrArg ids (List.filter_congr fun _ _ => Bool.and_comm ..)
theorem seen_data {ts : List Tok} (h : ∀ t ∈ ts, t.kind = .data) : seen (!·) ts = ids ts :=
  congrArg ids (List.filter_eq_self.2 fun t ht => by simp [isFin_of_data (h t ht)])
theorem seen_part_append (r : Bool → Bool) (p : Int) (x y : List Tok) :
    seen r (onPart p (x ++ y)) = seen r (onPart p x) ++ seen r (onPart p y) := by
  unfold seen; rw [onPart_append, List.filter_append, ids_append]
theorem seen_other (r : Bool → Bool) {p : Int} {t : Tok} (h : t.part ≠ p) : seen r (onPart p [t]) = [] := by
  rw [onPart_single, if_neg h]; rfl

/-- the quiet-period lemmas (`*_quiet`, `resp_refused`) state their view for every selector; at the selectors of `adds`
    the `seen` side is empty -/
theorem adds_of_view {p : Int} {as : List Action} {ts : List Tok}
    (h : view false (fun _ => false) true p as = seen (fun _ => false) ts) : adds p as = [] := by
  rw [adds_eq, h, seen_none]

section
variable {d : Bool} {r : Bool → Bool} {a : Bool} {p : Int}

@[simp] theorem view_nil : view d r a p [] = [] := rfl

theorem view_append (x y : List Action) : view d r a p (x ++ y) = view d r a p x ++ view d r a p y :=
  List.filterMap_append ..

theorem view_map (g : Tok → Action) (c : Tok → Bool)
    (h : ∀ t, pick d r a p (g t) = if c t then (if t.part = p then some t.id else none) else none) (ts : List Tok) :
    view d r a p (ts.map g) = ids ((onPart p ts).filter c) := by
  unfold view ids onPart
  rw [List.filterMap_map, ← List.filterMap_eq_map, List.filterMap_filter, List.filterMap_filter]
  refine congrArg (List.filterMap · ts) (funext fun t => (h t).trans ?_)
  cases c t <;> by_cases e : t.part = p <;> simp [e]

theorem view_retryMsgs (max : Nat) (ts : List Tok) :
    view d r a p (retryMsgs max ts) = seen r (onPart p ts) :=
  -- both branches of `retryMsg` carry the token's id, partition and `isFin`
  view_map _ _ (fun _ => (apply_ite (pick d r a p) ..).trans (ite_self _)) ts

theorem view_bounce (max : Nat) (t : Tok) :
    view d r a p [.refuse t.id, retryMsg max t] = seen r (onPart p [t]) := view_retryMsgs max [t]

theorem view_cons (x : Action) (l : List Action) :
    view d r a p (x :: l) = (pick d r a p x).toList ++ view d r a p l := by
  unfold view; rw [List.filterMap_cons]; cases pick d r a p x <;> rfl

theorem view_add_other {i q : Int} (h : q ≠ p) : view d r a p [.add i q] = [] := by
  simp [view, pick, h]

theorem view_done (g : Tok → Action)
    (h : ∀ t, pick d r a p (g t) = if d then (if t.part = p then some t.id else none) else none) (ts : List Tok) :
    view d r a p (ts.map g) = if d = true then ids (onPart p ts) else [] := by
  rw [view_map g (fun _ => d) h]
  cases d
  · exact seen_none _
  · exact seen_all _

theorem view_succ (ts : List Tok) :
    view d r a p (ts.map fun t => Action.succ t.id t.part) = if d = true then ids (onPart p ts) else [] :=
  view_done _ (fun _ => rfl) ts

theorem view_fail (ts : List Tok) :
    view d r a p (ts.map fun t => Action.fail t.id t.part) = if d = true then ids (onPart p ts) else [] :=
  view_done _ (fun _ => rfl) ts

end

/-- a partition whose verdict leaves its messages to the second pass of handleSuccess -/
def stays (max : Nat) (vd : Verdict) : Prop := 0 < max ∧ vd = .retriable

instance (max : Nat) (vd : Verdict) : Decidable (stays max vd) := by unfold stays; infer_instance

/-- partition `p` is bounced by the second pass -/
def hit (v : Int → Verdict) (p : Int) (ps : List Int) (rem : List Tok) : Prop :=
  p ∈ ps ∧ onPart p rem ≠ [] ∧ v p = .retriable

instance (v : Int → Verdict) (p : Int) (ps : List Int) (rem : List Tok) : Decidable (hit v p ps rem) := by
  unfold hit; infer_instance

theorem hit_offPart_self (v : Int → Verdict) (p : Int) (ps : List Int) (rem : List Tok) :
    ¬ hit v p ps (offPart p rem) :=
  fun h => h.2.1 ((onPart_offPart p p rem).trans (if_pos rfl))

theorem hit_cons_self_skip (v : Int → Verdict) (p : Int) (ps : List Int) (rem : List Tok)
    (g : (onPart p rem).isEmpty = true ∨ v p ≠ .retriable) :
    ¬ hit v p (p :: ps) rem ∧ ¬ hit v p ps (offPart p rem) :=
  ⟨fun h => g.elim (fun g => h.2.1 (List.isEmpty_iff.1 g)) (fun g => g h.2.2), hit_offPart_self v p ps rem⟩

theorem hit_cons_other (v : Int → Verdict) (p q : Int) (ps : List Int) (rem : List Tok) (h : p ≠ q) :
    hit v p (q :: ps) rem ↔ hit v p ps (offPart q rem) := by
  simp [hit, onPart_offPart, h]

theorem hit_cons_bounce (v : Int → Verdict) (p q : Int) (ps : List Int) (rem : List Tok)
    (g : ¬((onPart q rem).isEmpty = true ∨ v q ≠ .retriable)) :
    hit v p (q :: ps) rem ↔ p = q ∨ hit v p ps (offPart q rem) := by
  by_cases h : p = q
  · subst h
    exact iff_of_true ⟨List.mem_cons_self, fun e => g (Or.inl (by simp [e])), Classical.not_not.1 fun e => g (Or.inr e)⟩
      (Or.inl rfl)
  · rw [hit_cons_other v p q ps rem h]; exact (or_iff_right h).symm

theorem hit_cons_skip (v : Int → Verdict) (p q : Int) (ps : List Int) (rem : List Tok)
    (g : (onPart q rem).isEmpty = true ∨ v q ≠ .retriable) : hit v p (q :: ps) rem ↔ hit v p ps (offPart q rem) := by
  by_cases h : p = q
  · subst h; exact iff_of_false (hit_cons_self_skip v p ps rem g).1 (hit_cons_self_skip v p ps rem g).2
  · exact hit_cons_other v p q ps rem h

theorem hit_all (v : Int → Verdict) (p : Int) (o : List Int) (sent : List Tok) :
    hit v p (o ++ partsOf sent) sent ↔ onPart p sent ≠ [] ∧ v p = .retriable :=
  ⟨fun h => h.2, fun h => ⟨List.mem_append_right _ (mem_parts_of_onPart p sent h.1), h⟩⟩

theorem retryTopics_iff (max : Nat) (v : Int → Verdict) (sent : List Tok) :
    retryTopics max v sent = true ↔ 0 < max ∧ ∃ t ∈ sent, v t.part = .retriable := by
  simp only [retryTopics, Bool.and_eq_true, decide_eq_true_eq, List.any_eq_true, beq_iff_eq, gt_iff_lt]

/-- the response fails partition `p`: its messages are to be retried -/
def failsFor (max : Nat) (p : Int) (sent : List Tok) : Resp → Prop
  | .verdicts v _ _ => 0 < max ∧ v p = .retriable ∧ onPart p sent ≠ []
  | .encErr _ => False
  | .connErr _ _ => True

instance (max : Nat) (p : Int) (sent : List Tok) (r : Resp) : Decidable (failsFor max p sent r) := by
  cases r <;> unfold failsFor <;> infer_instance

theorem failsFor_verdicts_iff (max : Nat) (v : Int → Verdict) (o1 o2 o : List Int) (p : Int) (sent : List Tok) :
    failsFor max p sent (.verdicts v o1 o2) ↔ (retryTopics max v sent = true ∧ hit v p (o ++ partsOf sent) sent) := by
  rw [hit_all, retryTopics_iff]
  constructor
  · rintro ⟨a, b, c⟩
    obtain ⟨t, ht, htp⟩ := exists_of_onPart_ne c
    exact ⟨⟨a, t, ht, htp ▸ b⟩, c, b⟩
  · rintro ⟨⟨a, _⟩, c, b⟩; exact ⟨a, b, c⟩

/-- The invariant of a worker that builds its sets itself: at most one set is at the bridge, everything inside is a
    data token, and of a partition the worker refuses nothing is inside (what it held of it has been bounced). -/
structure PInv (s : St) : Prop where
  one : s.sets.length ≤ 1
  data : ∀ t ∈ inside s, t.kind = .data
  quiet : ∀ p, needsRetry s p = true → onPart p (inside s) = []

theorem init_inv : PInv {} := ⟨Nat.zero_le _, fun _ h => (nomatch h), fun _ _ => rfl⟩

/-- a token the worker may hold: a data token of a partition it does not refuse -/
def Acc (s : St) (t : Tok) : Prop := t.kind = .data ∧ needsRetry s t.part = false

/-- What the worker guarantees by itself, whatever sets reach the bridge: at most one set is there, and the buffer
    and the held message are data tokens of partitions that are not refused.  (`PInv` says the same of the set at
    the bridge as well, which holds as long as the worker builds its sets itself.) -/
structure Own (s : St) : Prop where
  one : s.sets.length ≤ 1
  acc : ∀ t ∈ s.buffer ++ s.wait.toList, Acc s t

theorem mem_inside {s : St} {t : Tok} : t ∈ inside s ↔ t ∈ s.sets.flatten ∨ t ∈ s.buffer ++ s.wait.toList := by
  simp only [inside, List.mem_append, or_assoc]

theorem PInv.acc {s : St} (h : PInv s) (t : Tok) (ht : t ∈ inside s) : Acc s t :=
  ⟨h.data t ht, Bool.eq_false_iff.2 fun hn => onPart_eq_nil.1 (h.quiet _ hn) t ht rfl⟩

theorem PInv.own {s : St} (h : PInv s) : Own s := ⟨h.one, fun t ht => h.acc t (mem_inside.2 (Or.inr ht))⟩

theorem Own.pinv {s : St} (h : Own s) (hs : ∀ t ∈ s.sets.flatten, Acc s t) : PInv s := by
  have a : ∀ t ∈ inside s, Acc s t := fun t ht => (mem_inside.1 ht).elim (hs t) (h.acc t)
  refine ⟨h.one, fun t ht => (a t ht).1, fun p hp => onPart_eq_nil.2 fun t ht e => ?_⟩
  have := (a t ht).2; rw [e, hp] at this; cases this

theorem Own.mono {s s' : St} (h : Own s) (h1 : s'.sets.length ≤ 1)
    (hn : ∀ p, needsRetry s p = false → needsRetry s' p = false)
    (hsub : ∀ t ∈ s'.buffer ++ s'.wait.toList, t ∈ s.buffer ++ s.wait.toList ∨ Acc s t) : Own s' :=
  ⟨h1, fun t ht => (hsub t ht).elim (fun m => ⟨(h.acc t m).1, hn _ (h.acc t m).2⟩) (fun m => ⟨m.1, hn _ m.2⟩)⟩

-- the selectors of a view that reports neither success nor failure, in the lemmas on refused partitions
variable {rt : Bool → Bool} {ad : Bool}

/-- the partition's syn or fin clears its retry flag (`delete(bp.currentRetries[topic], partition)`) -/
abbrev cleared (s : St) (q : Int) : St := { s with cr := setCr s.cr q false }

theorem needsRetry_cleared {s : St} {q p : Int} (h : needsRetry s p = false) : needsRetry (cleared s q) p = false := by
  simp only [needsRetry, setCr, Bool.or_eq_false_iff] at h ⊢
  exact ⟨h.1, by split <;> simp [h.2]⟩

theorem needsRetry_cleared_ne {s : St} {q p : Int} (h : q ≠ p) : needsRetry (cleared s q) p = needsRetry s p := by
  simp [needsRetry, setCr, Ne.symm h]

/-- the outcomes of `recv`: the result, and the token taken in (`arrived`).  The conditions of the constructors exclude
    each other (a fin chaser at a refusing worker is `reopen` unless the worker is closing, `bounce` if it is), so the
    case determines the result. -/
inductive RecvCase (max : Nat) (s : St) (t : Tok) : Bool → St × List Action → List Tok → Prop
  | busy {ov} : s.wait.isSome = true → RecvCase max s t ov (s, [.disabled]) []
  | syn {ov} : s.wait = none → t.kind = .syn → RecvCase max s t ov (cleared s t.part, [.ackSyn t.part]) []
  | bounce {ov} : s.wait = none → t.kind ≠ .syn → (needsRetry s t.part = true ∨ t.kind = .fin) →
      (needsRetry s t.part = true → t.kind = .fin → s.closing = true) →
      RecvCase max s t ov (s, [.refuse t.id, retryMsg max t]) [t]
  | reopen {ov} : s.wait = none → t.kind = .fin → needsRetry s t.part = true → s.closing = false →
      RecvCase max s t ov (cleared s t.part, [.refuse t.id, retryMsg max t]) [t]
  | hold : s.wait = none → t.kind = .data → needsRetry s t.part = false →
      RecvCase max s t true ({ s with wait := some t }, []) [t]
  | add : s.wait = none → t.kind = .data → needsRetry s t.part = false →
      RecvCase max s t false ({ s with buffer := s.buffer ++ [t], stale := false }, [.add t.id t.part]) [t]

theorem kind_data_of {t : Tok} (h1 : t.kind ≠ .syn) (h2 : t.kind ≠ .fin) : t.kind = .data := by
  cases h : t.kind <;> simp_all

theorem recv_case (max : Nat) (s : St) (t : Tok) (ov : Bool) :
    RecvCase max s t ov (recv max s t ov) (arrived s (.recv t ov)) := by
  unfold recv
  show RecvCase max s t ov _ (if s.wait.isSome then [] else if t.kind = .syn then [] else [t])
  by_cases hw : s.wait.isSome = true
  · rw [if_pos hw, if_pos hw]; exact .busy hw
  · have hn : s.wait = none := by simpa using hw
    rw [if_neg hw, if_neg hw]
    by_cases hs : t.kind = .syn
    · rw [if_pos hs, if_pos hs]; exact .syn hn hs
    · rw [if_neg hs, if_neg hs]
      by_cases hr : needsRetry s t.part = true
      · rw [if_pos hr]
        by_cases hc : (!s.closing && decide (t.kind = Kind.fin)) = true
        · rw [if_pos hc]
          exact .reopen hn (of_decide_eq_true (Bool.and_eq_true _ _ ▸ hc).2) hr
            (Bool.not_eq_true' _ ▸ (Bool.and_eq_true _ _ ▸ hc).1)
        · rw [if_neg hc]
          exact .bounce hn hs (Or.inl hr) fun _ hf => Classical.not_not.1 fun hcl =>
            hc (Bool.and_eq_true _ _ ▸ ⟨by simpa using hcl, decide_eq_true hf⟩)
      · rw [if_neg hr]
        by_cases hf : t.kind = .fin
        · rw [if_pos hf]; exact .bounce hn hs (Or.inr hf) fun h => absurd h hr
        · rw [if_neg hf]
          cases ov
          · exact .add hn (kind_data_of hs hf) (Bool.eq_false_iff.2 hr)
          · exact .hold hn (kind_data_of hs hf) (Bool.eq_false_iff.2 hr)

section
variable {max : Nat} {s : St} {t : Tok} {ov : Bool} {r : St × List Action} {a : List Tok}

theorem recv_frame (c : RecvCase max s t ov r a) :
    r.1.sets = s.sets ∧ ∀ p, needsRetry s p = false → needsRetry r.1 p = false := by
  cases c with
  | syn | reopen => exact ⟨rfl, fun _ => needsRetry_cleared⟩
  | _ => exact ⟨rfl, fun _ e => e⟩

theorem recv_own (c : RecvCase max s t ov r a) (h : Own s) : Own r.1 := by
  refine h.mono ((recv_frame c).1 ▸ h.one) (recv_frame c).2 ?_
  cases c with
  | hold hw hd hn | add hw hd hn =>
    intro x hx
    simp only [hw, Option.toList_none, Option.toList_some, List.append_nil, List.mem_append, List.mem_singleton] at hx ⊢
    exact hx.imp id (by rintro rfl; exact ⟨hd, hn⟩)
  | _ => exact fun _ m => Or.inl m

theorem recv_inv (c : RecvCase max s t ov r a) (h : PInv s) : PInv r.1 :=
  (recv_own c h.own).pinv fun t ht =>
    have m := h.acc t (mem_inside.2 (Or.inl ((recv_frame c).1 ▸ ht)))
    ⟨m.1, (recv_frame c).2 _ m.2⟩

theorem recv_inside (c : RecvCase max s t ov r a) :
    (r.2 = [.refuse t.id, retryMsg max t] ∧ a = [t] ∧ inside r.1 = inside s ∧
      (needsRetry s t.part = true ∨ t.kind = .fin)) ∨
    ((∀ d rt p, view d rt false p r.2 = []) ∧ inside r.1 = inside s ++ a ∧ ∀ x ∈ a, x.kind = .data) := by
  cases c with
  | busy | syn => exact .inr ⟨fun _ _ _ => rfl, (List.append_nil _).symm, fun _ h => nomatch h⟩
  | bounce _ _ hr => exact .inl ⟨rfl, rfl, rfl, hr⟩
  | reopen _ hk => exact .inl ⟨rfl, rfl, rfl, .inr hk⟩
  | hold hw hd | add hw hd =>
    refine .inr ⟨fun _ _ _ => rfl, ?_, fun x hx => List.mem_singleton.1 hx ▸ hd⟩
    simp only [inside, hw, Option.toList_none, Option.toList_some, List.append_nil, List.append_assoc]

theorem recv_fifo (c : RecvCase max s t ov r a) (h : PInv s) (p : Int) :
    outData p r.2 ++ ids (onPart p (inside r.1)) =
      ids (onPart p (inside s)) ++ ids (onPart p (a.filter fun t => !t.isFin)) := by
  rw [outData_eq, ← seen_onPart]
  rcases recv_inside c with ⟨e, rfl, i, hr⟩ | ⟨v, i, hd⟩
  · -- a bounced data token belongs to a refused partition, of which nothing is inside: it leaves in its turn
    rw [e, i, view_bounce]
    refine append_comm_of_nil ?_
    by_cases e : t.part = p
    · subst e
      rcases hr with hr | hr
      · exact .inr (congrArg ids (h.quiet _ hr))
      · exact .inl (by rw [seen_onPart, List.filter_cons, isFin_of_fin hr]; rfl)
    · exact .inl (seen_other _ e)
  · rw [v, i, onPart_append, ids_append, seen_data fun x hx => hd x (mem_onPart hx)]; rfl

theorem recv_quiet (c : RecvCase max s t ov r a) {p : Int} (hn : needsRetry s p = true) :
    view false rt ad p r.2 = seen rt (onPart p a) ∧
    (¬ (t.part = p ∧ (t.kind = .syn ∨ t.kind = .fin)) → needsRetry r.1 p = true) := by
  have other : needsRetry s t.part = false → t.part ≠ p := fun hf e => by rw [e, hn] at hf; cases hf
  cases c with
  | busy => exact ⟨rfl, fun _ => hn⟩
  | syn _ hk => exact ⟨rfl, fun hr => (needsRetry_cleared_ne fun e => hr ⟨e, Or.inl hk⟩).trans hn⟩
  | bounce => exact ⟨view_bounce max t, fun _ => hn⟩
  | reopen _ hk => exact ⟨view_bounce max t, fun hr => (needsRetry_cleared_ne fun e => hr ⟨e, Or.inr hk⟩).trans hn⟩
  | hold _ _ hf => exact ⟨(seen_other rt (other hf)).symm, fun _ => hn⟩
  | add _ _ hf => exact ⟨(view_add_other (other hf)).trans (seen_other rt (other hf)).symm, fun _ => hn⟩

theorem recv_stale (c : RecvCase max s t ov r a) (h : r.1.stale = true) : s.stale = true := by
  cases c with
  | add => cases h
  | _ => exact h

end

end Props.C02bp

namespace Props.C02sys
open Model.BrokerProd

/-- The outcomes of `recv` as a function (`recvDo` decides, `RecvDo.run` acts): where a map of the state
    is pushed through the step (Props/C02multiW.lean) the decision and the action commute with it one by one, which
    a relation would give only with its determinism.
    What the `recv` arm of the run loop does with a token: nothing (the loop sits in waitForSpace), consume a syn,
    bounce (and leave the retry mode of the partition or not), hold the message in waitForSpace, add it to the buffer -/
inductive RecvDo
  | off | ack | bounce (clear : Bool) | hold | add

def recvDo (b : St) (t : Tok) (ov : Bool) : RecvDo :=
  if b.wait.isSome then .off
  else if t.kind = .syn then .ack
  else if needsRetry b t.part then .bounce (!b.closing && t.kind = .fin)
  else if t.kind = .fin then .bounce false
  else if ov then .hold else .add

def RecvDo.run (M : Nat) (b : St) (t : Tok) : RecvDo → St × List Action
  | .off => (b, [.disabled])
  | .ack => ({ b with cr := setCr b.cr t.part false }, [.ackSyn t.part])
  | .bounce c => (if c then { b with cr := setCr b.cr t.part false } else b,
      [.refuse t.id, retryMsg M t])
  | .hold => ({ b with wait := some t }, [])
  | .add => ({ b with buffer := b.buffer ++ [t], stale := false }, [.add t.id t.part])

/-- the broker worker's `recv` as decision and action (the partition producer's `recv_eq`, its five branches, is
    `Lemmas.C02sys.recv_eq`, Lemmas/C02pp.lean) -/
theorem recv_eq (M : Nat) (b : St) (t : Tok) (ov : Bool) :
    step M b (.recv t ov) = (recvDo b t ov).run M b t := by
  simp only [recvDo, apply_ite (RecvDo.run M b t)]
  rfl

/-- an outcome-bearing action of partition `p` -/
def isOwn (p : Int) : Action → Bool
  | .requeue _ q _ _ => q == p
  | .succ _ q => q == p
  | .expire _ q _ => q == p
  | .fail _ q => q == p
  | _ => false

def isOut : Action → Bool
  | .requeue _ _ _ _ => true
  | .succ _ _ => true
  | .expire _ _ _ => true
  | .fail _ _ => true
  | _ => false

/-- the partition for which an action reports an outcome (re-queued, expired, acknowledged, failed).  `OwnActs p` /
    `ForeignActs p` (Props/C02multiW.lean) say `outPart a = some q → q = p` / `q ≠ p` of every action of a list,
    written out per kind of outcome (`outPart_cases`).  Facts about the actions of a step are proved in the `outPart`
    form and converted (`ownActs_of_outPart`, `foreignActs_of_outPart`). -/
def outPart : Action → Option Int
  | .requeue _ q _ _ => some q
  | .succ _ q => some q
  | .expire _ q _ => some q
  | .fail _ q => some q
  | _ => none

theorem isOwn_iff {p : Int} {a : Action} : isOwn p a = true ↔ outPart a = some p := by
  cases a with
  | requeue _ q | succ _ q | expire _ q | fail _ q => exact beq_iff_eq.trans Option.some_inj.symm
  | _ => exact ⟨nofun, nofun⟩

theorem isOwn_retryMsg (M : Nat) (p : Int) (t : Tok) : isOwn p (retryMsg M t) = (t.part == p) := by
  unfold retryMsg; split <;> rfl

end Props.C02sys

namespace Props.C02bp
open Model.BrokerProd Props.C02sys

variable {rt : Bool → Bool} {ad : Bool}

/-- the outcomes of `handover`: the bridge is busy or there is nothing to hand over (`idle`), or the buffer becomes the
    set at the bridge and the held message, if any, starts the next buffer -/
inductive HandoverCase (s : St) : St × List Action → Prop
  | idle : (s.sets ≠ [] ∨ s.wait = none ∧ (s.buffer.isEmpty && !s.stale) = true) → HandoverCase s (s, [.disabled])
  | take : s.sets = [] → s.wait = none → (s.buffer.isEmpty && !s.stale) = false →
      HandoverCase s ({ s with sets := [s.buffer], buffer := [], stale := false }, [])
  | takeHeld {t} : s.sets = [] → s.wait = some t →
      HandoverCase s ({ s with sets := [s.buffer], buffer := [t], wait := none, stale := false }, [.add t.id t.part])

theorem handover_case (s : St) : HandoverCase s (handover s) := by
  unfold handover
  by_cases h1 : (!s.sets.isEmpty) = true
  · rw [if_pos h1]; exact .idle (Or.inl (by simpa using h1))
  · have hs : s.sets = [] := by simpa using h1
    rw [if_neg h1]
    split
    · next hw =>
      by_cases h2 : (s.buffer.isEmpty && !s.stale) = true
      · rw [if_pos h2]; exact .idle (Or.inr ⟨hw, h2⟩)
      · rw [if_neg h2]; exact .take hs hw (Bool.eq_false_iff.2 h2)
    · next t hw => exact .takeHeld hs hw

section
variable {s : St} {r : St × List Action}

theorem handover_frame (c : HandoverCase s r) :
    inside r.1 = inside s ∧ (∀ p, needsRetry r.1 p = needsRetry s p) ∧ r.1.sets.length ≤ 1 ∨ r = (s, [.disabled]) := by
  cases c with
  | idle => exact Or.inr rfl
  | take hs hw => exact Or.inl ⟨by simp [inside, hs, hw], fun _ => rfl, Nat.le_refl 1⟩
  | takeHeld hs hw => exact Or.inl ⟨by simp [inside, hs, hw], fun _ => rfl, Nat.le_refl 1⟩

theorem handover_eq (max : Nat) (s : St) (hd : (step max s .handover).2 ≠ [.disabled]) :
    s.sets = [] ∧
    step max s .handover = ({ s with sets := [s.buffer], buffer := s.wait.toList, wait := none, stale := false },
      s.wait.toList.map fun t => .add t.id t.part) := by
  obtain ⟨r, hr, c⟩ : ∃ r, step max s .handover = r ∧ HandoverCase s r := ⟨_, rfl, handover_case s⟩
  rw [hr] at hd ⊢
  cases c with
  | idle => exact absurd rfl hd
  | take hs hw => exact ⟨hs, by rw [hw]; rfl⟩
  | takeHeld hs hw => exact ⟨hs, by rw [hw]; rfl⟩

theorem handover_own (c : HandoverCase s r) (h : Own s) : Own r.1 := by
  cases c with
  | idle => exact h
  | take _ hw => exact h.mono (Nat.le_refl 1) (fun _ e => e) fun x hx => by simp [hw] at hx
  | takeHeld _ hw => exact h.mono (Nat.le_refl 1) (fun _ e => e) fun x hx => Or.inl (by simp [hw] at hx ⊢; exact Or.inr hx)

theorem handover_inv (c : HandoverCase s r) (h : PInv s) : PInv r.1 := by
  rcases handover_frame c with ⟨a, d, e⟩ | rfl
  · exact ⟨e, a ▸ h.data, fun p hp => a ▸ h.quiet p (d p ▸ hp)⟩
  · exact h

theorem handover_fifo (c : HandoverCase s r) (p : Int) :
    outData p r.2 ++ ids (onPart p (inside r.1)) = ids (onPart p (inside s)) := by
  have : outData p r.2 = [] := by cases c <;> rfl
  rcases handover_frame c with ⟨a, _⟩ | rfl
  · rw [this, a]; rfl
  · rfl

theorem handover_quiet (c : HandoverCase s r) (h : Own s) {p : Int} (hn : needsRetry s p = true) :
    view false rt ad p r.2 = [] ∧ needsRetry r.1 p = true := by
  cases c with
  | idle | take => exact ⟨rfl, hn⟩
  | @takeHeld t _ hw =>
    have hp : t.part ≠ p := fun e => by have := (h.acc t (by simp [hw])).2; rw [e, hn] at this; cases this
    exact ⟨view_add_other hp, hn⟩

theorem handover_stale (c : HandoverCase s r) (h : r.1.stale = true) : s.stale = true := by
  cases c with
  | idle => exact h
  | _ => cases h

end

/-- the outcomes (success, failure) a list of tokens of ONE partition gets in the first pass: `verdictActs` without the
    `abandon`, which concerns no partition -/
def verdictOwn (max : Nat) (vd : Verdict) (ts : List Tok) : List Action :=
  match vd with
  | .ok => ts.map fun t => .succ t.id t.part
  | .missing => ts.map fun t => .fail t.id t.part
  | .fatal => ts.map fun t => .fail t.id t.part
  | .retriable => if max = 0 then ts.map fun t => .fail t.id t.part else []

/-- what `handle` reports on partition `p`: a function of the partition's part of the answered set (`ps`), its part of
    the buffer (`pb`) and the response at `p` alone -/
def handleOwn (max : Nat) (p : Int) (ps pb : List Tok) : Resp → List Action
  | .verdicts v _ _ =>
    verdictOwn max (v p) ps ++ if 0 < max ∧ v p = .retriable ∧ ps ≠ [] then retryMsgs max ps ++ retryMsgs max pb else []
  | .encErr _ => ps.map fun t => .fail t.id t.part
  | .connErr _ _ => retryMsgs max ps ++ retryMsgs max pb

theorem verdictOwn_nil (max : Nat) (vd : Verdict) : verdictOwn max vd [] = [] := by
  cases vd <;> simp [verdictOwn]

theorem handleOwn_nil (max : Nat) (p : Int) (r : Resp) : handleOwn max p [] [] r = [] := by
  cases r <;> simp [handleOwn, verdictOwn_nil, retryMsgs]

theorem own_map {p : Int} (g : Tok → Action) (h : ∀ t, isOwn p (g t) = (t.part == p)) (l : List Tok) :
    (l.map g).filter (isOwn p) = (onPart p l).map g := by
  simp only [onPart, List.filter_map, Function.comp_def, h]

theorem own_retryMsgs (max : Nat) (p : Int) (l : List Tok) :
    (retryMsgs max l).filter (isOwn p) = retryMsgs max (onPart p l) :=
  own_map _ (isOwn_retryMsg max p) l

theorem own_verdictActs (max : Nat) (vd : Verdict) (p : Int) (ts : List Tok) :
    (verdictActs max vd ts).filter (isOwn p) = verdictOwn max vd (onPart p ts) := by
  have s := own_map (p := p) (fun t => Action.succ t.id t.part) (fun _ => rfl) ts
  have f := own_map (p := p) (fun t => Action.fail t.id t.part) (fun _ => rfl) ts
  unfold verdictActs verdictOwn
  by_cases he : ts.isEmpty = true
  · rw [if_pos he, List.isEmpty_iff.1 he]; exact (verdictOwn_nil max vd).symm
  · rw [if_neg he]
    cases vd with
    | ok => exact s
    | missing => exact f
    | fatal => dsimp only; rw [List.filter_append, f]; split <;> rfl
    | retriable =>
      dsimp only
      by_cases hm : max = 0
      · rw [if_pos hm, if_pos hm, List.filter_cons_of_neg Bool.false_ne_true]; exact f
      · rw [if_neg hm, if_neg hm]; rfl

theorem own_loop1 (max : Nat) (v : Int → Verdict) (p : Int) (ps : List Int) (rem : List Tok) :
    (loop1 max v ps rem).filter (isOwn p) = if p ∈ ps then verdictOwn max (v p) (onPart p rem) else [] := by
  induction ps generalizing rem with
  | nil => rfl
  | cons q ps ih =>
    rw [loop1, List.filter_append, ih, own_verdictActs, onPart_onPart, onPart_offPart]
    by_cases h : p = q
    · subst h; simp [verdictOwn_nil]
    · simp [h, verdictOwn_nil]

theorem own_loop2 (max : Nat) (v : Int → Verdict) (p : Int) (ps : List Int) (rem : List Tok) (s : St) :
    (loop2 max v ps rem s).2.filter (isOwn p) =
      if hit v p ps rem then retryMsgs max (onPart p rem) ++ retryMsgs max (onPart p s.buffer) else [] := by
  induction ps generalizing rem s with
  | nil => simp [loop2, hit]
  | cons q ps ih =>
    by_cases g : (onPart q rem).isEmpty = true ∨ v q ≠ .retriable
    · rw [loop2, if_pos g, ih]
      by_cases h : p = q
      · subst h
        obtain ⟨n1, n2⟩ := hit_cons_self_skip v p ps rem g
        rw [if_neg n1, if_neg n2]
      · simp only [hit_cons_other v p q ps rem h, onPart_offPart, h, ↓reduceIte]
    · rw [loop2, if_neg g]
      have hd : isOwn p (Action.drop q) = false := rfl
      simp only [List.filter_append, List.filter_cons, hd, own_retryMsgs, onPart_onPart, ih, onPart_offPart]
      by_cases h : p = q
      · subst h
        simp [(hit_cons_bounce v p p ps rem g).2 (Or.inl rfl), hit_offPart_self v p ps rem]
      · simp [hit_cons_other v p q ps rem h, h, retryMsgs]

/-- `handle` seen from partition `p`, for every response and every iteration order -/
theorem handle_own (max : Nat) (s : St) (sent : List Tok) (rsp : Resp) (p : Int) :
    (handle max s sent rsp).2.filter (isOwn p) = handleOwn max p (onPart p sent) (onPart p s.buffer) rsp := by
  cases rsp with
  | verdicts v o1 o2 =>
    -- the first pass reports on `p` whether or not `p` is among the partitions of the set
    have l1 : (loop1 max v (o1 ++ partsOf sent) sent).filter (isOwn p) = verdictOwn max (v p) (onPart p sent) := by
      rw [own_loop1]
      split
      · rfl
      · next h =>
        rw [Classical.not_not.1 fun e => h (List.mem_append_right _ (mem_parts_of_onPart p sent e)), verdictOwn_nil]
    have fe := failsFor_verdicts_iff max v o1 o2 o2 p sent
    unfold failsFor at fe
    unfold handle handleOwn
    by_cases h : retryTopics max v sent = true
    · simp only [h, true_and] at fe
      simp only [h, ↓reduceIte, List.filter_append, l1, own_loop2, fe]
    · have nf : ¬ (0 < max ∧ v p = .retriable ∧ onPart p sent ≠ []) := fun x => h (fe.1 x).1
      simp only [h, nf, l1, List.append_nil, Bool.false_eq_true, ↓reduceIte]
  | encErr o =>
    exact (own_map _ (fun _ => rfl) _).trans (by rw [onPart_arrange_all]; rfl)
  | connErr o1 o2 =>
    have hd : ∀ q, isOwn q Action.closing = false ∧ isOwn q Action.abandon = false := fun _ => ⟨rfl, rfl⟩
    simp only [handle, handleOwn, List.filter_append, List.filter_cons, hd, own_retryMsgs, onPart_arrange_all,
      Bool.false_eq_true, ↓reduceIte]

theorem loop2_state (max : Nat) (v : Int → Verdict) (ps : List Int) (rem : List Tok) (s : St) :
    (loop2 max v ps rem s).1 =
      { s with cr := fun p => s.cr p || decide (hit v p ps rem),
               buffer := s.buffer.filter fun t => !decide (hit v t.part ps rem) } := by
  induction ps generalizing rem s with
  | nil => cases s; simp [loop2, hit, filter_all]
  | cons q ps ih =>
    by_cases g : (onPart q rem).isEmpty = true ∨ v q ≠ .retriable
    · have e : ∀ p, decide (hit v p (q :: ps) rem) = decide (hit v p ps (offPart q rem)) :=
        fun p => decide_eq_decide.2 (hit_cons_skip v p q ps rem g)
      rw [loop2, if_pos g, ih]; simp only [e]
    · have e : ∀ p, decide (hit v p (q :: ps) rem) = (decide (p = q) || decide (hit v p ps (offPart q rem))) :=
        fun p => (decide_eq_decide.2 (hit_cons_bounce v p q ps rem g)).trans (Bool.decide_or ..)
      rw [loop2, if_neg g, ih]
      simp only [e, St.mk.injEq, true_and, and_true]
      refine ⟨funext fun p => ?_, ?_⟩
      · by_cases h : p = q <;> simp [setCr, h]
      · show (s.buffer.filter _).filter _ = _
        rw [List.filter_filter]
        exact List.filter_congr fun t _ => by by_cases h : t.part = q <;> simp [h]

/-- handleError with a request-level error other than an encoding error: the worker goes to closing mode -/
def closes : Resp → Bool
  | .connErr _ _ => true
  | _ => false

/-- the state after `handle`: a connection error closes the worker; otherwise the partitions the response fails are
    marked.  Either way they leave the buffer. -/
theorem handle_state (max : Nat) (s : St) (sent : List Tok) (rsp : Resp) :
    (handle max s sent rsp).1 =
      { s with closing := s.closing || closes rsp,
               cr := fun p => s.cr p || (!closes rsp && decide (failsFor max p sent rsp)),
               buffer := s.buffer.filter fun t => !decide (failsFor max t.part sent rsp) } := by
  -- `decide (failsFor ..)` carries the instance built by `cases rsp`: it is rewritten by `nf` / `hf`, not evaluated
  cases rsp with
  | verdicts v o1 o2 =>
    have fe := fun p => failsFor_verdicts_iff max v o1 o2 o2 p sent
    by_cases h : retryTopics max v sent = true
    · simp only [handle, h, ↓reduceIte, loop2_state, fe, true_and, closes, Bool.or_false, Bool.not_false,
        Bool.true_and]
    · have nf : ∀ p, ¬ failsFor max p sent (.verdicts v o1 o2) := fun p x => h ((fe p).1 x).1
      cases s; simp [handle, h, nf, closes, filter_all]
  | encErr o =>
    have nf : ∀ p, ¬ failsFor max p sent (.encErr o) := fun _ => id
    cases s; simp [handle, nf, closes, filter_all]
  | connErr o1 o2 =>
    have hf : ∀ p, failsFor max p sent (.connErr o1 o2) := fun _ => trivial
    simp [handle, hf, closes]

/-- what `handle` emits: outcomes, `drop`, `abandon`, `closing` -/
def isReport : Action → Bool
  | .ackSyn _ | .refuse _ | .add _ _ | .disabled => false
  | _ => true

theorem report_map (g : Tok → Action) (h : ∀ t, isReport (g t) = true) (l : List Tok) :
    (l.map g).all isReport = true :=
  List.all_eq_true.2 fun a ha => by obtain ⟨t, _, rfl⟩ := List.mem_map.1 ha; exact h t

theorem report_retryMsgs (max : Nat) (l : List Tok) : (retryMsgs max l).all isReport = true :=
  report_map _ (fun t => by unfold retryMsg; split <;> rfl) l

theorem report_verdictActs (max : Nat) (vd : Verdict) (ts : List Tok) : (verdictActs max vd ts).all isReport = true := by
  have f := report_map (fun t => Action.fail t.id t.part) (fun _ => rfl) ts
  unfold verdictActs
  split
  · rfl
  · cases vd with
    | ok => exact report_map _ (fun _ => rfl) ts
    | missing => exact f
    | fatal => dsimp only; rw [List.all_append, f]; split <;> rfl
    | retriable =>
      dsimp only
      split
      · exact f
      · rfl

theorem report_loop1 (max : Nat) (v : Int → Verdict) (ps : List Int) (rem : List Tok) :
    (loop1 max v ps rem).all isReport = true := by
  induction ps generalizing rem with
  | nil => rfl
  | cons q ps ih => rw [loop1, List.all_append, report_verdictActs, ih]; rfl

theorem report_loop2 (max : Nat) (v : Int → Verdict) (ps : List Int) (rem : List Tok) (s : St) :
    (loop2 max v ps rem s).2.all isReport = true := by
  induction ps generalizing rem s with
  | nil => rfl
  | cons q ps ih =>
    rw [loop2]
    split
    · exact ih ..
    · simp only [List.all_append, List.all_cons, report_retryMsgs, ih, isReport, Bool.and_self]

/-- `handle` emits nothing but reports: with `view_own` an id view of its list is a view of `handle_own`'s, and the
    list contains no `disabled` -/
theorem report_handle (max : Nat) (s : St) (sent : List Tok) (rsp : Resp) :
    (handle max s sent rsp).2.all isReport = true := by
  cases rsp with
  | verdicts v o1 o2 =>
    by_cases h : retryTopics max v sent = true
    · simp only [handle, h, ↓reduceIte, List.all_append, report_loop1, report_loop2, Bool.and_self]
    · simp only [handle, h, Bool.false_eq_true, ↓reduceIte, report_loop1]
  | encErr o => exact report_map _ (fun _ => rfl) _
  | connErr o1 o2 => simp only [handle, List.all_cons, List.all_append, report_retryMsgs, isReport, Bool.and_self]

theorem handle_frame (max : Nat) (s : St) (sent : List Tok) (r : Resp) :
    (handle max s sent r).1.sets = s.sets ∧ (handle max s sent r).1.wait = s.wait ∧
    (∀ t ∈ (handle max s sent r).1.buffer, t ∈ s.buffer) := by
  rw [handle_state]; exact ⟨rfl, rfl, fun t ht => (List.mem_filter.1 ht).1⟩

theorem handle_stale (max : Nat) (s : St) (sent : List Tok) (r : Resp) : (handle max s sent r).1.stale = s.stale := by
  rw [handle_state]

theorem handle_buffer (max : Nat) (s : St) (sent : List Tok) (rsp : Resp) (p : Int) :
    onPart p (handle max s sent rsp).1.buffer = if failsFor max p sent rsp then [] else onPart p s.buffer := by
  rw [handle_state]
  show (s.buffer.filter _).filter _ = _
  rw [List.filter_filter]
  split
  · next h => exact List.filter_eq_nil_iff.2 fun t _ e => by simp [beq_iff_eq.1 (Bool.and_eq_true _ _ ▸ e).1, h] at e
  · next h => exact List.filter_congr fun t _ => by by_cases e : t.part = p <;> simp [e, h]

theorem handle_needsRetry (max : Nat) (s : St) (sent : List Tok) (rsp : Resp) (p : Int) :
    needsRetry (handle max s sent rsp).1 p = (needsRetry s p || decide (failsFor max p sent rsp)) := by
  rw [handle_state]
  cases rsp with
  | connErr o1 o2 => have hf : failsFor max p sent (.connErr o1 o2) := trivial; simp [needsRetry, closes, hf]
  | _ => simp [needsRetry, closes, Bool.or_assoc]

theorem view_own {d : Bool} {r : Bool → Bool} {a : Bool} {p : Int} {as : List Action} (h : as.all isReport = true) :
    view d r a p (as.filter (isOwn p)) = view d r a p as := by
  refine filterMap_filter_of_none fun x hx hn => ?_
  have hr := List.all_eq_true.1 h x hx
  cases x with
  | ackSyn | refuse | add | disabled => cases hr
  | drop | abandon | closing => rfl
  | requeue _ q | succ _ q | expire _ q | fail _ q =>
    have hq : q ≠ p := fun e => Bool.false_ne_true (hn.symm.trans (beq_iff_eq.2 e))
    show (if _ then (if q = p then _ else none) else none) = none
    rw [if_neg hq, ite_self]

theorem view_verdictOwn {d : Bool} {r : Bool → Bool} {a : Bool} {p : Int} (max : Nat) (vd : Verdict) (ts : List Tok) :
    view d r a p (verdictOwn max vd ts) = if d = true ∧ ¬ stays max vd then ids (onPart p ts) else [] := by
  cases vd with
  | ok | missing | fatal => simp [verdictOwn, view_succ, view_fail, stays]
  | retriable => by_cases hm : max = 0 <;> simp [verdictOwn, hm, view_fail, stays, Nat.pos_iff_ne_zero]

theorem handle_view {d : Bool} {r : Bool → Bool} {a : Bool} (max : Nat) (s : St) (sent : List Tok) (rsp : Resp) (p : Int) :
    view d r a p (handle max s sent rsp).2 =
      (if failsFor max p sent rsp then seen r (onPart p sent) ++ seen r (onPart p s.buffer)
       else if d = true then ids (onPart p sent) else []) := by
  rw [← view_own (report_handle ..), handle_own]
  cases rsp with
  | verdicts v o1 o2 =>
    simp only [handleOwn, view_append, view_verdictOwn, onPart_onPart, ↓reduceIte, failsFor, stays]
    by_cases hf : 0 < max ∧ v p = .retriable ∧ onPart p sent ≠ []
    · simp [hf, view_append, view_retryMsgs, onPart_onPart]
    · -- `failsFor` asks for `onPart p sent ≠ []`, `stays` (of `view_verdictOwn`) does not: with nothing of `p` in the
      -- set both sides are empty
      by_cases he : onPart p sent = []
      · simp [he, ids]
      · have : ¬ (0 < max ∧ v p = .retriable) := fun x => hf ⟨x.1, x.2, he⟩
        simp [hf, this]
  | encErr o => simp [handleOwn, view_fail, failsFor, onPart_onPart]
  | connErr o1 o2 => simp [handleOwn, view_append, view_retryMsgs, failsFor, onPart_onPart]

theorem handle_reports_held {max : Nat} {s : St} {sent : List Tok} {rsp : Resp} {a : Action} {q : Int}
    (ha : a ∈ (handle max s sent rsp).2) (hq : isOwn q a = true) : ∃ t ∈ sent ++ s.buffer, t.part = q := by
  have hm := List.mem_filter.2 ⟨ha, hq⟩
  rw [handle_own] at hm
  refine Classical.byContradiction fun hn => ?_
  have nil : ∀ l : List Tok, (∀ t ∈ l, t ∈ sent ++ s.buffer) → onPart q l = [] := fun l hl =>
    onPart_eq_nil.2 fun t ht e => hn ⟨t, hl t ht, e⟩
  rw [nil sent fun _ => List.mem_append_left _, nil s.buffer fun _ => List.mem_append_right _, handleOwn_nil] at hm
  cases hm

theorem failsFor_held {max : Nat} {p : Int} {sent : List Tok} {rsp : Resp} (h : failsFor max p sent rsp)
    (hc : closes rsp = false) : onPart p sent ≠ [] := by
  cases rsp with
  | verdicts => exact h.2.2
  | encErr => exact h.elim
  | connErr => cases hc

theorem handle_out {r : Bool → Bool} {a : Bool} (max : Nat) (s : St) (sent : List Tok) (rsp : Resp) (p : Int)
    (hs : seen r (onPart p sent) = ids (onPart p sent)) (hb : seen r (onPart p s.buffer) = ids (onPart p s.buffer)) :
    view true r a p (handle max s sent rsp).2 ++ ids (onPart p (handle max s sent rsp).1.buffer) =
      ids (onPart p sent) ++ ids (onPart p s.buffer) := by
  rw [handle_view, handle_buffer, hs, hb]
  by_cases hf : failsFor max p sent rsp
  · rw [if_pos hf, if_pos hf]; exact List.append_nil _
  · rw [if_neg hf, if_neg hf]; rfl

/-- The state between handleResponse and the re-check: the buffer holds acceptable tokens only (the partitions newly
    refused were dropped); the held message is a data token, but its partition may be refused by now. -/
def Mid (x : St) : Prop := (∀ t ∈ x.buffer, Acc x t) ∧ ∀ t, x.wait = some t → t.kind = .data

/-- the outcomes of the re-check of waitForSpace (`recheck`): nothing is held (`free`); the held message belongs to a
    partition refused by now and is bounced (`bounce`); its partition is accepted and it stays held, the buffer being
    full still (`stay`), or goes into the buffer (`add`) -/
inductive RecheckCase (max : Nat) (x : St) (acts : List Action) : Bool → St × List Action → Prop
  | free {still} : x.wait = none → RecheckCase max x acts still ({ x with stale := false }, acts)
  | bounce {still t} : x.wait = some t → needsRetry x t.part = true →
      RecheckCase max x acts still ({ x with wait := none, stale := true }, acts ++ [retryMsg max t])
  | stay {t} : x.wait = some t → needsRetry x t.part = false → RecheckCase max x acts true (x, acts)
  | add {t} : x.wait = some t → needsRetry x t.part = false →
      RecheckCase max x acts false
        ({ x with wait := none, buffer := x.buffer ++ [t], stale := false }, acts ++ [.add t.id t.part])

theorem recheck_case (max : Nat) (x : St) (acts : List Action) (still : Bool) :
    RecheckCase max x acts still (recheck max x acts still) := by
  unfold recheck
  split
  · next hw => exact .free hw
  · next t hw =>
    split
    · next hn => exact .bounce hw hn
    · next hn =>
      cases still
      · exact .add hw (Bool.eq_false_iff.2 hn)
      · exact .stay hw (Bool.eq_false_iff.2 hn)

section
variable {max : Nat} {x : St} {acts : List Action} {still : Bool} {r : St × List Action}

theorem recheck_sets (c : RecheckCase max x acts still r) : r.1.sets = x.sets := by cases c <;> rfl

theorem recheck_own (c : RecheckCase max x acts still r) (h1 : x.sets.length ≤ 1) (hx : Mid x) : Own r.1 := by
  obtain ⟨hb, hw⟩ := hx
  cases c with
  | free w => exact ⟨h1, fun y hy => hb y (by simpa [w] using hy)⟩
  | bounce => exact ⟨h1, fun y hy => hb y (by simpa using hy)⟩
  | stay w n | add w n =>
    refine ⟨h1, fun y hy => ?_⟩
    simp only [w, Option.toList_some, Option.toList_none, List.append_nil, List.mem_append, List.mem_singleton] at hy
    exact hy.elim (hb y) (by rintro rfl; exact ⟨hw _ w, n⟩)

theorem recheck_fifo (c : RecheckCase max x acts still r) (hx : Mid x) (p : Int) :
    outData p r.2 ++ ids (onPart p (r.1.buffer ++ r.1.wait.toList)) =
      outData p acts ++ ids (onPart p (x.buffer ++ x.wait.toList)) := by
  obtain ⟨hb, hw⟩ := hx
  rw [outData_eq]
  cases c with
  | free w => simp [w]
  | @bounce _ t w n =>
    -- nothing of the held message's partition is in the buffer: the message leaves in its turn
    have : t.part = p → onPart p x.buffer = [] := fun e => onPart_eq_nil.2 fun y hy e' => by
      have := (hb y hy).2; rw [e', ← e, n] at this; cases this
    rw [view_append, show [retryMsg max t] = retryMsgs max [t] from rfl, view_retryMsgs, seen_data (fun y hy => by
      rw [(List.mem_singleton.1 (mem_onPart hy))]; exact hw t w)]
    by_cases e : t.part = p <;> simp [w, onPart_append, onPart_single, e, this, ids]
  | stay w => rfl
  | add w => simp [w, view_append, view_cons, pick]

theorem recheck_quiet (c : RecheckCase max x acts still r) {p : Int} (hn : needsRetry x p = true) :
    view false rt ad p r.2 = view false rt ad p acts ++ seen rt (onPart p x.wait.toList) ∧ needsRetry r.1 p = true := by
  have other : ∀ {t : Tok}, needsRetry x t.part = false → t.part ≠ p := fun n e => by rw [e, hn] at n; cases n
  have held : ∀ {t : Tok}, x.wait = some t → needsRetry x t.part = false →
      view false rt ad p acts = view false rt ad p acts ++ seen rt (onPart p x.wait.toList) := fun w n => by
    rw [w, Option.toList_some, seen_other rt (other n), List.append_nil]
  cases c with
  | free w => exact ⟨by rw [w]; exact (List.append_nil _).symm, hn⟩
  | @bounce _ t w => exact ⟨by rw [view_append, w]; exact congrArg _ (view_retryMsgs max [t]), hn⟩
  | stay w n => exact ⟨held w n, hn⟩
  | add w n => exact ⟨by rw [view_append, view_add_other (other n), List.append_nil]; exact held w n, hn⟩

theorem recheck_stale (c : RecheckCase max x acts still r) (h : r.1.stale = true) :
    x.stale = true ∨ x.wait.isSome = true ∧ r.1.wait = none := by
  cases c with
  | free | add => cases h
  | bounce w => exact Or.inr ⟨by simp [w], rfl⟩
  | stay => exact Or.inl h

end

theorem handle_mid (max : Nat) (s : St) (sent : List Tok) (rsp : Resp) (h : ∀ t ∈ s.buffer ++ s.wait.toList, Acc s t) :
    Mid (handle max s sent rsp).1 := by
  have f := handle_frame max s sent rsp
  refine ⟨fun t ht => ?_, fun t ht => (h t (by simp [f.2.1.symm.trans ht])).1⟩
  have hin := h t (List.mem_append_left _ (f.2.2 t ht))
  refine ⟨hin.1, ?_⟩
  rw [handle_needsRetry, hin.2, Bool.false_or, decide_eq_false_iff_not]
  intro hf
  have := handle_buffer max s sent rsp t.part
  rw [if_pos hf] at this
  exact onPart_eq_nil.1 this t ht rfl

/-- the case `cons` of `resp_own`, for any action list handed to the re-check: the idempotent worker's answer
    (Props/C05bp.lean) differs in that list only -/
theorem answer_own {max : Nat} {s : St} {sent : List Tok} {rest : List (List Tok)} (rsp : Resp) (still : Bool)
    (acts : List Action) (h : Own s) (hs : s.sets = sent :: rest) :
    Own (recheck max (handle max { s with sets := rest } sent rsp).1 acts still).1 := by
  refine recheck_own (recheck_case ..) ?_ (handle_mid max { s with sets := rest } sent rsp h.acc)
  have := h.one
  rw [hs] at this
  exact (handle_frame max { s with sets := rest } sent rsp).1 ▸ Nat.le_of_succ_le this

theorem resp_nil {max : Nat} {s : St} (r : Resp) (still : Bool) (hs : s.sets = []) :
    resp max s r still = (s, [.disabled]) := by
  simp only [resp, hs]

theorem resp_cons {max : Nat} {s : St} {sent : List Tok} {rest : List (List Tok)} (r : Resp) (still : Bool)
    (hs : s.sets = sent :: rest) :
    resp max s r still =
      recheck max (handle max { s with sets := rest } sent r).1 (handle max { s with sets := rest } sent r).2 still := by
  simp only [resp, hs]

theorem resp_sets (max : Nat) {s : St} {sent : List Tok} {rest : List (List Tok)} (r : Resp) (still : Bool)
    (hs : s.sets = sent :: rest) : (resp max s r still).1.sets = rest := by
  rw [resp_cons r still hs]
  exact (recheck_sets (recheck_case ..)).trans (handle_frame max { s with sets := rest } sent r).1

theorem resp_own (max : Nat) (s : St) (rsp : Resp) (still : Bool) (h : Own s) : Own (resp max s rsp still).1 := by
  cases hs : s.sets with
  | nil => rw [resp_nil rsp still hs]; exact h
  | cons sent rest => rw [resp_cons rsp still hs]; exact answer_own rsp still _ h hs

theorem resp_stale (max : Nat) (s : St) (r : Resp) (still : Bool) (h : (resp max s r still).1.stale = true) :
    s.stale = true ∨ s.wait.isSome = true ∧ (resp max s r still).1.wait = none := by
  cases hs : s.sets with
  | nil => rw [resp_nil r still hs] at h; exact Or.inl h
  | cons sent rest =>
    rw [resp_cons r still hs] at h ⊢
    have f : _ = s.wait := (handle_frame max { s with sets := rest } sent r).2.1
    exact (recheck_stale (recheck_case ..) h).imp (handle_stale max { s with sets := rest } sent r).symm.trans
      (And.imp_left fun e => f ▸ e)

theorem resp_fifo (max : Nat) (s : St) (r : Resp) (still : Bool) (h : PInv s) :
    (∀ p, outData p (resp max s r still).2 ++ ids (onPart p (inside (resp max s r still).1)) = ids (onPart p (inside s))) ∧
    PInv (resp max s r still).1 := by
  have ho := resp_own max s r still h.own
  cases hs : s.sets with
  | nil => rw [resp_nil r still hs]; exact ⟨fun _ => List.nil_append _, h⟩
  | cons sent rest =>
    have := h.one
    rw [hs] at this
    cases List.eq_nil_of_length_eq_zero (Nat.eq_zero_of_le_zero (Nat.le_of_succ_le_succ this))
    rw [resp_cons r still hs] at ho ⊢
    have f := handle_frame max { s with sets := [] } sent r
    have f2 : _ = s.wait := f.2.1
    have c := recheck_case max (handle max { s with sets := [] } sent r).1 (handle max { s with sets := [] } sent r).2 still
    have e : _ = [] := (recheck_sets c).trans f.1
    refine ⟨fun p => ?_, ho.pinv (by rw [e]; exact fun _ h => nomatch h)⟩
    have := recheck_fifo c (handle_mid max { s with sets := [] } sent r h.own.acc) p
    have hf := handle_out (r := (!·)) (a := false) max { s with sets := [] } sent r p
      (seen_data fun t ht => h.data t (mem_inside.2 (.inl (hs ▸ List.mem_flatten_of_mem (.head _) (mem_onPart ht)))))
      (seen_data fun t ht => h.data t (mem_inside.2 (.inr (List.mem_append_left _ (mem_onPart ht)))))
    -- with `inside` written out as set ++ buffer ++ held message: the re-check (`this`) after handleResponse (`hf`)
    simp only [outData_eq, inside, e, hs, f2, onPart_append, ids, List.map_append, List.flatten_nil, List.nil_append,
      List.flatten_cons, List.append_nil, ← List.append_assoc] at this hf ⊢
    rw [this, hf]

/-- an answer seen from a partition `p` that is refused already or fails with it, in a view without outcomes: its part
    of the set and the buffer (if it fails) and of the held token goes to retryMessage, nothing of it is added, and `p`
    is refused afterwards; behind `resp_quiet` and the run-level statements of Props/C02bp.lean on a failed partition -/
theorem resp_refused (max : Nat) (s : St) (sent : List Tok) (rest : List (List Tok)) (r : Resp) (still : Bool)
    (p : Int) (hs : s.sets = sent :: rest) (hn : needsRetry s p = true ∨ failsFor max p sent r) :
    view false rt ad p (resp max s r still).2 =
      seen rt (onPart p ((if failsFor max p sent r then sent ++ s.buffer else []) ++ s.wait.toList)) ∧
    needsRetry (resp max s r still).1 p = true := by
  rw [resp_cons r still hs]
  have hv := handle_view (d := false) (r := rt) (a := ad) max { s with sets := rest } sent r p
  have hx : needsRetry (handle max { s with sets := rest } sent r).1 p = true := by
    rw [handle_needsRetry]
    exact Bool.or_eq_true_iff.2 (hn.imp id decide_eq_true)
  obtain ⟨b, n⟩ := recheck_quiet (recheck_case max _ (handle max { s with sets := rest } sent r).2 still) hx
  refine ⟨?_, n⟩
  rw [b, hv, (handle_frame max { s with sets := rest } sent r).2.1, seen_part_append]
  by_cases hf : failsFor max p sent r
  · rw [if_pos hf, if_pos hf, seen_part_append]
  · rw [if_neg hf, if_neg hf]; rfl

/-- a response while partition `p` is refused: nothing of `p` is inside, so nothing of it happens -/
theorem resp_quiet (max : Nat) (s : St) (r : Resp) (still : Bool) (p : Int) (h : PInv s) (hn : needsRetry s p = true)
    :
    view false rt ad p (resp max s r still).2 = [] ∧ needsRetry (resp max s r still).1 p = true := by
  cases hs : s.sets with
  | nil => rw [resp_nil r still hs]; exact ⟨rfl, hn⟩
  | cons sent rest =>
    obtain ⟨a, b⟩ := resp_refused max s sent rest r still p hs (Or.inl hn) (rt := rt) (ad := ad)
    refine ⟨a.trans ?_, b⟩
    have q := h.quiet p hn
    simp only [inside, hs, List.flatten_cons, onPart_append, List.append_eq_nil_iff] at q
    rw [onPart_append, q.2]
    by_cases hf : failsFor max p sent r
    · rw [if_pos hf, onPart_append, q.1.1.1, q.1.2]; rfl
    · rw [if_neg hf]; rfl

theorem retryMsg_requeue {max : Nat} {t : Tok} {id p : Int} {n : Nat} {f : Bool}
    (h : retryMsg max t = .requeue id p n f) : p = t.part ∧ n = t.retries + 1 ∧ t.retries < max := by
  by_cases hm : t.retries ≥ max
  · cases (if_pos hm).symm.trans h
  · cases (if_neg hm).symm.trans h; exact ⟨rfl, rfl, Nat.not_le.1 hm⟩

section
variable {max : Nat} {s : St} {id p : Int} {n : Nat} {f : Bool}

theorem not_requeue {ad : Bool} {as : List Action} (h : view false (fun _ => true) ad p as = []) :
    Action.requeue id p n f ∉ as := fun m =>
  have e : pick false (fun _ => true) ad p (.requeue id p n f) = some id := if_pos rfl
  nomatch e.symm.trans (List.filterMap_eq_nil_iff.1 h _ m)

/-- read off `handle_own` at the partition of the re-queued token: the first pass reports successes and failures only -/
theorem handle_requeue {sent : List Tok} {rsp : Resp} (ha : Action.requeue id p n f ∈ (handle max s sent rsp).2) :
    ∃ t ∈ sent ++ s.buffer, retryMsg max t = .requeue id p n f := by
  have hm : _ ∈ (handle max s sent rsp).2.filter (isOwn p) := List.mem_filter.2 ⟨ha, isOwn_iff.2 rfl⟩
  rw [handle_own] at hm
  have h : .requeue id p n f ∈ retryMsgs max (onPart p (sent ++ s.buffer)) := by
    rw [onPart_append, retryMsgs, List.map_append]
    cases rsp with
    | verdicts v o1 o2 =>
      -- the outcomes of the first pass (`verdictOwn`) are invisible to a view that reports neither success nor failure
      refine (List.mem_append.1 hm).elim (fun h => absurd h (not_requeue (ad := false) ?_)) fun h =>
        (List.mem_ite_nil_right.1 h).2
      exact (view_verdictOwn max (v p) _).trans (if_neg fun x => Bool.false_ne_true x.1)
    | encErr o => exact absurd hm (not_requeue (ad := false) ((view_fail _).trans (if_neg Bool.false_ne_true)))
    | connErr o1 o2 => exact hm
  obtain ⟨t, ht, e⟩ := List.mem_map.1 h
  exact ⟨t, mem_onPart ht, e⟩

theorem recheck_frame {x : St} {acts : List Action} {still : Bool} {r : St × List Action}
    (c : RecheckCase max x acts still r) :
    r.1.cr = x.cr ∧ (∀ y ∈ r.1.buffer ++ r.1.wait.toList, y ∈ x.buffer ++ x.wait.toList) ∧
    ∀ a ∈ r.2, a ∈ acts ∨ ∃ t, x.wait = some t ∧ (a = retryMsg max t ∨ a = .add t.id t.part) := by
  cases c with
  | free | stay => exact ⟨rfl, fun _ h => h, fun _ h => .inl h⟩
  | @bounce _ t hw =>
    exact ⟨rfl, fun y h => List.mem_append_left _ ((List.mem_append.1 h).elim id fun m => absurd m List.not_mem_nil),
      fun a h => (List.mem_append.1 h).imp_right fun m => ⟨t, hw, .inl (List.mem_singleton.1 m)⟩⟩
  | @add t hw =>
    refine ⟨rfl, fun y h => ?_, fun a h =>
      (List.mem_append.1 h).imp_right fun m => ⟨t, hw, .inr (List.mem_singleton.1 m)⟩⟩
    rw [hw]; exact (List.mem_append.1 h).elim id fun m => absurd m List.not_mem_nil

/-- the case `resp` of `step_requeue`, `step_inside`, `step_cr` -/
theorem resp_tokens (max : Nat) (s : St) (rsp : Resp) (still : Bool) :
    (∀ {id p n f}, Action.requeue id p n f ∈ (resp max s rsp still).2 →
      ∃ t ∈ inside s, retryMsg max t = .requeue id p n f) ∧
    (∀ x ∈ inside (resp max s rsp still).1, x ∈ inside s) ∧
    ∀ p, (∀ t ∈ inside s, t.part ≠ p) → (resp max s rsp still).1.cr p = s.cr p := by
  cases hs : s.sets with
  | nil =>
    rw [resp_nil rsp still hs]
    exact ⟨fun ha => absurd ha (not_requeue (ad := false) rfl), fun _ h => h, fun _ _ => rfl⟩
  | cons sent rest =>
    have held : ∀ t ∈ sent ++ s.buffer, t ∈ inside s := fun t ht =>
      (List.mem_append.1 ht).elim (fun m => mem_inside.2 (.inl (hs ▸ List.mem_flatten_of_mem (.head _) m)))
        fun m => mem_inside.2 (.inr (List.mem_append_left _ m))
    rw [resp_cons rsp still hs]
    have c := recheck_case max (handle max { s with sets := rest } sent rsp).1
      (handle max { s with sets := rest } sent rsp).2 still
    obtain ⟨c1, c2, c3⟩ := recheck_frame c
    obtain ⟨f1, f2, f3⟩ := handle_frame max { s with sets := rest } sent rsp
    refine ⟨fun ha => ?_, fun x hx => ?_, fun p hin => ?_⟩
    · -- re-queued by handleResponse, or the held message by the re-check
      rcases c3 _ ha with m | ⟨t, w, e⟩
      · obtain ⟨t, ht, e⟩ := handle_requeue m
        exact ⟨t, held t ht, e⟩
      · exact ⟨t, mem_inside.2 (.inr (List.mem_append_right _ (Option.mem_toList.2 (f2 ▸ w)))),
          (e.resolve_right fun e => nomatch e).symm⟩
    · rcases mem_inside.1 hx with m | m
      · rw [recheck_sets c, f1] at m
        exact mem_inside.2 (.inl (hs ▸ List.mem_flatten.2 ((List.mem_flatten.1 m).imp fun _ k => ⟨.tail _ k.1, k.2⟩)))
      · have m := c2 x m
        rw [f2] at m
        exact mem_inside.2 (.inr (List.mem_append.2 ((List.mem_append.1 m).imp_left (f3 x))))
    · -- a partition is newly marked only if the answered set holds something of it
      rw [c1, handle_state]
      have nf : closes rsp = false → ¬ failsFor max p sent rsp := fun hc hf =>
        failsFor_held hf hc (onPart_eq_nil.2 fun t ht => hin t (held t (List.mem_append_left _ ht)))
      cases hc : closes rsp
      · exact (congrArg (s.cr p || ·) (decide_eq_false (nf hc))).trans (Bool.or_false _)
      · exact Bool.or_false _

theorem handover_cr {r : St × List Action} (c : HandoverCase s r) :
    r.1.cr = s.cr ∧ ∀ q, view false (fun _ => true) false q r.2 = [] := by
  cases c with
  | _ => exact ⟨rfl, fun _ => rfl⟩

theorem mem_arrived {i : In} {x : Tok} (h : x ∈ arrived s i) : ∃ ov, i = .recv x ov := by
  cases i with
  | recv t ov =>
    have h := (List.mem_ite_nil_left.1 (List.mem_ite_nil_left.1 h).2).2
    exact ⟨ov, by rw [List.mem_singleton.1 h]⟩
  | _ => exact absurd h List.not_mem_nil

/-- every token a step re-queues is one the worker held or took -/
theorem step_requeue {i : In} (ha : Action.requeue id p n f ∈ (step max s i).2) :
    ∃ t ∈ inside s ++ arrived s i, retryMsg max t = .requeue id p n f := by
  cases i with
  | recv t ov =>
    rcases recv_inside (recv_case max s t ov) with ⟨e, ea, _⟩ | ⟨v, _⟩
    · rw [show (step max s (.recv t ov)).2 = _ from e] at ha
      refine ⟨t, List.mem_append_right _ (ea ▸ List.mem_singleton.2 rfl), ?_⟩
      rcases List.mem_cons.1 ha with h | h
      · cases h
      · exact (List.mem_singleton.1 h).symm
    · exact absurd ha (not_requeue (v false _ p))
  | handover => exact absurd ha (not_requeue ((handover_cr (handover_case s)).2 p))
  | resp rsp still =>
    obtain ⟨t, ht, e⟩ := (resp_tokens max s rsp still).1 ha
    exact ⟨t, List.mem_append_left _ ht, e⟩

theorem step_inside {i : In} {x : Tok} (hx : x ∈ inside (step max s i).1) : x ∈ inside s ++ arrived s i := by
  cases i with
  | recv t ov =>
    rcases recv_inside (recv_case max s t ov) with ⟨_, _, e, _⟩ | ⟨_, e, _⟩
    · exact List.mem_append_left _ (e ▸ hx)
    · exact e ▸ hx
  | handover =>
    rcases handover_frame (handover_case s) with ⟨e, _⟩ | e
    · exact List.mem_append_left _ (e ▸ hx)
    · rw [show step max s .handover = _ from e] at hx; exact List.mem_append_left _ hx
  | resp rsp still => exact List.mem_append_left _ ((resp_tokens max s rsp still).2.1 x hx)

/-- a step changes the retry mark of a partition only if it holds a token of it (a response can fail the partitions
    of the answered set) or takes one (its syn or fin clears the mark; `arrived` leaves the syn out) -/
theorem step_cr {i : In} (hin : ∀ t ∈ inside s, t.part ≠ p) (hi : ∀ t ov, i = .recv t ov → t.part ≠ p) :
    (step max s i).1.cr p = s.cr p := by
  cases i with
  | recv t ov =>
    have e : setCr s.cr t.part false p = s.cr p := if_neg (Ne.symm (hi t ov rfl))
    rw [recv_eq]
    cases recvDo s t ov with
    | ack => exact e
    | bounce c =>
      cases c
      · rfl
      · exact e
    | _ => rfl
  | handover => exact congrFun (handover_cr (handover_case s)).1 p
  | resp rsp still => exact (resp_tokens max s rsp still).2.2 p hin

end
end Props.C02bp

namespace Lemmas.C02sys
open Model.BrokerProd
open Props.C02bp (RecvCase recv_case HandoverCase handover_case recheck_case)

/-- no action of the list is `disabled`, by which `step` refuses an input; said of what `handle` and `recheck` answer -/
def NoDis (l : List Action) : Prop := ∀ a ∈ l, a ≠ Action.disabled

theorem NoDis.append {a b : List Action} (ha : NoDis a) (hb : NoDis b) : NoDis (a ++ b) :=
  List.forall_mem_append.2 ⟨ha, hb⟩

theorem NoDis.ne {l : List Action} (h : NoDis l) : l ≠ [Action.disabled] := by
  intro e; subst e; exact h _ (List.mem_singleton.2 rfl) rfl

theorem retryMsg_ne (M : Nat) (t : Tok) : retryMsg M t ≠ Action.disabled := by
  simp only [retryMsg]; split <;> simp

theorem noDis_handle (M : Nat) (s : St) (sent : List Tok) (r : Resp) : NoDis (handle M s sent r).2 := fun a ha e => by
  have := List.all_eq_true.1 (Props.C02bp.report_handle M s sent r) a ha
  rw [e] at this; cases this

theorem noDis_recheck (M : Nat) (s : St) (acts : List Action) (still : Bool) (h : NoDis acts) :
    NoDis (recheck M s acts still).2 := fun a ha =>
  ((Props.C02bp.recheck_frame (recheck_case M s acts still)).2.2 a ha).elim (h a) fun ⟨t, _, e⟩ =>
    e.elim (fun e => e ▸ retryMsg_ne M t) fun e => e ▸ fun x => nomatch x

theorem resp_enabled (M : Nat) (b : St) (r : Resp) (still : Bool) (h : b.sets ≠ []) :
    (step M b (.resp r still)).2 ≠ [Action.disabled] := by
  obtain ⟨sent, rest, hs⟩ := List.exists_cons_of_ne_nil h
  rw [show step M b (.resp r still) = _ from Props.C02bp.resp_cons r still hs]
  exact (noDis_recheck _ _ _ _ (noDis_handle _ _ _ _)).ne

theorem recv_enabled (M : Nat) (b : St) (t : Tok) (ov : Bool) (hw : b.wait = none) :
    (step M b (.recv t ov)).2 ≠ [Action.disabled] := by
  obtain ⟨r, a, hr, c⟩ : ∃ r a, step M b (.recv t ov) = r ∧ RecvCase M b t ov r a := ⟨_, _, rfl, recv_case ..⟩
  rw [hr]
  cases c with
  | busy h => rw [hw] at h; cases h
  | _ => intro e; cases e

theorem recv_disabled (M : Nat) (b : St) (t : Tok) (ov : Bool) (h : (step M b (.recv t ov)).2 ≠ [Action.disabled]) :
    b.wait = none := by
  obtain ⟨r, a, hr, c⟩ : ∃ r a, step M b (.recv t ov) = r ∧ RecvCase M b t ov r a := ⟨_, _, rfl, recv_case ..⟩
  rw [hr] at h
  cases c with
  | busy => exact absurd rfl h
  | syn hw | bounce hw | reopen hw | hold hw | add hw => exact hw

theorem handover_enabled (M : Nat) (b : St) (hs : b.sets = []) (h : b.wait ≠ none ∨ b.buffer ≠ []) :
    (step M b .handover).2 ≠ [Action.disabled] := by
  obtain ⟨r, hr, c⟩ : ∃ r, step M b .handover = r ∧ HandoverCase b r := ⟨_, rfl, handover_case b⟩
  rw [hr]
  cases c with
  | idle hi =>
    rcases hi with hi | ⟨hw, he⟩
    · exact absurd hs hi
    · exact absurd (List.isEmpty_iff.1 (Bool.and_eq_true _ _ ▸ he).1) (h.resolve_left (absurd hw))
  | take | takeHeld => intro e; cases e

end Lemmas.C02sys
