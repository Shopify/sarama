/-
  C02 composition: `Base`, the facts that hold in EVERY run of `Model.Pipeline` (any number of workers, whatever the
  look-ups name), proved from `Step` alone; no view and no invariant of a scope enters, and the invariants of the
  single worker, of the hand-over chain and of the re-selected workers take them as given: each component keeps
  its own invariant (`Props.C02bp.PInv`, `Props.C02.PPInv`), an answer is prepared only for the one set at the bridge,
  all tokens are of partition 0 (`P0Inv`, Lemmas/C02splitInv.lean), and the retry levels in front of the partition
  producer are within the budget (`lvl_step`: what a worker bounces, in any state, comes back one level up and only
  within the budget, `step_ret`).  No bound on `M` is needed.
-/
import SaramaVerif.Lemmas.C02splitInv
import SaramaVerif.Props.C02bp

namespace Lemmas.C02sys
open Model Model.Pipeline Model.BrokerProd

/-- the invariant of every run, with no condition on the choices; `pend`: an answer is prepared only while a set is at
    the bridge; `lvl`, `ret1`: the retry levels on the way back to the partition producer -/
structure Base (M : Nat) (s : Sys) : Prop where
  pinv  : ∀ w, Props.C02bp.PInv (s.wk w).bp
  ppinv : Props.C02.PPInv s.pp
  pend  : ∀ w vd base, (s.wk w).pend = some (vd, base) → ∃ sent, (s.wk w).bp.sets = [sent]
  p0    : P0Inv s
  lvl   : ∀ t ∈ s.pq ++ s.dq ++ s.ret, t.retries ≤ M
  ret1  : ∀ t ∈ s.ret, 1 ≤ t.retries

theorem Base.typed {M : Nat} {s : Sys} (h : Base M s) : ∀ l, ∀ t ∈ s.pp.bufs l, t.fin = false :=
  fun l t ht => (h.ppinv.typed l t ht).2

theorem base_init (M : Nat) : Base M {} :=
  ⟨fun _ => Props.C02bp.init_inv, Props.C02.init_inv, fun _ _ _ e => (nomatch e), p0Inv_init, fun _ h => (nomatch h),
    fun _ h => (nomatch h)⟩

/-- a worker changes by a step of `BrokerProd` or, holding nothing, by being closed -/
theorem pinv_step {M : Nat} {s s' : Sys} {c : Choice} {w : Nat} (hp : Props.C02bp.PInv (s.wk w).bp)
    (hs : Step M s c s') : Props.C02bp.PInv (s'.wk w).bp := by
  cases hs with
  | ppRecv lks => rw [(ppActs_grows ..).bp]; exact hp
  | @worker u _ _ _ _ i =>
    exact setW_ind (P := fun x => Props.C02bp.PInv x.bp) w (fun e => (Props.C02bp.step_fifo M _ i (e ▸ hp)).2) hp
  | @broker u => exact setW_ind (P := fun x => Props.C02bp.PInv x.bp) w (fun e => e ▸ hp) hp
  | @closeW u hg =>
    obtain ⟨_, _, _, _, h1, h2, h3, _⟩ := canClose_facts hg
    refine setW_ind (P := fun x => Props.C02bp.PInv x.bp) w (fun e => ?_) hp
    subst e
    exact ⟨hp.one, hp.data, fun _ _ => by simp [closeBp, Props.C02bp.inside, h1, h2, h3, onPart]⟩
  | _ => exact hp

theorem pend_step {M : Nat} {s s' : Sys} {c : Choice} {w : Nat} (hp : Props.C02bp.PInv (s.wk w).bp)
    (h : ∀ vd base, (s.wk w).pend = some (vd, base) → ∃ sent, (s.wk w).bp.sets = [sent]) (hs : Step M s c s') :
    ∀ vd base, (s'.wk w).pend = some (vd, base) → ∃ sent, (s'.wk w).bp.sets = [sent] := by
  have setw := fun u (x : Worker) (hx : w = u → ∀ vd base, x.pend = some (vd, base) → ∃ sent, x.bp.sets = [sent]) =>
    setW_ind (P := fun x => ∀ vd base, x.pend = some (vd, base) → ∃ sent, x.bp.sets = [sent]) (f := s.wk) w hx h
  cases hs with
  | ppRecv lks => obtain ⟨_, _, e⟩ := (ppActs_grows ..).wk w; rw [e]; exact h
  | @worker u _ q pend off i hf hd =>
    refine setw u _ (fun e vd base hpd => ?_)
    subst e
    cases hf with
    | @recv t r ov hq =>
      obtain ⟨sent, e⟩ := h vd base hpd
      exact ⟨sent, (Props.C02bp.recv_frame (Props.C02bp.recv_case M _ t ov)).1.trans e⟩
    | handover =>
      -- the bridge is taken while an answer is prepared: no hand-over
      obtain ⟨sent, e⟩ := h vd base hpd
      exact absurd (e.symm.trans (Props.C02bp.handover_eq M _ hd).1) (List.cons_ne_nil _ _)
    | deliver still _ => cases hpd
  | @broker u v sent rest hsets =>
    refine setw u _ (fun e _ _ _ => ⟨sent, ?_⟩)
    subst e
    have := hp.one
    rw [hsets] at this ⊢
    cases rest with
    | nil => rfl
    | cons => simp at this
  | @closeW u => exact setw u _ (fun _ _ _ e => nomatch e)
  | _ => exact h

theorem lvl_step {M : Nat} {s s' : Sys} {c : Choice} (hl : ∀ t ∈ s.pq ++ s.dq ++ s.ret, t.retries ≤ M)
    (hr : ∀ t ∈ s.ret, 1 ≤ t.retries) (st : Step M s c s') :
    (∀ t ∈ s'.pq ++ s'.dq ++ s'.ret, t.retries ≤ M) ∧ ∀ t ∈ s'.ret, 1 ≤ t.retries := by
  have lv : ∀ {b : St} {i : In} {x : Tok}, x ∈ actRet (step M b i).2 → 1 ≤ x.retries ∧ x.retries ≤ M := fun hm => by
    obtain ⟨t, _, _, e, h⟩ := step_ret hm
    exact e ▸ ⟨Nat.succ_le_succ (Nat.zero_le _), h⟩
  refine ⟨fun x hx => ?_, ?_⟩
  · rcases st.front hx with h1 | rfl | ⟨_, _, _, _, _, _, _, hm⟩
    · exact hl x h1
    · exact Nat.zero_le _
    · exact (lv hm).2
  · cases st with
    | retryOut hq => exact fun t ht => hr t (hq ▸ List.mem_cons_of_mem _ ht)
    | ppRecv lks => rw [(ppActs_grows ..).ret]; exact hr
    | worker => exact fun t ht => (List.mem_append.1 ht).elim (hr t) fun hm => (lv hm).1
    | _ => exact hr

theorem base_step {M : Nat} {s s' : Sys} {c : Choice} (h : Base M s) (hs : sysStep M s c = some s') :
    Base M s' := by
  have st := step_iff.1 hs
  refine ⟨fun w => pinv_step (h.pinv w) st, ?_, fun w => pend_step (h.pinv w) (h.pend w) st, p0Inv_step h.p0 hs,
    (lvl_step h.lvl h.ret1 st).1, (lvl_step h.lvl h.ret1 st).2⟩
  -- the partition producer's state changes by `PartProd.recv` only, which keeps its invariant (Props/C02.lean)
  cases st with
  | ppRecv lks => rw [(ppActs_grows ..).pp]; exact (Props.C02.recv_level _ _ h.ppinv 0).2
  | _ => exact h.ppinv

end Lemmas.C02sys
