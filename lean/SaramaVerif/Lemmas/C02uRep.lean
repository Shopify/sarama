/-
  C02 composition: the ordering invariant `GoodU M K s olds l v` of the runs in which every leader look-up names a
  fresh worker or the worker the partition producer was bound to last.  The single worker (`Good`: `olds = []`,
  `l = 0`; `Good.toU`, `GoodU.good`) and the runs from the initial state (`GoodC`, Lemmas/C02uChain.lean) are its two
  instances.

  The parameters.  `l` is the worker the partition producer is bound to, or was bound to last: its whole input channel
  is read by `WRep` (Lemmas/C02sysRep.lean; all four phases; in `reopen` its chaser is still queued: it was left, or
  left and selected again).  `olds` are the workers left before it, oldest first, which only drain (`OldU`).  `v` is
  the view (Lemmas/C02sysView.lean) the state is read as (`RepU`):
      v.gw = what `l` holds and is going to accept
      v.av = pp.input ++ p.input ++ retries ++ lanes of the old workers ++ what `l` is going to bounce
  `K : Prop` switches the clauses that only a run with hand-overs has (see `GoodU`).

  Why it is kept.  A bounced token jumps to the left over the lanes in front of it (`VInv.moveBlock`,
  Lemmas/C02uLanes.lean); that keeps `VInv` because the tokens still to be bounced lie in level bands (`Rb`, `Bd`):
  behind a chaser everything is at a higher level, in front of it nothing is above it.

  The clauses: `RepU` (the tie, with the bands), `VInv`, `ConcU` (side conditions of `l` and the old workers), `LogInvU`
  (the log clauses `LogCore`, Lemmas/C02sysLog.lean, and the answer prepared for `l`).  Some step lemmas also read facts
  that hold in every run whatever the look-ups name: `BaseU`, a hypothesis of those lemmas and not a clause of `GoodU`.
  A run from the initial state has it from `Base` (Lemmas/C02base.lean; `Base.toU`); a step keeps it from any state
  (`baseU_step`).
-/
import SaramaVerif.Lemmas.C02uLanes
import SaramaVerif.Lemmas.C02base
import SaramaVerif.Lemmas.C02sysLog

namespace Lemmas.C02sys
open Model Model.Pipeline

variable {M : Nat} {K : Prop} {s s' : Sys} {olds : List Nat} {l : Nat} {v v' : View}

/-- `a` is to be bounced before `c` (levels as they will be after the bounce): behind a chaser everything is
    higher, in front of a chaser nothing is above it (equality: the data of a level stand in front of its chaser) -/
def Rb (a c : Tok) : Prop := (a.kind = .fin → a.retries < c.retries) ∧ (c.kind = .fin → a.retries ≤ c.retries)

/-- the bands of the lanes `Y` of the old workers and of what `l` is going to bounce (`Z`) -/
structure Bd (K : Prop) (Y Z : List Tok) : Prop where
  -- within and between the lanes of the old workers
  old   : Y.Pairwise Rb
  -- every old worker's lane against what `l` is going to bounce
  cross : ∀ a ∈ Y, ∀ c ∈ Z, Rb a c
  -- inside what `l` is going to bounce
  own   : K → Z.Pairwise Rb

theorem Bd.nil (K : Prop) : Bd K [] [] := ⟨.nil, (fun _ h => nomatch h), fun _ => .nil⟩

theorem Bd.sub {Y Y' Z Z' : List Tok} (h : Bd K Y Z) (hY : Y'.Sublist Y) (hZ : Z'.Sublist Z) : Bd K Y' Z' :=
  ⟨h.old.sublist hY, fun a ha c hc => h.cross a (hY.subset ha) c (hZ.subset hc), fun hb => (h.own hb).sublist hZ⟩

theorem Bd.app {Y Z N : List Tok} (h : Bd K Y Z) (hN : N.Pairwise Rb) (hx : ∀ a ∈ Y ++ Z, ∀ c ∈ N, Rb a c) :
    Bd K Y (Z ++ N) :=
  ⟨h.old, fun a ha c hc => (List.mem_append.1 hc).elim (h.cross a ha c) (hx a (List.mem_append_left _ ha) c),
    fun hb => List.pairwise_append.2 ⟨h.own hb, hN, fun a ha c hc => hx a (List.mem_append_right _ ha) c hc⟩⟩

theorem Bd.toOld {K' : Prop} {Y Z : List Tok} (h : Bd K Y Z) (hK : K) : Bd K' (Y ++ Z) [] :=
  ⟨List.pairwise_append.2 ⟨h.old, h.own hK, h.cross⟩, (fun _ _ _ hc => nomatch hc), fun _ => .nil⟩

/-- an old worker: nothing inside, and it only drains: its channel is empty, or ends with the chaser, and until then
    the worker refuses the partition - a closing worker whatever it takes, another one as long as it takes data -/
def OldU (M : Nat) (s : Sys) (w : Nat) : Prop :=
  insW s w = [] ∧ ((s.wk w).inq = [] ∨ ∃ q k, (s.wk w).inq = q ++ [finTok k] ∧ k < M ∧
    ((s.wk w).bp.closing = true ∨ ((s.wk w).bp.cr 0 = true ∧ AllData q)))

theorem OldU.ends {w : Nat} (h : OldU M s w) :
    lane M s w = [] ∨ ∃ A k, lane M s w = A ++ [finTok (k + 1)] := by
  rcases h.2 with e | ⟨q, k, e, hk, _⟩
  · exact .inl (lane_nil e)
  · exact .inr ⟨bumpF M (nosynq q), k, by
      rw [lane, e, nosynq_append, bumpF_append, show nosynq [finTok k] = [finTok k] from rfl, bumpF_fin M k hk]⟩

theorem lanes_cover {pre : List Nat} {Z : List Tok} (hok : ∀ u ∈ pre, OldU M s u)
    (hp : (lanes M s pre ++ Z).Pairwise Rb) :
    ∀ y ∈ lanes M s pre, ∃ f ∈ lanes M s pre, f.kind = .fin ∧ y.retries ≤ f.retries ∧ ∀ c ∈ Z, f.retries < c.retries := by
  induction pre with
  | nil => exact fun _ hy => nomatch hy
  | cons u r ih =>
    intro y hy
    rw [lanes_cons] at hy hp ⊢
    rw [List.append_assoc] at hp
    obtain ⟨h1, h2, h3⟩ := List.pairwise_append.1 hp
    rcases List.mem_append.1 hy with hy | hy
    · rcases (hok u (List.mem_cons_self ..)).ends with e | ⟨A, k, e⟩
      · rw [e] at hy; cases hy
      · have hf : finTok (k + 1) ∈ lane M s u := by rw [e]; simp
        refine ⟨finTok (k + 1), List.mem_append_left _ hf, rfl, ?_,
          fun c hc => (h3 _ hf c (List.mem_append_right _ hc)).1 rfl⟩
        rw [e] at hy h1
        rcases List.mem_append.1 hy with hy | hy
        · exact ((List.pairwise_append.1 h1).2.2 y hy _ (List.mem_singleton_self _)).2 rfl
        · rw [List.mem_singleton.1 hy]; exact Nat.le_refl _
    · obtain ⟨f, hf, a1, a2, a3⟩ := ih (fun x hx => hok x (List.mem_cons_of_mem _ hx)) h2 y hy
      exact ⟨f, List.mem_append_right _ hf, a1, a2, a3⟩

/-- the premises of `VInv.moveBlock` for a block `B` that jumps over lanes `Y` -/
theorem jump_facts (hv : VInv v) {Y B : List Tok} (hY : ∀ y ∈ Y, y ∈ v.av)
    (hc : ∀ y ∈ Y, ∃ f ∈ Y, f.kind = .fin ∧ y.retries ≤ f.retries ∧ ∀ c ∈ B, f.retries < c.retries) :
    (∀ c ∈ B, (isData c = true → ∀ y ∈ data Y, y.retries ≠ c.retries) ∧
      (c.kind = .fin → ∀ y ∈ data Y, Cov v.pp.expect c y)) ∧ ∀ y ∈ data Y, y.retries ≤ v.pp.hwm := by
  have key : ∀ y ∈ data Y, ∃ j, y.retries ≤ j ∧ j ≤ v.pp.hwm ∧ v.pp.expect j = true ∧ ∀ c ∈ B, j < c.retries :=
    fun y hy => by
      obtain ⟨f, hf, hk, a2, a3⟩ := hc y (mem_data.1 hy).1
      have := hv.fin1 f (hY f hf) hk
      exact ⟨f.retries, a2, this.2.1, this.2.2, a3⟩
  refine ⟨fun c hcB => ⟨fun _ y hy => ?_, fun _ y hy _ _ => ?_⟩, fun y hy => ?_⟩
  · obtain ⟨j, a1, _, _, a4⟩ := key y hy
    exact Nat.ne_of_lt (Nat.lt_of_le_of_lt a1 (a4 c hcB))
  · obtain ⟨j, a1, _, a3, a4⟩ := key y hy
    exact .inr (.inr ⟨j, a4 c hcB, a3, a1⟩)
  · obtain ⟨j, a1, a2, _, _⟩ := key y hy
    exact Nat.le_trans a1 a2

def RepU (M : Nat) (K : Prop) (s : Sys) (olds : List Nat) (l : Nat) (v : View) : Prop :=
  ∃ gw tl g, WRep M l s.cur (s.wk l).inq (s.wk l).bp.closing ((s.wk l).bp.cr 0) (insW s l) gw tl g ∧
    v = ⟨s.pp, gw, s.pq ++ s.dq ++ s.ret ++ (lanes M s olds ++ tl), g⟩ ∧ Bd K (lanes M s olds) tl

/-- bound to no worker, a worker holds nothing and what it is going to bounce is its `lane`: it reads as an old worker -/
theorem WRep.tl_lane {me : Nat} {cur : Option Nat} {inq : List Tok} {cl cr : Bool} {I gw tl : List Tok} {g : Bool}
    (h : WRep M me cur inq cl cr I gw tl g) (hc : cur = none) (hfq : ∀ t ∈ inq, t.kind = .fin → t.retries < M) :
    tl = bumpF M (nosynq inq) ∧ gw = [] ∧ I = [] := by
  refine ⟨?_, h.gw_nil hc, ?_⟩
  · cases h with
    | closed => rfl
    | normal mk G h1 h2 h3 h4 h5 h6 =>
      obtain ⟨_, rfl, _⟩ := h6.resolve_left (fun e => nomatch hc.symm.trans e); rfl
    | failed h1 h2 h3 h4 h5 => cases hc.symm.trans h5
    | reopen D k mk G h1 h2 h3 h4 h5 h6 h7 =>
      obtain ⟨rfl, rfl, _⟩ := h7.resolve_right (fun e => nomatch hc.symm.trans e.2)
      have hk : k < M := hfq (finTok k) (by rw [h4]; simp) rfl
      rw [h4, nosynq_append, nosynq_allData h5, List.append_nil, nosynq_cons_data _ (by exact nofun), bumpF_append,
        show nosynq [] = [] from rfl, bumpF_fin M k hk]
  · cases h with
    | closed _ h2 => exact h2
    | normal mk G h1 h2 h3 h4 h5 h6 => exact (h6.resolve_left (fun e => nomatch hc.symm.trans e)).2.2
    | failed h1 h2 h3 => exact h3
    | reopen D k mk G h1 h2 h3 => exact h3

/-- bound to no worker, a worker whose channel ends with a chaser is closing, or in retry mode behind data tokens
    only: the mode `OldU` asks of an old worker -/
theorem WRep.left_mode {me : Nat} {cur : Option Nat} {inq : List Tok} {cl cr : Bool} {I gw tl : List Tok} {g : Bool}
    (h : WRep M me cur inq cl cr I gw tl g) (hc : cur = none) {q : List Tok} {k : Nat} (e : inq = q ++ [finTok k]) :
    cl = true ∨ (cr = true ∧ AllData q) := by
  cases h with
  | closed h1 => exact .inl h1
  | normal mk G h1 h2 h3 h4 h5 h6 =>
    have := (h6.resolve_left (fun e' => nomatch hc.symm.trans e')).2.1
    rw [e] at this; simp at this
  | failed h1 h2 h3 h4 h5 => cases hc.symm.trans h5
  | reopen D k' mk G h1 h2 h3 h4 h5 h6 h7 =>
    obtain ⟨rfl, rfl, _⟩ := h7.resolve_right (fun e' => nomatch hc.symm.trans e'.2)
    rw [List.append_nil] at h4
    obtain ⟨rfl, _⟩ := List.append_inj' (e.symm.trans h4) rfl
    exact .inr ⟨h2, h5⟩

theorem VInv.regood (h : VInv v) (hg : v.gw = []) (hcap : ∀ x ∈ data v.av, x.retries ≤ v.pp.hwm) :
    VStep v ⟨v.pp, v.gw, v.av, true⟩ :=
  ⟨{ h with gbad := fun _ => hg, cap := fun _ => hcap }, fun _ ha => live_of (fun _ hx => .gw hx) (fun _ hx => .av hx) (fun k _ hx => .buf k hx) ha⟩

/-- the hand-over: bound to nobody, the look-up names a worker `w` in its initial state; in the state `s'` where `w`
    has got its syn, the worker `l` that was left is the youngest old worker and the view keeps its lists -/
theorem RepU.handover {w : Nat} (h : RepU M K s olds l v) (hK : K) (hc : s.cur = none)
    (hfq : ∀ t ∈ (s.wk l).inq, t.kind = .fin → t.retries < M)
    (hend : (s.wk l).inq = [] ∨ ∃ q k, (s.wk l).inq = q ++ [finTok k]) (hwl : w ≠ l) (hwo : w ∉ olds)
    (hpp : s'.pp = s.pp) (hq : s'.pq ++ s'.dq ++ s'.ret = s.pq ++ s.dq ++ s.ret) (hc' : s'.cur = some w)
    (hw : s'.wk w = ⟨[synTok], {}, none⟩) (ho : ∀ u, u ≠ w → s'.wk u = s.wk u) :
    RepU M K s' (olds ++ [l]) w ⟨v.pp, v.gw, v.av, true⟩ ∧ OldU M s' l := by
  obtain ⟨gw, tl, g, hwr, rfl, hbd⟩ := h
  obtain ⟨rfl, rfl, hins⟩ := hwr.tl_lane hc hfq
  have hl : lanes M s' (olds ++ [l]) = lanes M s olds ++ bumpF M (nosynq (s.wk l).inq) := by
    rw [lanes_inq (s := s) (fun u hu => by
      rw [ho u fun e : u = w => by
        subst e; exact (List.mem_append.1 hu).elim hwo fun hu => hwl (List.mem_singleton.1 hu)]), lanes_append]
    simp [lanes, lane]
  refine ⟨⟨[], [], true, ?_, by rw [hl, hpp, hq, List.append_nil], hl ▸ hbd.toOld hK⟩, ?_, ?_⟩
  · rw [hc', insW, hw]
    exact WRep.normal (M := M) (inq := [synTok]) (ins := []) [synTok] [] rfl rfl rfl (fun _ h => nomatch h)
      (.inr ⟨rfl, rfl⟩) (.inl rfl)
  · rw [insW, ho l hwl.symm]; exact hins
  · -- the phases of a worker that was left: closing, or waiting for its chaser behind data tokens only
    rw [ho l hwl.symm]
    refine hend.imp_right fun ⟨q, k, e⟩ => ⟨q, k, e, hfq (finTok k) (by rw [e]; simp) rfl, ?_⟩
    exact hwr.left_mode hc e

/-- what the step lemmas read of the facts of every run (`Base`, Lemmas/C02base.lean), for the workers they look at:
    `Base` has them for a run from the initial state, `Conc` and `LogInv` for the single worker -/
structure BaseU (M : Nat) (s : Sys) (olds : List Nat) (l : Nat) : Prop where
  pinv : ∀ w, w = l ∨ w ∈ olds → Props.C02bp.PInv (s.wk w).bp
  p0w  : ∀ w, w = l ∨ w ∈ olds → P0 ((s.wk w).inq ++ insW s w)
  pend : ∀ w, w = l ∨ w ∈ olds → ∀ vd base, (s.wk w).pend = some (vd, base) → ∃ sent, (s.wk w).bp.sets = [sent]
  p0q  : P0 (s.pq ++ s.dq ++ s.ret)
  lvl  : ∀ t ∈ s.pq ++ s.dq ++ s.ret, t.retries ≤ M
  ret1 : ∀ t ∈ s.ret, 1 ≤ t.retries

theorem Base.toU (h : Base M s) (olds : List Nat) (l : Nat) : BaseU M s olds l :=
  ⟨fun w _ => h.pinv w, fun w _ => h.p0.w w, fun w _ => h.pend w, h.p0.q, h.lvl, h.ret1⟩

/-- from any state: each clause about a worker is kept whatever the other workers are, and what comes back in front
    of the partition producer was bounced by the worker that stepped (`Step.front`) -/
theorem baseU_step {M : Nat} {s s' : Sys} {c : Choice} {olds : List Nat} {l : Nat} (hb : BaseU M s olds l)
    (hw : ∀ {u q pend off i}, Feeds s u c q pend off i → u = l ∨ u ∈ olds) (hs : sysStep M s c = some s') :
    BaseU M s' olds l := by
  have st := step_iff.1 hs
  refine ⟨fun w h => pinv_step (hb.pinv w h) st, fun w h => p0w_step (hb.p0w w h) st,
    fun w h => pend_step (hb.pinv w h) (hb.pend w h) st, fun x hx => ?_, (lvl_step hb.lvl hb.ret1 st).1,
    (lvl_step hb.lvl hb.ret1 st).2⟩
  rcases st.front hx with h1 | rfl | ⟨u, _, _, _, _, hf, _, hm⟩
  · exact hb.p0q x h1
  · rfl
  · exact (feeds_p0 M (hb.p0w u (hw hf)) hf).2.2.2 x hm

/-- the side conditions of `l` and the old workers (`Conc`, Lemmas/C02sysRep.lean, has those of worker 0 alone
    together with `BaseU`) -/
structure ConcU (M : Nat) (K : Prop) (s : Sys) (olds : List Nat) (l : Nat) (v : View) : Prop where
  -- a chaser on its way to a worker can still be bounced once more
  finq  : ∀ w, w = l ∨ w ∈ olds → ∀ t ∈ (s.wk w).inq, t.kind = .fin → t.retries < M
  nodup : olds.Nodup
  lNo   : l ∉ olds
  cur   : s.cur = none ∨ s.cur = some l
  -- newHighWatermark never found `pp.brokerProducer == nil`
  crash : s.crash = false
  oldok : ∀ w ∈ olds, OldU M s w
  -- bound to no worker, nothing in flight is above the high watermark (leaving the worker raised it)
  capN  : s.cur = none → ∀ x ∈ data v.av, x.retries ≤ v.pp.hwm
  -- the channel of the worker that was left ends with its chaser (what makes it an old worker at a hand-over)
  lend  : K → s.cur = none → (s.wk l).inq = [] ∨ ∃ q k, (s.wk l).inq = q ++ [finTok k]

/-- the log clauses: `LogCore`, and the answer prepared for the set at the bridge of `l` (an old worker holds
    nothing: its set is empty) -/
structure LogInvU (s : Sys) (l : Nat) (v : View) : Prop extends LogCore s.log s.succ s.next v where
  pend : ∀ vd base sent, (s.wk l).pend = some (vd, base) → (s.wk l).bp.sets = [sent] →
    (∀ p ∈ s.succ, p.2 < base) ∧ (vd = .ok → base + sent.length ≤ s.log.length)

/-- the ordering invariant for the worker `l` bound last and the workers `olds` left before it.  `K` says whether the
    level bands INSIDE what `l` is going to bounce, and that its channel ends with its chaser once it is left, are
    clauses (`Bd.own`, `ConcU.lend`).  They are what makes `l` an old worker when the partition producer hands over to
    a fresh one, so a run that hands over has `K = True` (`GoodC`); `Good` does not record them, so the single worker,
    where nobody hands over, has `K = False`. -/
structure GoodU (M : Nat) (K : Prop) (s : Sys) (olds : List Nat) (l : Nat) (v : View) : Prop where
  rep  : RepU M K s olds l v
  vinv : VInv v
  conc : ConcU M K s olds l v
  log  : LogInvU s l v

theorem Good.toU (h : Good M s v) : GoodU M False s [] 0 v ∧ BaseU M s [] 0 := by
  obtain ⟨gw, tl, g, hw, rfl⟩ := h.rep.wrep
  have w0 : ∀ {w : Nat}, w = 0 ∨ w ∈ ([] : List Nat) → w = 0 := fun hw => hw.resolve_right nofun
  have hc := h.conc
  refine ⟨{ rep := ⟨gw, tl, g, hw, rfl, { old := .nil, cross := (fun _ ha => nomatch ha), own := nofun }⟩
            vinv := h.vinv
            conc := { finq := fun w hw => w0 hw ▸ hc.finq, nodup := .nil, lNo := nofun, cur := hc.cur01,
                      crash := hc.crash, oldok := (fun _ hw => nomatch hw), capN := hc.capN, lend := nofun }
            log := { toLogCore := h.log.core, pend := fun vd base sent hp hs => ?_ } },
          { pinv := fun w hw => w0 hw ▸ hc.pinv, p0w := fun w hw => w0 hw ▸ fun t ht => hc.p0 t ?_,
            pend := fun w hw vd base hp => ?_,
            p0q := fun t ht => hc.p0 t (by simp only [List.mem_append] at ht ⊢; exact .inl (.inl ht)),
            lvl := hc.lvl, ret1 := hc.ret1 }⟩
  · obtain ⟨sent', e, a⟩ := h.log.pend vd base hp
    cases List.singleton_inj.1 (e.symm.trans hs); exact a
  · simp only [List.mem_append] at ht ⊢
    exact ht.elim (fun ht => .inl (.inr ht)) .inr
  · cases w0 hw
    obtain ⟨sent, e, _⟩ := h.log.pend vd base hp
    exact ⟨sent, e⟩

theorem GoodU.good (h : GoodU M K s [] 0 v) (hb : BaseU M s [] 0) : Good M s v := by
  obtain ⟨gw, tl, g, hw, rfl, _⟩ := h.rep
  have hc := h.conc
  refine { rep := WRep.rep hw, vinv := h.vinv,
           conc := { pinv := hb.pinv 0 (.inl rfl), p0 := fun t ht => ?_, lvl := hb.lvl, finq := hc.finq 0 (.inl rfl),
                     ret1 := hb.ret1, cur01 := hc.cur, capN := hc.capN, crash := hc.crash },
           log := h.log.toLogCore.logInv fun vd base hp => ?_ }
  · rcases List.mem_append.1 ht with ht | ht
    · rcases List.mem_append.1 ht with ht | ht
      · exact hb.p0q t ht
      · exact hb.p0w 0 (.inl rfl) t (List.mem_append_left _ ht)
    · exact hb.p0w 0 (.inl rfl) t (List.mem_append_right _ ht)
  · obtain ⟨sent, e⟩ := hb.pend 0 (.inl rfl) vd base hp
    exact ⟨sent, e, h.log.pend vd base sent hp e⟩

end Lemmas.C02sys
