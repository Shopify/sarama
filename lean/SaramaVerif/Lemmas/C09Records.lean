import SaramaVerif.Model.CodecRecords
import SaramaVerif.Lemmas.C09Fmt
/-
  The hand models of Model/CodecRecords.lean: a record is a value of `recordFmt`, so its round trip is `dec_enc`
  (`record_dec_enc`); a batch header and a legacy message are rows of fixed-width fields (`getFields_putFields`) with
  an attribute word that packs codec and flags (`attr_word`); byte 16 of a batch and of a message block is the
  magic byte (`magic_at_16`), which is what `Records.decode` dispatches on.
-/
namespace Lemmas.C09
open Model.Codec

theorem valOptBytes_opt (o : Option Bytes) : valOptBytes (optBytesVal o) = some o := by cases o <;> rfl

theorem valHeaders_map (hs : List (Option Bytes × Option Bytes)) : valHeaders (hs.map headerVal) = some hs := by
  induction hs with
  | nil => rfl
  | cons h hs ih =>
    simp only [List.map_cons, valHeaders, headerVal, valHeader, valOptBytes_opt, ih]

theorem ofVal_toVal (r : Record) : Record.ofVal r.toVal = some r := by
  simp only [Record.toVal, Record.ofVal, valOptBytes_opt, valHeaders_map]

theorem record_dec_enc (r : Record) (rest : Bytes) (h : r.WT = true) :
    decRecord (encRecord r ++ rest) = some (r, rest) := by
  rw [decRecord, encRecord, dec_enc recordFmt 0 r.toVal rest h]
  dsimp only
  rw [ofVal_toVal]

theorem records_dec_enc (rs : List Record) (rest : Bytes) (h : ∀ r ∈ rs, r.WT = true) :
    decRecords rs.length (encRecords rs ++ rest) = some (rs, rest) :=
  getMany_flatten decRecords decRecord encRecord (fun _ => rfl)
    (fun _ _ _ _ _ _ h1 h2 => by simp only [decRecords, h1, h2]) rs rest fun r hr rest' => record_dec_enc r rest' (h r hr)

@[reducible] def FieldsOK : List Nat → List Int → Prop
  | w :: ws, x :: xs => InInt w x ∧ FieldsOK ws xs
  | [], [] => True
  | _, _ => False

theorem getFields_putFields (ws : List Nat) (hw : ∀ w ∈ ws, 0 < w) : ∀ (xs : List Int) (rest : Bytes),
    FieldsOK ws xs → getFields ws (putFields ws xs ++ rest) = some (xs, rest) := by
  induction ws with
  | nil =>
    intro xs rest h
    cases xs with
    | nil => rfl
    | cons _ _ => exact h.elim
  | cons w ws ih =>
    intro xs rest h
    cases xs with
    | nil => exact h.elim
    | cons x xs =>
      unfold putFields getFields
      rw [List.append_assoc, getInt_putInt w x _ (hw w List.mem_cons_self) h.1]
      dsimp only
      rw [ih (fun v hv => hw v (List.mem_cons_of_mem _ hv)) xs rest h.2]

theorem putFields_length (ws : List Nat) : ∀ (xs : List Int), ws.length = xs.length →
    (putFields ws xs).length = ws.sum := by
  induction ws with
  | nil => intro xs _; cases xs <;> rfl
  | cons w ws ih =>
    intro xs h
    cases xs with
    | nil => exact absurd h (Nat.succ_ne_zero _)
    | cons x xs => rw [putFields, List.length_append, putInt_length, List.sum_cons, ih xs (Nat.succ.inj h)]

theorem bit_flag (lo m hi : Int) (b : Bool) (h0 : 0 ≤ lo) (hm : lo < m) :
    bit (lo + m * (b.toInt + 2 * hi)) m = b := by
  unfold bit
  rw [Int.add_mul_ediv_left _ _ (Int.ne_of_gt (Int.lt_of_le_of_lt h0 hm)), Int.ediv_eq_zero_of_lt h0 hm, Int.zero_add,
    Int.add_mul_emod_self_left]
  cases b <;> rfl

theorem bit_shift (lo m q n : Int) (h0 : 0 ≤ lo) (hm : lo < m) : bit (lo + m * q) (m * n) = bit q n := by
  unfold bit
  rw [← Int.ediv_ediv_of_nonneg (Int.le_trans h0 (Int.le_of_lt hm)),
    Int.add_mul_ediv_left _ _ (Int.ne_of_gt (Int.lt_of_le_of_lt h0 hm)), Int.ediv_eq_zero_of_lt h0 hm, Int.zero_add]

/-- the attributes word of a record batch (codec in bits 0–2, flags at 8, 16, 32) and what the decoders read off
    it; a legacy message's word is the case `k = t = false` -/
theorem attr_word (c : Int) (k l t : Bool) (h0 : 0 ≤ c) (h8 : c < 8) (a : Int)
    (ha : a = c % 8 + (if k then 32 else 0) + (if l then 8 else 0) + (if t then 16 else 0)) :
    (0 ≤ a ∧ a < 64) ∧ a % 8 = c ∧ bit a 32 = k ∧ bit a 8 = l ∧ bit a 16 = t := by
  have flag (b : Bool) (m : Int) : (if b then m else 0) = m * b.toInt ∧ 0 ≤ b.toInt ∧ b.toInt < 2 := by
    cases b <;> simp
  obtain ⟨ek, k0, k2⟩ := flag k 32
  obtain ⟨el, l0, l2⟩ := flag l 8
  obtain ⟨et, t0, t2⟩ := flag t 16
  -- positional form: codec, then one binary digit per flag
  have e : a = c + 8 * (l.toInt + 2 * (t.toInt + 2 * (k.toInt + 2 * 0))) := by
    rw [ek, el, et, Int.emod_eq_of_lt h0 h8] at ha; omega
  clear ha  -- `omega` would split on its three `if`s
  refine ⟨by omega, ?_, ?_, ?_, ?_⟩ <;> rw [e]
  · rw [Int.add_mul_emod_self_left, Int.emod_eq_of_lt h0 h8]
  · exact (bit_shift c 8 _ 4 h0 h8).trans ((bit_shift _ 2 _ 2 l0 l2).trans (bit_flag _ 2 0 k t0 t2))
  · exact bit_flag c 8 _ l h0 h8
  · exact (bit_shift c 8 _ 2 h0 h8).trans (bit_flag _ 2 _ t l0 l2)

theorem batch_attrs (b : Batch) (h0 : 0 ≤ b.codec) (h8 : b.codec < 8) :
    (toU 1 b.attributes : Int) % 8 = b.codec ∧ bit (toU 2 b.attributes) 32 = b.control ∧
    bit (toU 2 b.attributes) 8 = b.logAppendTime ∧ bit (toU 2 b.attributes) 16 = b.isTransactional ∧
    InInt 2 b.attributes := by
  obtain ⟨⟨a0, a64⟩, hc, hk, hl, ht⟩ := attr_word _ b.control b.logAppendTime b.isTransactional h0 h8 b.attributes rfl
  rw [toU_of_nonneg 1 _ a0 (Int.lt_trans a64 (by decide)), toU_of_nonneg 2 _ a0 (Int.lt_trans a64 (by decide))]
  exact ⟨hc, hk, hl, ht, Int.le_trans (by decide) a0, Int.lt_trans a64 (by decide)⟩

theorem msg_attrs (m : Msg) (h0 : 0 ≤ m.codec) (h8 : m.codec < 8) :
    (toU 1 m.attributes : Int) % 8 = m.codec ∧ bit (toU 1 m.attributes) 8 = m.logAppendTime ∧ InInt 1 m.attributes := by
  obtain ⟨⟨a0, a64⟩, hc, _, hl, _⟩ := attr_word _ false m.logAppendTime false h0 h8 m.attributes
    (by rw [Msg.attributes, if_neg Bool.false_ne_true, if_neg Bool.false_ne_true, Int.add_zero, Int.add_zero])
  rw [toU_of_nonneg 1 _ a0 (Int.lt_trans a64 (by decide))]
  exact ⟨hc, hl, Int.le_trans (by decide) a0, Int.lt_trans a64 (by decide)⟩

theorem normTs_id (t : Int) (h : -1 ≤ t) : normTs t = t := by unfold normTs; split <;> omega

theorem encBatch_form (comp : Int → Bytes → Bytes) (b : Batch) (rest : Bytes) :
    encBatch comp b ++ rest =
    putFields [8, 4, 4, 1] [b.firstOffset, ((b.lenBody comp).length : Int), b.partitionLeaderEpoch, b.magic] ++
    (be 4 (crc32 .castagnoli (b.crcBody comp)) ++ (b.crcBody comp ++ rest)) := by
  simp only [encBatch, putLen32, Batch.lenBody, putCrc, putFields, List.append_assoc, List.append_nil]

theorem crcBody_form (comp : Int → Bytes → Bytes) (b : Batch) (rest : Bytes) :
    b.crcBody comp ++ rest =
     putFields [2, 4, 8, 8, 8, 2, 4] [b.attributes, b.lastOffsetDelta, b.firstTimestamp, b.maxTimestamp,
        b.producerID, b.producerEpoch, b.firstSequence] ++
      (putInt 4 b.records.length ++ (comp b.codec (encRecords b.records) ++ rest)) := by
  simp only [Batch.crcBody, putFields, putArrayLength, List.append_assoc, List.append_nil]

/-- the decoder after the record count, on a batch of `len = 49 + |payload|` bytes whose CRC covers `body`:
    `c0` is the input from the attributes on, `payload ++ rest` the input after the record count -/
theorem decBatchTail_ok (decomp : Int → Bytes → Option Bytes) (hdr : Batch) (body payload raw rest c0 : Bytes)
    (rs : List Record) (n len : Int) (hlen : len = (payload.length : Int) + 49) (hc0 : c0 = body ++ rest)
    (hd : decomp hdr.codec payload = some raw) (hn : n ≤ raw.length) (hr : decRecords n.toNat raw = some (rs, [])) :
    decBatchTail decomp hdr len (crc32 .castagnoli body) c0 (payload ++ rest) n =
      some ({ hdr with records := rs }, rest) := by
  subst hlen hc0
  unfold decBatchTail
  rw [Int.add_sub_cancel, if_neg (Int.not_lt.mpr (Int.natCast_nonneg _)), Int.toNat_natCast,
    if_neg (Nat.not_lt.mpr (by rw [List.length_append]; exact Nat.le_add_right ..)), List.drop_left, List.take_left,
    length_append_sub, List.take_left, if_neg (not_not_intro rfl), hd]
  dsimp only
  rw [if_neg (Int.not_lt.mpr hn), hr]
  rfl

/-- every record takes at least the byte of its length varint -/
theorem records_length_le (rs : List Record) : rs.length ≤ (encRecords rs).length := by
  have := length_le_flatten_map encRecord 1 rs fun r =>
    Nat.le_trans (putUVarint_length_pos _) (List.length_append ▸ Nat.le_add_right ..)
  rwa [Nat.one_mul] at this

theorem decompress_compress (clib : Int → Bytes → Bytes) (dlib : Int → Bytes → Option Bytes) (c : Int) (x : Bytes)
    (hc : 0 ≤ c ∧ c ≤ 4) (hlib : c ≠ 0 → dlib c (clib c x) = some x) :
    decompress dlib c (compress clib c x) = some x := by
  unfold decompress compress
  by_cases h0 : c = 0
  · rw [if_pos h0, if_pos h0]
  · rw [if_neg h0, if_neg h0, if_pos (by omega), hlib h0]

theorem magic_legacy {m : Int} (h : m = 0 ∨ m = 1) : InInt 1 m ∧ ¬ m > 1 := by
  rcases h with h | h <;> rw [h] <;> decide

/-- the timestamp is on the wire from magic 1 on; a magic 0 message reads as timestamp −1 -/
theorem getTimestamp_put (magic ts : Int) (tail : Bytes) (hmagic : magic = 0 ∨ magic = 1) (hts : InInt 8 ts)
    (hts0 : magic = 0 → ts = -1) :
    (if magic = 1 then getInt 8 ((if magic ≥ 1 then putInt 8 ts else []) ++ tail)
      else some (-1, (if magic ≥ 1 then putInt 8 ts else []) ++ tail)) = some (ts, tail) := by
  rcases hmagic with h | h
  · rw [hts0 h, h]; rfl
  · rw [h, if_pos rfl, if_pos (by decide), getInt_putInt 8 _ _ (by decide) hts]

theorem message_dec_enc (comp : Int → Bytes → Bytes) (decomp : Int → Bytes → Option Bytes) (innerOK : Bytes → Bool)
    (m : Msg) (rest : Bytes) (hwt : m.WTP comp)
    (hnone : ∀ v, m.value = some v → m.codec = 0 → comp m.codec v = v)
    (hlaw : ∀ v, m.value = some v → m.codec ≠ 0 → decomp m.codec (comp m.codec v) = some v ∧ innerOK v = true) :
    decMessage decomp innerOK (encMessage comp m ++ rest) = some (m, rest) := by
  obtain ⟨hmagic, hcodec, hts, hts0, hkey, hval⟩ := hwt
  obtain ⟨a1, a2, a3⟩ := msg_attrs m hcodec.1 hcodec.2
  have hv : msgValue decomp innerOK m.codec (m.value.map (comp m.codec)) = some m.value := by
    cases hvv : m.value with
    | none => rfl
    | some v =>
      rw [Option.map_some, msgValue]
      by_cases hc0 : m.codec = 0
      · rw [if_pos hc0, hnone v hvv hc0]
      · rw [if_neg hc0, (hlaw v hvv hc0).1]; dsimp only; rw [(hlaw v hvv hc0).2, if_pos rfl]
  have hwire : ∀ b, m.value.map (comp m.codec) = some b → b.length < 2 ^ 31 := by
    intro b hb
    obtain ⟨v, hvv, rfl⟩ := Option.map_eq_some_iff.mp hb
    exact hval v hvv
  have hbody : m.crcBody comp ++ rest = putInt 1 m.magic ++ (putInt 1 m.attributes ++
      ((if m.magic ≥ 1 then putInt 8 m.timestamp else []) ++ (putBytes m.key ++
        (putBytes (m.value.map (comp m.codec)) ++ rest)))) := by
    simp only [Msg.crcBody, List.append_assoc]
  unfold decMessage
  rw [encMessage, putCrc, List.append_assoc, getUInt_be 4 _ _ (crc32_lt _ _)]
  dsimp only
  rw [hbody, getInt_putInt 1 _ _ (by decide) (magic_legacy hmagic).1]
  dsimp only
  rw [if_neg (magic_legacy hmagic).2, getInt_putInt 1 _ _ (by decide) a3]
  dsimp only
  rw [getTimestamp_put _ _ _ hmagic hts.1 hts0]
  dsimp only
  rw [getBytes_putBytes m.key _ hkey]
  dsimp only
  rw [getBytes_putBytes _ rest hwire]
  dsimp only
  rw [a1, hv]
  dsimp only
  rw [← hbody, length_append_sub, List.take_left, if_neg (not_not_intro rfl), a2, normTs_id _ hts.2]

/-- What the round trips ask of one `(offset, message)` block: the fields fit their Go types and the codec pair is
    lawful on this value; `innerOK` is the inner `decodeSet` accepting a wrapper's value. -/
def BlockOK (comp : Int → Bytes → Bytes) (decomp : Int → Bytes → Option Bytes) (innerOK : Bytes → Bool) (b : Block) : Prop :=
  InInt 8 b.1 ∧ b.2.WTP comp ∧ (encMessage comp b.2).length < 2 ^ 31 ∧
  (∀ v, b.2.value = some v → b.2.codec = 0 → comp b.2.codec v = v) ∧
  (∀ v, b.2.value = some v → b.2.codec ≠ 0 → decomp b.2.codec (comp b.2.codec v) = some v ∧ innerOK v = true)

theorem block_dec_enc (comp : Int → Bytes → Bytes) (decomp : Int → Bytes → Option Bytes) (innerOK : Bytes → Bool)
    (b : Block) (rest : Bytes) (h : BlockOK comp decomp innerOK b) :
    decBlock decomp innerOK (encBlock comp b ++ rest) = some (b, rest) := by
  obtain ⟨hoff, hwt, hlen, hnone, hlaw⟩ := h
  unfold decBlock
  rw [encBlock, putLen32, List.append_assoc, List.append_assoc, getInt_putInt 8 _ _ (by decide) hoff]
  dsimp only
  rw [getInt_putInt 4 _ _ (by decide) (inInt_len 4 _ hlen)]
  dsimp only
  rw [if_neg (by rw [List.length_append]; omega), message_dec_enc comp decomp innerOK b.2 rest hwt hnone hlaw]
  dsimp only
  rw [length_append_sub, if_pos rfl]

theorem encBlock_form (comp : Int → Bytes → Bytes) (b : Block) (rest : Bytes) :
    encBlock comp b ++ rest = (putInt 8 b.1 ++ putInt 4 ((encMessage comp b.2).length : Int) ++
      be 4 (crc32 .ieee (b.2.crcBody comp))) ++ (putInt 1 b.2.magic ++ (putInt 1 b.2.attributes ++
        ((if b.2.magic ≥ 1 then putInt 8 b.2.timestamp else []) ++ (putBytes b.2.key ++
        (putBytes (b.2.value.map (comp b.2.codec)) ++ rest))))) := by
  simp only [encBlock, putLen32, encMessage, putCrc, Msg.crcBody, List.append_assoc]

/-- Both formats put 16 bytes in front of the magic byte (batch: offset 8, length 4, leader epoch 4; message block:
    offset 8, length 4, CRC 4): what `MessageSet.decode` and `Records.setTypeFromMagic` read at `magicOffset`. -/
theorem magic_at_16 (pre tail : Bytes) (m : Int) (hp : pre.length = 16) (hm : InInt 1 m) :
    toS 1 (fromBE (((pre ++ (putInt 1 m ++ tail)).drop 16).take 1)) = m := by
  rw [List.drop_left' hp, List.take_left' (putInt_length 1 m), putInt, fromBE_be, Nat.mod_eq_of_lt (toU_lt 1 m),
    toS_toU 1 m (by decide) hm]

theorem recordsKind_at_16 (pre tail : Bytes) (m : Int) (hp : pre.length = 16) (hm : InInt 1 m) :
    recordsKind (pre ++ (putInt 1 m ++ tail)) = some (if m < 2 then .legacy else .default) := by
  rw [recordsKind, if_neg (by rw [List.length_append, List.length_append, hp, putInt_length]; omega),
    magic_at_16 pre tail m hp hm]
  split <;> rfl

theorem block_magic (comp : Int → Bytes → Bytes) (b : Block) (rest : Bytes) (h : InInt 1 b.2.magic) :
    toS 1 (fromBE (((encBlock comp b ++ rest).drop 16).take 1)) = b.2.magic := by
  rw [encBlock_form]
  exact magic_at_16 _ _ _ (by simp only [List.length_append, putInt_length, be_length]) h

theorem encBlock_length_ge (comp : Int → Bytes → Bytes) (b : Block) : 17 ≤ (encBlock comp b).length := by
  have := congrArg List.length (encBlock_form comp b [])
  simp only [List.append_nil, List.length_append, putInt_length, be_length] at this
  omega

/-- `Records.setTypeFromMagic` on what the two encoders write -/
theorem recordsKind_batch (comp : Int → Bytes → Bytes) (b : Batch) (rest : Bytes) (h : InInt 1 b.magic) :
    recordsKind (encBatch comp b ++ rest) = some (if b.magic < 2 then .legacy else .default) := by
  have e : encBatch comp b ++ rest = (putInt 8 b.firstOffset ++ putInt 4 ((b.lenBody comp).length : Int) ++
      putInt 4 b.partitionLeaderEpoch) ++ (putInt 1 b.magic ++ (putCrc .castagnoli (b.crcBody comp) ++ rest)) := by
    simp only [encBatch, putLen32, Batch.lenBody, List.append_assoc]
  rw [e]
  exact recordsKind_at_16 _ _ _ (by simp only [List.length_append, putInt_length]) h

theorem recordsKind_set (comp : Int → Bytes → Bytes) (b : Block) (bs : List Block) (h : InInt 1 b.2.magic) :
    recordsKind (encSet comp (b :: bs)) = some (if b.2.magic < 2 then .legacy else .default) := by
  show recordsKind (encBlock comp b ++ encSet comp bs) = _
  rw [encBlock_form]
  exact recordsKind_at_16 _ _ _ (by simp only [List.length_append, putInt_length, be_length]) h

end Lemmas.C09
