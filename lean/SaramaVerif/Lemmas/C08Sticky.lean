import SaramaVerif.Model.BalanceSticky
import SaramaVerif.Lemmas.C08Assoc
import SaramaVerif.Lemmas.Run
/-
  The sticky op model, below the state invariant: the core facts `Core` about (working assignment, owner map, parked
  assignments) with what a move and a parking do to them; the static environment `SWf`; `runOps` as a run of
  guard-then-apply steps (`runOps_runs`, an instance of `Lemmas.Run.Runs`).
-/
namespace Model.Balance

/-! `processPartitionMovement` takes the partition from its old consumer's list and appends it to the new consumer's:
    what each half does to a property of (holder, partition) pairs (to the total counts: `AL.countAll_take`,
    `AL.countAll_give`).  `assignPartition` and the filter loop of `Plan` do the second half only. -/

theorem planAll_take {P : Member → TP → Prop} {a : Asg} (h : PlanAll P a) (k : Member) (q : TP) :
    PlanAll P (AL.set a k ((AL.get a k).erase q)) :=
  planAll_set h k _ fun tp htp => planAll_get h k tp (List.mem_of_mem_erase htp)

theorem planAll_give {P : Member → TP → Prop} {b : Asg} (h : PlanAll P b) {k : Member} {q : TP} (hq : P k q) :
    PlanAll P (AL.set b k (AL.get b k ++ [q])) :=
  planAll_set h k _ fun tp htp =>
    (List.mem_append.mp htp).elim (planAll_get h k tp) fun h' => List.mem_singleton.mp h' ▸ hq

-- `beq_iff_eq`, not `beq_self_eq_true`: instance search is slow on `ReflBEq TP` and finds `LawfulBEq TP` at once
theorem ownerGet_set_same (o : OwnerMap) (p : TP) (m : Member) : ownerGet (ownerSet o p m) p = some m := by
  rw [ownerGet, ownerSet, List.find?_cons_of_pos (p := fun e : TP × Member => e.1 == p) (beq_iff_eq.mpr rfl)]; rfl

theorem ownerGet_set_other (o : OwnerMap) (p q : TP) (m : Member) (h : q ≠ p) :
    ownerGet (ownerSet o p m) q = ownerGet o q := by
  unfold ownerGet ownerSet
  rw [List.find?_cons_of_neg (p := fun e : TP × Member => e.1 == q) (fun e => h (eq_of_beq e).symm), List.find?_filter]
  -- an entry found under `q` is not one of those filtered out
  refine congrArg (fun f => (List.find? f o).map _) (funext fun e => ?_)
  cases he : e.1 == q
  · exact decide_eq_false fun h => Bool.false_ne_true h.2
  · exact decide_eq_true ⟨by rw [eq_of_beq he, beq_false_of_ne h]; rfl, rfl⟩

theorem ownerOK_give {a : Asg} {owner : OwnerMap} (h : PlanAll (fun m p => ownerGet owner p = some m) a) {q : TP}
    (h0 : AL.countAll a q = 0) (new : Member) :
    PlanAll (fun m p => ownerGet (ownerSet owner q new) p = some m) (AL.set a new (AL.get a new ++ [q])) :=
  planAll_give (fun e he p hp => (ownerGet_set_other _ _ _ _ fun hpq : p = q =>
    AL.countAll_eq_zero_iff.mp h0 e he (hpq ▸ hp)).trans (h e he p hp)) (ownerGet_set_same ..)

theorem mem_insertMember (cur : Asg) (x y : Member) (l : List Member) :
    y ∈ insertMember cur x l ↔ y = x ∨ y ∈ l := by
  induction l with
  | nil => exact List.mem_cons
  | cons z r ih =>
    unfold insertMember
    cases memberLE cur z x
    · exact List.mem_cons
    · rw [if_pos rfl, List.mem_cons, ih, List.mem_cons]; exact or_left_comm

theorem mem_sortMembers (cur : Asg) (m : Member) : m ∈ sortMembers cur ↔ m ∈ AL.keys cur := by
  have : ∀ (ks acc : List Member), m ∈ ks.foldl (fun acc x => insertMember cur x acc) acc ↔ m ∈ ks ∨ m ∈ acc := by
    intro ks
    induction ks with
    | nil => exact fun acc => (or_iff_right List.not_mem_nil).symm
    | cons k r ih =>
      intro acc
      rw [List.foldl_cons, ih, mem_insertMember, List.mem_cons]
      exact or_left_comm.trans or_assoc.symm
  exact (this _ []).trans (or_iff_left List.not_mem_nil)

/-- the core facts about a working assignment, its owner map and the parked assignments.  The idea is in `once` and
    `fixedOnly`: once the loop over unassignedPartitions has run, every existing partition that somebody may take is
    held exactly once, by a working or by a parked member; and parked members hold only partitions that cannot take
    part in reassignment.  So a partition that `performReassignments` moves is held in the working assignment
    (`Core.held`), and adding the parked assignments back at the end produces neither a gap nor a duplicate. -/
structure Core (env : SEnv) (cur : Asg) (owner : OwnerMap) (fixed : Asg) (assigned : Bool) : Prop where
  keysNodup : (AL.keys cur ++ AL.keys fixed).Nodup
  keysMem : ∀ k, k ∈ AL.keys cur ++ AL.keys fixed → k ∈ AL.keys env.pot
  holdsC : PlanAll (fun m tp => tp ∈ AL.get env.pot m) cur
  holdsF : PlanAll (fun m tp => tp ∈ AL.get env.pot m) fixed
  atMost : ∀ p, AL.countAll cur p + AL.countAll fixed p ≤ 1
  once : assigned = true → ∀ p, p ∈ env.parts → consumersOf env.pot p ≠ [] →
    AL.countAll cur p + AL.countAll fixed p = 1
  ownerOK : ∀ e, e ∈ cur → ∀ p, p ∈ e.2 → ownerGet owner p = some e.1
  fixedOnly : ∀ e, e ∈ fixed → ∀ p, p ∈ e.2 → canPartitionParticipate env.pot p = false

theorem consumersOf_ne_nil_iff (pot : Asg) (p : TP) : consumersOf pot p ≠ [] ↔ ∃ e, e ∈ pot ∧ p ∈ e.2 := by
  unfold consumersOf
  constructor
  · intro h
    obtain ⟨m, hm⟩ := List.exists_mem_of_ne_nil _ h
    obtain ⟨e, he, hr⟩ := List.mem_flatMap.mp hm
    exact ⟨e, he, List.count_pos_iff.mp (Nat.pos_of_ne_zero (List.mem_replicate.mp hr).1)⟩
  · rintro ⟨e, he, hp⟩ h
    have : e.1 ∈ List.flatMap (fun e => List.replicate (List.count p e.2) e.1) pot :=
      List.mem_flatMap.mpr ⟨e, he, List.mem_replicate.mpr ⟨Nat.ne_of_gt (List.count_pos_iff.mpr hp), rfl⟩⟩
    exact List.not_mem_nil (h ▸ this)

theorem consumers_of_canPart {pot : Asg} {p : TP} (h : canPartitionParticipate pot p = true) :
    consumersOf pot p ≠ [] := by
  intro h0
  rw [canPartitionParticipate, h0] at h
  cases h

theorem keys_park_perm {cur fixed : Asg} {m : Member} (hm : m ∈ AL.keys cur) (hmf : m ∉ AL.keys fixed) (v : List TP) :
    (AL.keys (AL.erase cur m) ++ AL.keys (AL.set fixed m v)).Perm (AL.keys cur ++ AL.keys fixed) := by
  rw [AL.keys_erase, AL.keys_set_of_not_mem _ hmf, ← List.append_assoc]
  exact (List.perm_append_singleton _ _).trans ((List.perm_cons_erase hm).append_right _).symm

namespace Core

theorem held {env : SEnv} {cur : Asg} {owner : OwnerMap} {fixed : Asg} {a : Bool} (c : Core env cur owner fixed a)
    (ha : a = true) {q : TP} (hq : q ∈ env.parts) (hcan : canPartitionParticipate env.pot q = true) :
    ∃ old, ownerGet owner q = some old ∧ q ∈ AL.get cur old ∧ AL.countAll cur q = 1 := by
  have hf : AL.countAll fixed q = 0 := AL.countAll_eq_zero_iff.mpr fun e he hx =>
    Bool.false_ne_true ((c.fixedOnly e he q hx).symm.trans hcan)
  have hc : AL.countAll cur q = 1 := by
    have := c.once ha q hq (consumers_of_canPart hcan)
    rwa [hf] at this
  obtain ⟨e, he, hx⟩ := AL.countAll_pos_iff.mp (hc ▸ Nat.one_pos : 0 < AL.countAll cur q)
  exact ⟨e.1, c.ownerOK e he q hx, AL.get_of_mem_nodup (List.nodup_append.mp c.keysNodup).1 he ▸ hx, hc⟩

/-- `processPartitionMovement` of `q` from `old` to `new` -/
theorem move {env : SEnv} {cur : Asg} {owner : OwnerMap} {fixed : Asg} {a : Bool} (c : Core env cur owner fixed a)
    {q : TP} {new old : Member} (hheld : q ∈ AL.get cur old) (hc1 : AL.countAll cur q = 1)
    (hnew : new ∈ AL.keys cur) (hpot : q ∈ AL.get env.pot new) :
    Core env (AL.set (AL.set cur old ((AL.get cur old).erase q)) new
        (AL.get (AL.set cur old ((AL.get cur old).erase q)) new ++ [q]))
      (ownerSet owner q new) fixed a := by
  have hold : old ∈ AL.keys cur := List.mem_map.mpr ⟨_, AL.get_mem hheld, rfl⟩
  have hk1 := AL.keys_set_of_mem ((AL.get cur old).erase q) hold
  have hk : ∀ v, AL.keys (AL.set (AL.set cur old ((AL.get cur old).erase q)) new v) = AL.keys cur :=
    fun v => (AL.keys_set_of_mem v (hk1 ▸ hnew)).trans hk1
  have hcnt := fun p => (AL.countAll_give _ new [q] p).trans (AL.countAll_take hheld p)
  -- once `q` is taken from `old` nobody holds it
  have hq0 := AL.countAll_take hheld q
  rw [List.count_singleton_self, hc1] at hq0
  exact { c with
    keysNodup := hk _ ▸ c.keysNodup
    keysMem := hk _ ▸ c.keysMem
    holdsC := planAll_give (planAll_take c.holdsC old q) hpot
    atMost := fun p => hcnt p ▸ c.atMost p
    once := fun ha p hp hc => hcnt p ▸ c.once ha p hp hc
    ownerOK := ownerOK_give (planAll_take (P := fun m p => ownerGet owner p = some m) c.ownerOK old q)
      (Nat.succ.inj hq0) new }

/-- the `fixedAssignments` step of `balance` -/
theorem park {env : SEnv} {cur : Asg} {owner : OwnerMap} {fixed : Asg} {a : Bool} (c : Core env cur owner fixed a)
    {m : Member} (hm : m ∈ AL.keys cur)
    (hany : ∀ p, p ∈ AL.get cur m → canPartitionParticipate env.pot p = false) :
    Core env (AL.erase cur m) owner (AL.set fixed m (AL.get cur m)) a := by
  have hmf : m ∉ AL.keys fixed := fun hf => (List.nodup_append.mp c.keysNodup).2.2 m hm m hf rfl
  -- `m` changes sides: the keys are permuted, the counts move from one total to the other
  have hperm := keys_park_perm hm hmf (AL.get cur m)
  have hsum : ∀ p, AL.countAll (AL.erase cur m) p + AL.countAll (AL.set fixed m (AL.get cur m)) p =
      AL.countAll cur p + AL.countAll fixed p := fun p => by
    rw [AL.countAll_set_of_not_mem _ _ hmf, ← AL.countAll_erase cur m p, Nat.add_right_comm, Nat.add_assoc]
  have hF : PlanAll (fun _ p => canPartitionParticipate env.pot p = false) fixed := c.fixedOnly
  exact {
    keysNodup := hperm.nodup_iff.mpr c.keysNodup
    keysMem := fun k hk => c.keysMem k (hperm.mem_iff.mp hk)
    holdsC := fun e he => c.holdsC e (AL.mem_erase he)
    holdsF := planAll_set c.holdsF m _ (planAll_get c.holdsC m)
    atMost := fun p => hsum p ▸ c.atMost p
    once := fun ha p hp hc => hsum p ▸ c.once ha p hp hc
    ownerOK := fun e he => c.ownerOK e (AL.mem_erase he)
    fixedOnly := planAll_set hF m _ hany }

end Core

/-- static well-formedness: `env.pot` and `env.parts` are what `Plan` computes for a group whose member ids and
    topics are distinct and in which no partition is listed twice (`ids`, `tkeys`, `pnodup` speak of the inputs `ms`,
    `ts`), `env.reassignable` holds only partitions that can take part; `env.prev` and `env.initializing` are free -/
structure SWf (ms : Members) (ts : Topics) (env : SEnv) : Prop where
  pot_eq : env.pot = potOf ms ts
  parts_eq : env.parts = allParts ts
  ids : (ms.map (·.1)).Nodup
  tkeys : (AL.keys ts).Nodup
  pnodup : (allParts ts).Nodup
  reass : ∀ p, p ∈ env.reassignable → canPartitionParticipate env.pot p = true ∧ p ∈ env.parts

theorem keys_potOf (ms : Members) (ts : Topics) : AL.keys (potOf ms ts) = ms.map (·.1) := by
  unfold potOf AL.keys
  rw [List.map_map]; rfl

theorem mem_allParts {ts : Topics} (htk : (AL.keys ts).Nodup) (p : TP) :
    p ∈ allParts ts ↔ topicExists ts p.1 = true ∧ p.2 ∈ partsOf ts p.1 := by
  unfold allParts
  rw [List.mem_flatMap]
  constructor
  · rintro ⟨e, he, hp⟩
    rw [List.mem_map] at hp
    obtain ⟨x, hx, rfl⟩ := hp
    have : partsOf ts e.1 = e.2 := AL.get_of_mem_nodup htk (by cases e; exact he)
    exact ⟨AL.hasKey_iff.mpr (List.mem_map.mpr ⟨e, he, rfl⟩), by rw [this]; exact hx⟩
  · rintro ⟨h1, h2⟩
    have hk := AL.hasKey_iff.mp h1
    refine ⟨(p.1, AL.get ts p.1), AL.mem_of_mem_keys hk, ?_⟩
    rw [List.mem_map]
    exact ⟨p.2, h2, rfl⟩

theorem mem_potList (ts : Topics) (tl : List Topic) (p : TP) :
    p ∈ tl.flatMap (fun t => if topicExists ts t then (partsOf ts t).map (fun x => ((t, x) : TP)) else []) ↔
      p.1 ∈ tl ∧ topicExists ts p.1 = true ∧ p.2 ∈ partsOf ts p.1 := by
  rw [List.mem_flatMap]
  constructor
  · rintro ⟨t, ht, hp⟩
    by_cases hte : topicExists ts t = true
    · rw [if_pos hte, List.mem_map] at hp
      obtain ⟨x, hx, rfl⟩ := hp
      exact ⟨ht, hte, hx⟩
    · rw [if_neg hte] at hp; cases hp
  · rintro ⟨h1, h2, h3⟩
    refine ⟨p.1, h1, ?_⟩
    rw [if_pos h2, List.mem_map]
    exact ⟨p.2, h3, rfl⟩

theorem mem_get_potOf {ms : Members} {ts : Topics} (hids : (ms.map (·.1)).Nodup) (htk : (AL.keys ts).Nodup)
    (m : Member) (p : TP) :
    p ∈ AL.get (potOf ms ts) m ↔ (∃ e, e ∈ ms ∧ e.1 = m ∧ p.1 ∈ e.2) ∧ p ∈ allParts ts := by
  have hnd : (AL.keys (potOf ms ts)).Nodup := by rw [keys_potOf]; exact hids
  constructor
  · intro h
    have hm : (m, AL.get (potOf ms ts) m) ∈ potOf ms ts := AL.get_mem h
    obtain ⟨e, he, heq⟩ := List.mem_map.mp hm
    injection heq with h1 h2
    rw [← h2, mem_potList] at h
    exact ⟨⟨e, he, h1, h.1⟩, (mem_allParts htk p).mpr ⟨h.2.1, h.2.2⟩⟩
  · rintro ⟨⟨e, he, hm, ht⟩, hp⟩
    have hmem : (e.1, e.2.flatMap (fun t => if topicExists ts t then (partsOf ts t).map (fun x => ((t, x) : TP)) else []))
        ∈ potOf ms ts := by
      unfold potOf; rw [List.mem_map]; exact ⟨e, he, rfl⟩
    have := AL.get_of_mem_nodup hnd hmem
    rw [← hm, this, mem_potList]
    have := (mem_allParts htk p).mp hp
    exact ⟨ht, this.1, this.2⟩

theorem SWf.keys_pot {ms : Members} {ts : Topics} {env : SEnv} (wf : SWf ms ts env) :
    AL.keys env.pot = ms.map (·.1) := by
  rw [wf.pot_eq, keys_potOf]

theorem SWf.mem_pot {ms : Members} {ts : Topics} {env : SEnv} (wf : SWf ms ts env) (m : Member) (p : TP) :
    p ∈ AL.get env.pot m ↔ (∃ e, e ∈ ms ∧ e.1 = m ∧ p.1 ∈ e.2) ∧ p ∈ env.parts := by
  rw [wf.pot_eq, wf.parts_eq]
  exact mem_get_potOf wf.ids wf.tkeys m p

theorem pot_topic_closed {ms : Members} {ts : Topics} {env : SEnv} (wf : SWf ms ts env) {m : Member} {p q : TP}
    (hp : p ∈ AL.get env.pot m) (ht : q.1 = p.1) (hq : q ∈ env.parts) : q ∈ AL.get env.pot m := by
  obtain ⟨⟨e, he, hm, hte⟩, _⟩ := (wf.mem_pot m p).mp hp
  exact (wf.mem_pot m q).mpr ⟨⟨e, he, hm, ht ▸ hte⟩, hq⟩

private theorem match_some {L l : List TP} (h : (match L with | [] => none | l => some l) = some l) :
    L = l ∧ l ≠ [] := by
  cases L with
  | nil => cases h
  | cons a r => cases h; exact ⟨rfl, List.cons_ne_nil _ _⟩

theorem actualCandidates_some {mv : Movements} {p : TP} {old new : Member} {l : List TP}
    (h : actualCandidates mv p old new = some l) : l ≠ [] ∧ ∀ q, q ∈ l → q.1 = p.1 ∧ ∃ e, e ∈ mv ∧ e.1 = q := by
  unfold actualCandidates at h
  by_cases h1 : (!(mv.any (fun e => e.1.1 == p.1))) = true
  · rw [if_pos h1] at h; cases h
  · rw [if_neg h1] at h
    obtain ⟨hL, hne⟩ := match_some h
    refine ⟨hne, fun q hq => ?_⟩
    -- `q` is the partition of a recorded movement that passed the filter on the topic
    obtain ⟨e, he, heq⟩ := List.mem_map.mp (hL ▸ hq)
    have ht := (Bool.and_eq_true_iff.mp (Bool.and_eq_true_iff.mp (List.mem_filter.mp he).2).1).1
    exact ⟨heq ▸ eq_of_beq ht, e, (List.mem_filter.mp he).1, heq⟩

theorem actualOK_cases {mv : Movements} {p q : TP} {old new : Member} (h : actualOK mv p q old new = true) :
    q = p ∨ (q.1 = p.1 ∧ ∃ e, e ∈ mv ∧ e.1 = q) := by
  unfold actualOK at h
  cases hc : actualCandidates mv p old new with
  | none => rw [hc] at h; exact Or.inl (eq_of_beq h)
  | some l => rw [hc] at h; exact Or.inr ((actualCandidates_some hc).2 q (List.contains_iff_mem.mp h))

theorem exists_actualOK (mv : Movements) (p : TP) (old new : Member) : ∃ q, actualOK mv p q old new = true := by
  unfold actualOK
  cases hc : actualCandidates mv p old new with
  | none => exact ⟨p, beq_iff_eq.mpr rfl⟩
  | some l =>
    obtain ⟨a, ha⟩ := List.exists_mem_of_ne_nil l (actualCandidates_some hc).1
    exact ⟨a, List.contains_iff_mem.mpr ha⟩

theorem runOps_runs (v : Variant) (env : SEnv) : Lemmas.Run.Runs (fun st op st' => guard v env st op = true ∧ st' = apply v env st op)
    (fun st ops st' => runOps v env st ops = some st') where
  nil := ⟨fun h => (Option.some.inj h).symm, fun h => h ▸ rfl⟩
  cons := by
    refine ⟨fun h => ?_, fun ⟨_, ⟨hg, e⟩, h⟩ => by rw [runOps, if_pos hg]; exact e ▸ h⟩
    rw [runOps] at h
    split at h
    · exact ⟨_, ⟨‹_›, rfl⟩, h⟩
    · cases h

theorem runOps_cons_some {v : Variant} {env : SEnv} {st st' : SState} {op : SOp} {r : List SOp}
    (h : runOps v env st (op :: r) = some st') :
    guard v env st op = true ∧ runOps v env (apply v env st op) r = some st' :=
  let ⟨_, ⟨hg, e⟩, h⟩ := (runOps_runs v env).cons.mp h; ⟨hg, e ▸ h⟩

theorem runOps_induct {v : Variant} {env : SEnv} {P : SState → Prop} (ops : List SOp) (st st' : SState)
    (step : ∀ st op, op ∈ ops → P st → guard v env st op = true → P (apply v env st op)) (h : P st)
    (hr : runOps v env st ops = some st') : P st' :=
  (runOps_runs v env).inv_on (· ∈ ops) P (fun s op _ hm hp ⟨hg, e⟩ => e ▸ step s op hm hp hg) hr (fun _ h => h) h

theorem apply_move_eq {α : Type} (f : SState → α) (hf : ∀ st q m, f (processMove st q m) = f st)
    (v : Variant) (env : SEnv) (st : SState) (p q : TP) :
    f (apply v env st (.movePrev p q)) = f st ∧ f (apply v env st (.moveOther p q)) = f st := by
  constructor
  · show f (match prevOf env p with | some pm => processMove st q pm | none => st) = f st
    cases prevOf env p with
    | none => rfl
    | some pm => exact hf ..
  · show f (match newConsumerFor st.cur env.pot p with | some new => processMove st q new | none => st) = f st
    cases newConsumerFor st.cur env.pot p with
    | none => rfl
    | some new => exact hf ..

theorem processMove_assigned (st : SState) (q : TP) (m : Member) : (processMove st q m).assigned = st.assigned := by
  unfold processMove
  cases ownerGet st.owner q <;> rfl

theorem processMove_reverted (st : SState) (q : TP) (m : Member) : (processMove st q m).reverted = st.reverted := by
  unfold processMove
  cases ownerGet st.owner q <;> rfl

theorem finish_of_not_reverted (v : Variant) {st : SState} (h : st.reverted = false) :
    finish v st = addFixed st.cur st.fixed := by
  unfold finish
  rw [h]
  cases v <;> rfl

theorem assigned_mono (v : Variant) (env : SEnv) (st : SState) (op : SOp) (h : st.assigned = true) :
    (apply v env st op).assigned = true := by
  cases op with
  | assignAll us => rfl
  | movePrev p q => exact (apply_move_eq (·.assigned) processMove_assigned ..).1.trans h
  | moveOther p q => exact (apply_move_eq (·.assigned) processMove_assigned ..).2.trans h
  | revert =>
    simp only [apply]
    cases v <;> cases st.snap <;> exact h
  | _ => exact h

theorem apply_reverted (v : Variant) (env : SEnv) (st : SState) {op : SOp} (h : op ≠ .revert) :
    (apply v env st op).reverted = st.reverted := by
  cases op with
  | revert => exact absurd rfl h
  | movePrev p q => exact (apply_move_eq (·.reverted) processMove_reverted ..).1
  | moveOther p q => exact (apply_move_eq (·.reverted) processMove_reverted ..).2
  | _ => rfl

end Model.Balance
