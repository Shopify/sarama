/-
  C02 composition, per-stay split: the relation between a run with re-selection (state `s`) and its handover chain
  (state `t`).  Ghost `g`: for every real worker the chain worker of the stay it is serving (`a`) and the chain
  workers of the stays still waiting behind it in its input channel (`L`, oldest first); nothing for a real worker
  that was never selected.  The real worker's input is the concatenation of their inputs; its state is the state of
  `a`; the waiting stays are untouched fresh workers.
-/
import SaramaVerif.Props.C02stays

namespace Lemmas.C02sys
open Model Model.Pipeline Props.C02sys

abbrev Ghost := Nat → Option (Nat × List Nat)

theorem setF_same {α : Type} (f : Nat → α) (w : Nat) (v : α) : setF f w v w = v := if_pos rfl

theorem setF_other {α : Type} (f : Nat → α) {w w' : Nat} (v : α) (h : w' ≠ w) : setF f w v w' = f w' := if_neg h

def inqOf (t : Sys) (l : List Nat) : List Tok := l.flatMap (fun id => (t.wk id).inq)

/-- the chain workers of a real worker: the stay it is serving, then the stays waiting -/
def live (x : Nat × List Nat) : List Nat := x.1 :: x.2

/-- the chain worker that takes what the partition producer sends to the real worker: its newest stay -/
def lastOf (x : Nat × List Nat) : Nat := (x.1 :: x.2).getLast (by simp)

theorem lastOf_nil (a : Nat) : lastOf (a, []) = a := rfl

theorem lastOf_cons (a b : Nat) (L : List Nat) : lastOf (a, b :: L) = lastOf (b, L) := by
  simp only [lastOf]; rw [List.getLast_cons (List.cons_ne_nil _ _)]

theorem lastOf_append (a : Nat) (L : List Nat) (id : Nat) : lastOf (a, L ++ [id]) = id :=
  List.getLast_concat (l := a :: L)

theorem lastOf_mem (x : Nat × List Nat) : lastOf x ∈ live x := List.getLast_mem _

theorem lastOf_ne {a : Nat} {L : List Nat} (hL : L ≠ []) (hnd : (live (a, L)).Nodup) : lastOf (a, L) ≠ a := by
  cases L with
  | nil => exact absurd rfl hL
  | cons b r => rw [lastOf_cons]; exact fun e => (List.nodup_cons.1 hnd).1 (e ▸ lastOf_mem (b, r))

/-- the real worker that the chain workers `a :: L` stand for -/
def mergeW (t : Sys) (a : Nat) (L : List Nat) : Worker := ⟨(t.wk a).inq ++ inqOf t L, (t.wk a).bp, (t.wk a).pend⟩

/-- a state without its workers and the partition producer's binding: the two runs agree on the rest (`RelW.outer`) -/
def outerOf (s : Sys) : Sys := { s with wk := fun _ => {}, cur := none }

/-- the ghost by itself: the chain workers of a real worker have been named, on the same broker (`id / 64` is
    `brokerOf id`), no chain worker stands for two stays, and the numbering leaves room for fresh ones -/
structure GOK (seen : List Nat) (g : Ghost) : Prop where
  ids  : ∀ w x, g w = some x → ∀ id ∈ live x, id ∈ seen ∧ id / 64 = w / 64
  disj : ∀ w w' x x', g w = some x → g w' = some x' → w ≠ w' → ∀ id ∈ live x, id ∉ live x'
  nd   : ∀ w x, g w = some x → (live x).Nodup
  idn  : ∀ id ∈ seen, id % 64 < seen.length

/-- a real worker in state `k` and its chain workers `a :: L`: the waiting stays are untouched and not empty, the stay
    served is not empty while others wait behind it, and once it is used up and left it is as a fresh worker -/
structure StayRel (t : Sys) (k : Worker) (a : Nat) (L : List Nat) : Prop where
  wk      : k = mergeW t a L
  later   : ∀ id ∈ L, (t.wk id).inq ≠ [] ∧ (t.wk id).bp = {} ∧ (t.wk id).pend = none
  actne   : L ≠ [] → (t.wk a).inq ≠ []
  drained : L = [] → (t.wk a).inq = [] → t.cur ≠ some a → (t.wk a).bp = {} ∧ (t.wk a).pend = none

/-- the part of the relation that does not need the chain to be a reachable state -/
structure RelW (seen : List Nat) (g : Ghost) (s t : Sys) : Prop extends GOK seen g where
  outer : outerOf s = outerOf t
  idle  : ∀ w, g w = none → s.wk w = {}
  stay  : ∀ w a L, g w = some (a, L) → StayRel t (s.wk w) a L
  cur   : (s.cur = none ∧ t.cur = none) ∨ ∃ w x, s.cur = some w ∧ g w = some x ∧ t.cur = some (lastOf x)
  blank : ∀ id, id ∉ seen → t.wk id = {}

structure Rel (M : Nat) (seen : List Nat) (g : Ghost) (s t : Sys) : Prop extends RelW seen g s t where
  cinv : CInv M seen t

variable {M : Nat} {seen : List Nat} {g : Ghost} {s t s' t' : Sys}

theorem RelW.dq (h : RelW seen g s t) : s.dq = t.dq :=
  (congrArg Sys.dq h.outer :)
theorem RelW.pq (h : RelW seen g s t) : s.pq = t.pq :=
  (congrArg Sys.pq h.outer :)
theorem RelW.pp (h : RelW seen g s t) : s.pp = t.pp :=
  (congrArg Sys.pp h.outer :)
theorem RelW.ret (h : RelW seen g s t) : s.ret = t.ret :=
  (congrArg Sys.ret h.outer :)
theorem RelW.ldr (h : RelW seen g s t) : s.ldr = t.ldr :=
  (congrArg Sys.ldr h.outer :)
theorem RelW.log (h : RelW seen g s t) : s.log = t.log :=
  (congrArg Sys.log h.outer :)
theorem RelW.succ (h : RelW seen g s t) : s.succ = t.succ :=
  (congrArg Sys.succ h.outer :)
theorem RelW.errs (h : RelW seen g s t) : s.errs = t.errs :=
  (congrArg Sys.errs h.outer :)

theorem rel_init (M : Nat) : Rel M [] (fun _ => none) {} {} :=
  have E {α : Sort _} {p : Prop} {x : α} : (none : Option α) = some x → p := nofun
  { ids := fun _ _ => E, disj := fun _ _ _ _ => E, nd := fun _ _ => E, idn := List.forall_mem_nil _, outer := rfl,
    idle := fun _ _ => rfl, stay := fun _ _ _ => E, cur := .inl ⟨rfl, rfl⟩, blank := fun _ _ => rfl,
    cinv := chain_init M }

theorem inqOf_congr {t t' : Sys} {l : List Nat} (h : ∀ id ∈ l, t'.wk id = t.wk id) : inqOf t' l = inqOf t l := by
  induction l with
  | nil => rfl
  | cons x r ih =>
    rw [inqOf, List.flatMap_cons, h x (List.mem_cons_self ..), ← inqOf, ih (fun id hid => h id (List.mem_cons_of_mem _ hid))]
    rfl

theorem StayRel.congr {t t' : Sys} {k : Worker} {a : Nat} {L : List Nat} (h : StayRel t k a L)
    (hw : ∀ id ∈ live (a, L), t'.wk id = t.wk id) (hc : t.cur = some a → t'.cur = some a) : StayRel t' k a L := by
  have ha := hw a (List.mem_cons_self ..)
  have hL : ∀ id ∈ L, t'.wk id = t.wk id := fun id hid => hw id (List.mem_cons_of_mem _ hid)
  refine ⟨?_, fun id hid => ?_, fun hl => ?_, fun hl hi hcc => ?_⟩
  · rw [h.wk, mergeW, mergeW, ha, inqOf_congr hL]
  · rw [hL id hid]; exact h.later id hid
  · rw [ha]; exact h.actne hl
  · rw [ha] at hi ⊢; exact h.drained hl hi (fun e => hcc (hc e))

theorem RelW.not_cur (h : RelW seen g s t) {w a b : Nat} {L : List Nat}
    (hg : g w = some (a, b :: L)) : t.cur ≠ some a := by
  rcases h.cur with ⟨_, e⟩ | ⟨w', x', _, e2, e3⟩
  · exact fun e' => nomatch e.symm.trans e'
  · rw [e3]; intro e
    by_cases hw : w' = w
    · subst hw; rw [hg] at e2; cases e2
      exact lastOf_ne (List.cons_ne_nil _ _) (h.nd w' _ hg) (Option.some.inj e)
    · exact h.disj w' w x' _ e2 hg hw a (Option.some.inj e ▸ lastOf_mem x') (List.mem_cons_self ..)

theorem RelW.other {s t t' : Sys} (h : RelW seen g s t) {a0 w : Nat}
    (ht' : ∀ id, id ≠ a0 → t'.wk id = t.wk id) (ha0 : (∃ x, g w = some x ∧ a0 ∈ live x) ∨ a0 ∉ seen)
    (hcur : ∀ a', a' ≠ a0 → t.cur = some a' → t'.cur = some a') {w' : Nat} (hw : w' ≠ w)
    {a : Nat} {L : List Nat} (hg' : g w' = some (a, L)) : StayRel t' (s.wk w') a L := by
  have hne : ∀ id ∈ live (a, L), id ≠ a0 := by
    rintro id hid rfl
    rcases ha0 with ⟨x, hg, hx⟩ | hn
    · exact h.disj w w' x _ hg hg' (Ne.symm hw) id hx hid
    · exact hn (h.ids w' _ hg' id hid).1
  exact (h.stay w' a L hg').congr (fun id hid => ht' id (hne id hid)) (hcur a (hne a (List.mem_cons_self ..)))

/-- a step of real worker `w` against a step of one chain worker `a0`, which is one of its stays or not named so
    far: what is left to show is what the relation says of `w` and of the binding.  The hypotheses: the new ghost is
    well-formed over `seen' ⊇ seen` and differs from `g` at `w` only, where it is `x'` (`hgok`, `hsub`, `hg'`, `hgw`);
    what `a0` is (`ha0`, `ha0'`); the other real workers, the other chain workers and a binding to another chain worker
    are as before (`hs'`, `ht'`, `hcur`); and the three clauses left: the binding, `w` against `x'`, the rest of the
    state (`hc`, `hstay`, `ho`) -/
theorem RelW.set {seen seen' : List Nat} {g g' : Ghost} (h : RelW seen g s t) (hgok : GOK seen' g')
    (hsub : ∀ id ∈ seen, id ∈ seen') {w a0 : Nat} {x' : Nat × List Nat} (hg' : ∀ w', w' ≠ w → g' w' = g w')
    (hgw : g' w = some x') (ha0 : (∃ x, g w = some x ∧ a0 ∈ live x) ∨ a0 ∉ seen) (ha0' : a0 ∈ seen')
    (hs' : ∀ w', w' ≠ w → s'.wk w' = s.wk w') (ht' : ∀ id, id ≠ a0 → t'.wk id = t.wk id)
    (hcur : ∀ a', a' ≠ a0 → t.cur = some a' → t'.cur = some a')
    (hc : (s'.cur = none ∧ t'.cur = none) ∨ ∃ w x, s'.cur = some w ∧ g' w = some x ∧ t'.cur = some (lastOf x))
    (hstay : StayRel t' (s'.wk w) x'.1 x'.2) (ho : outerOf s' = outerOf t') : RelW seen' g' s' t' := by
  refine { hgok with outer := ho, idle := fun w' hw' => ?_, stay := fun w' a' L' hw' => ?_, cur := hc,
                     blank := fun id hid => ?_ }
  · have hw : w' ≠ w := fun e => by rw [e, hgw] at hw'; cases hw'
    rw [hs' w' hw]; exact h.idle w' (hg' w' hw ▸ hw')
  · by_cases hw : w' = w
    · subst hw; rw [hgw] at hw'; cases hw'; exact hstay
    · rw [hs' w' hw]; exact h.other ht' ha0 hcur hw (hg' w' hw ▸ hw')
  · rw [ht' id (fun e => hid (e ▸ ha0'))]; exact h.blank id (fun e => hid (hsub id e))

theorem RelW.frame (h : RelW seen g s t)
    (hw : s'.wk = s.wk) (hw' : t'.wk = t.wk) (hc : s'.cur = s.cur) (hc' : t'.cur = t.cur)
    (ho : outerOf s' = outerOf t') : RelW seen g s' t' :=
  { h.toGOK with
    outer := ho
    idle := fun w hg => by rw [hw]; exact h.idle w hg
    stay := fun w a L hg => by
      rw [hw]; exact (h.stay w a L hg).congr (fun id _ => congrFun hw' id) (fun e => hc'.trans e)
    cur := by rw [hc, hc']; exact h.cur
    blank := fun id hid => by rw [hw']; exact h.blank id hid }

/-- the chain answers choice `c` of the run with re-selection, which has led to `s'`, by a choice that names as
    many workers at most, all of them fresh -/
def Sim (M : Nat) (seen : List Nat) (s' t : Sys) (c : Choice) : Prop :=
  ∃ c' g' t', sysStep M t c' = some t' ∧ Rel M (seen ++ lookupsOf c') g' s' t' ∧
    (lookupsOf c').length ≤ (lookupsOf c).length ∧ Fresh seen (lookupsOf c')

theorem Rel.step {g g' : Ghost} (hM : 1 ≤ M) (h : Rel M seen g s t)
    {c c' : Choice} (hl : lookupsOf c' = []) (ht : Step M t c' t') (hr : RelW seen g' s' t') : Sim M seen s' t c := by
  have hc := chain_step hM c' (fun w hw => by rw [hl] at hw; cases hw) h.cinv (step_iff.2 ht)
  refine ⟨c', g', t', step_iff.2 ht, ?_, ?_, ?_⟩ <;> rw [hl] at *
  · rw [List.append_nil] at hc ⊢; exact ⟨hr, hc⟩
  · exact Nat.zero_le _
  · exact Fresh.nil seen

/-- real worker `w` gets the chain workers `x'`, each newly named on `w`'s broker or one of `w`'s own before (`hx`) -/
theorem GOK.set {seen seen' : List Nat} (h : GOK seen g) (hsub : ∀ id ∈ seen, id ∈ seen')
    (hidn : ∀ id ∈ seen', id % 64 < seen'.length) (w : Nat) (x' : Nat × List Nat)
    (hx : ∀ id ∈ live x', (id ∈ seen' ∧ id ∉ seen ∧ id / 64 = w / 64) ∨ ∃ x, g w = some x ∧ id ∈ live x)
    (hnd : (live x').Nodup) : GOK seen' (setF g w (some x')) := by
  have hoth : ∀ w1 x1, w1 ≠ w → g w1 = some x1 → ∀ id ∈ live x1, id ∉ live x' := by
    intro w1 x1 hw1 h1 id hid hm
    rcases hx id hm with ⟨_, hn, _⟩ | ⟨x, hg, hx⟩
    · exact hn (h.ids w1 x1 h1 id hid).1
    · exact h.disj w1 w x1 x h1 hg hw1 id hid hx
  have hold : ∀ w1 x1, g w1 = some x1 → ∀ id ∈ live x1, id ∈ seen' ∧ id / 64 = w1 / 64 := fun w1 x1 h1 id hid =>
    ⟨hsub id (h.ids w1 x1 h1 id hid).1, (h.ids w1 x1 h1 id hid).2⟩
  refine ⟨fun w1 x1 h1 id hid => ?_, fun w1 w2 x1 x2 h1 h2 hne id hid => ?_, fun w1 x1 h1 => ?_, hidn⟩
  · by_cases hw1 : w1 = w
    · subst hw1; rw [setF_same] at h1; cases h1
      rcases hx id hid with ⟨k1, _, k3⟩ | ⟨x, hg, hx⟩
      · exact ⟨k1, k3⟩
      · exact hold w1 x hg id hx
    · rw [setF_other _ _ hw1] at h1; exact hold w1 x1 h1 id hid
  · by_cases hw1 : w1 = w
    · subst hw1; rw [setF_same] at h1; cases h1
      rw [setF_other _ _ (Ne.symm hne)] at h2
      exact fun hm => hoth w2 x2 (Ne.symm hne) h2 id hm hid
    · rw [setF_other _ _ hw1] at h1
      by_cases hw2 : w2 = w
      · subst hw2; rw [setF_same] at h2; cases h2; exact hoth w1 x1 hw1 h1 id hid
      · rw [setF_other _ _ hw2] at h2; exact h.disj w1 w2 x1 x2 h1 h2 hne id hid
  · by_cases hw1 : w1 = w
    · subst hw1; rw [setF_same] at h1; cases h1; exact hnd
    · rw [setF_other _ _ hw1] at h1; exact h.nd w1 x1 h1

end Lemmas.C02sys
