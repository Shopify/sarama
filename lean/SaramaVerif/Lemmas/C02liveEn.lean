/-
  C02 composition, progress: ENABLEDNESS.  In every state in which the expected chasers are on their way (`FinS`;
  and `Base`, which every run keeps) either a choice that moves a token (anything but `submit` / `moveLeader` /
  `closeW`) is enabled, or the system is quiet: all channels, workers and retry buffers are empty.
-/
import SaramaVerif.Lemmas.C02liveFin
import SaramaVerif.Lemmas.C02base

namespace Lemmas.C02sys
open Model Model.Pipeline Model.BrokerProd

def moves : Choice → Bool
  | .submit => false
  | .moveLeader _ => false
  | .closeW _ => false   -- no token moves: the worker only changes its mode
  | _ => true

def Enabled (M : Nat) (s : Sys) : Prop := ∃ c, moves c = true ∧ (sysStep M s c).isSome = true

/-- worker `w` holds no token and no prepared answer; the flags of its state (`closing`, `cr`, `stale`) are left open -/
def IdleW (s : Sys) (w : Nat) : Prop :=
  (s.wk w).inq = [] ∧ (s.wk w).bp.buffer = [] ∧ (s.wk w).bp.wait = none ∧ (s.wk w).bp.sets = [] ∧
  (s.wk w).pend = none

theorem worker_enabled (M : Nat) (s : Sys) (w : Nat)
    (hpend : ∀ vd base, (s.wk w).pend = some (vd, base) → ∃ sent, (s.wk w).bp.sets = [sent]) (h : ¬ IdleW s w) :
    Enabled M s := by
  have run : ∀ {c q pend off i}, moves c = true → Feeds s w c q pend off i →
      (step M (s.wk w).bp i).2 ≠ [.disabled] → Enabled M s := fun hm hf hd => ⟨_, hm, (Step.worker hf hd).isSome⟩
  cases hp : (s.wk w).pend with
  | some vb =>
    obtain ⟨sent, e⟩ := hpend _ _ hp
    exact run rfl (.deliver false hp) (resp_enabled _ _ _ _ (e ▸ List.cons_ne_nil _ _))
  | none =>
    cases hs : (s.wk w).bp.sets with
    | cons sent rest => exact ⟨.broker w .fatal, rfl, (Step.broker hs hp (by simp [Verdict.appends])).isSome⟩
    | nil =>
      cases hw : (s.wk w).bp.wait with
      | some t => exact run rfl .handover (handover_enabled _ _ hs (.inl (by simp [hw])))
      | none =>
        cases hq : (s.wk w).inq with
        | cons t r => exact run (c := .bpRecv w false) rfl (.recv false hq) (recv_enabled _ _ _ _ hw)
        | nil =>
          cases hb : (s.wk w).bp.buffer with
          | cons x r => exact run rfl .handover (handover_enabled _ _ hs (.inr (by simp [hb])))
          | nil => exact absurd ⟨hq, hb, hw, hs, hp⟩ h

/-- nothing is left anywhere: p.input, pp.input, the retries queue, every worker's input channel, buffer, held message,
    bridge and pending answer, and every retry buffer of the partition producer are empty -/
def Quiet (s : Sys) : Prop :=
  s.dq = [] ∧ s.pq = [] ∧ s.ret = [] ∧ (∀ w, IdleW s w) ∧ ∀ k, s.pp.bufs k = []

theorem enabled_or_quiet {M : Nat} {s : Sys} (hb : Base M s) (hf : FinS s) : Enabled M s ∨ Quiet s := by
  cases hd : s.dq with
  | cons t r => exact Or.inl ⟨.dispatch, rfl, (Step.dispatch hd).isSome⟩
  | nil =>
  cases hq : s.pq with
  | cons t r => exact Or.inl ⟨.ppRecv [], rfl, (Step.ppRecv [] hq).isSome⟩
  | nil =>
  cases hr : s.ret with
  | cons t r => exact Or.inl ⟨.retryOut, rfl, (Step.retryOut hr).isSome⟩
  | nil =>
  by_cases hi : ∀ w, IdleW s w
  · refine Or.inr ⟨hd, hq, hr, hi, fun k => ?_⟩
    cases he : s.pp.bufs k with
    | nil => rfl
    | cons x r =>
      exfalso
      have hk : k < s.pp.hwm := by
        rcases Nat.lt_or_ge k s.pp.hwm with h | h
        · exact h
        · rw [hb.ppinv.above k h] at he; cases he
      rcases hf.onWay _ (hf.top (Nat.zero_lt_of_lt hk)) with ⟨f, hm, _⟩ | ⟨w, f, hm, _⟩
      · simp [hd, hq, hr] at hm
      · rw [(hi w).1] at hm; cases hm
  · have : ∃ w, ¬ IdleW s w := Classical.not_forall.1 hi
    obtain ⟨w, hw⟩ := this
    exact Or.inl (worker_enabled M s w (hb.pend w) hw)

end Lemmas.C02sys
