import SaramaVerif.Lemmas.C03Resp
import SaramaVerif.Model.Txn
/-
  C03 / C11: the log annotated by the ground truth of an isolation level (`annot`; cut at a response it is `annUnits`
  with the flags `truthKeeps`), the decoder's removal of empty batches, one response over that annotation
  (`resp_annot`), a read-uncommitted response (`resp_static`), what a response does to the consumer state whatever is
  kept (`resp_progress`), and the induction over fetch histories (`hist_window`).
-/
namespace Lemmas.C03
open Model.ConsumerParse Model.Txn

theorem logWF_pairwise (tsw : Bool) (L : List LUnit) : ∀ (b : Int), LogWF tsw b L →
    L.Pairwise (fun u v => unitHi u < unitHi v) ∧ ∀ u ∈ L, b < unitHi u := by
  induction L with
  | nil => exact fun _ _ => ⟨List.Pairwise.nil, fun _ h => nomatch h⟩
  | cons u us ih =>
    intro b ⟨_, _, h3, h4⟩
    have ⟨i1, i2⟩ := ih _ h4
    exact ⟨List.Pairwise.cons i2 i1, fun v hv => (List.mem_cons.1 hv).elim (· ▸ h3) fun hv => Int.lt_trans h3 (i2 v hv)⟩

theorem run_reaches {tsw : Bool} {b0 o : Int} {L pre run post : List LUnit} (hwf : LogWF tsw b0 L)
    (hL : L = pre ++ run ++ post) (hhead : ∀ u, run.head? = some u → o ≤ unitHi u) : ∀ u ∈ run, o ≤ unitHi u := by
  have hp := (logWF_pairwise tsw L b0 hwf).1.sublist
    (hL ▸ (List.sublist_append_right pre run).trans (List.sublist_append_left _ post))
  cases run with
  | nil => exact fun _ h => nomatch h
  | cons u0 us =>
    intro u hu
    rcases List.mem_cons.1 hu with rfl | hu
    · exact hhead _ rfl
    · exact Int.le_trans (hhead u0 rfl) (Int.le_of_lt ((List.pairwise_cons.1 hp).1 u hu))

theorem LogWF.mono {tsw : Bool} {b b' : Int} (h : b' ≤ b) : ∀ {L}, LogWF tsw b L → LogWF tsw b' L
  | [], _ => trivial
  | _ :: _, ⟨h1, h2, h3, h4⟩ => ⟨Asc.mono h h1, h2, Int.lt_of_le_of_lt h h3, h4⟩

theorem LogWF.sublist {tsw : Bool} {L' L : List LUnit} (hs : List.Sublist L' L) : ∀ {b}, LogWF tsw b L → LogWF tsw b L' := by
  induction hs with
  | slnil => exact id
  | cons _ _ ih => exact fun ⟨_, _, h3, h4⟩ => LogWF.mono (Int.le_of_lt h3) (ih h4)
  | cons_cons _ _ ih => exact fun ⟨h1, h2, h3, h4⟩ => ⟨h1, h2, h3, ih h4⟩

/-- ground-truth keep flags of the entries of a response followed in the log by `post` -/
def truthKeeps (rc : Bool) : List Entry → List LUnit → List Bool
  | [], _ => []
  | .legacy _ :: es, post => true :: truthKeeps rc es post
  | .batch b :: es, post => keepIso rc (.bat b) (es.flatMap entryUnits ++ post) :: truthKeeps rc es post

def annotS (rc : Bool) : List LUnit → List LUnit → List (LUnit × Bool)
  | [], _ => []
  | u :: us, T => (u, keepIso rc u (us ++ T)) :: annotS rc us T

theorem annot_append (rc : Bool) : ∀ (A T : List LUnit), annot rc (A ++ T) = annotS rc A T ++ annot rc T
  | [], _ => rfl
  | u :: us, T => congrArg ((u, keepIso rc u (us ++ T)) :: ·) (annot_append rc us T)

theorem annotS_append (rc : Bool) : ∀ (A B T : List LUnit), annotS rc (A ++ B) T = annotS rc A (B ++ T) ++ annotS rc B T
  | [], _, _ => rfl
  | u :: us, B, T => by simp [annotS, annotS_append rc us B T, List.append_assoc]

theorem annotS_fst (rc : Bool) : ∀ (A T : List LUnit), (annotS rc A T).map Prod.fst = A
  | [], _ => rfl
  | u :: us, T => congrArg (u :: ·) (annotS_fst rc us T)

theorem annot_fst (rc : Bool) : ∀ (L : List LUnit), (annot rc L).map Prod.fst = L
  | [] => rfl
  | u :: us => congrArg (u :: ·) (annot_fst rc us)

theorem annotS_blks (rc : Bool) : ∀ (blks : List LBlock) (T : List LUnit),
    annotS rc (blks.map LUnit.blk) T = blks.map (fun b => (LUnit.blk b, true))
  | [], _ => rfl
  | x :: xs, T => by
      simp only [List.map_cons, annotS, annotS_blks rc xs T]
      cases rc <;> simp [keepIso, keepRC, unitIsControl]

theorem annotS_units (rc : Bool) : ∀ (es : List Entry) (post : List LUnit),
    annotS rc (es.flatMap entryUnits) post = annUnits es (truthKeeps rc es post)
  | [], _ => rfl
  | .legacy blks :: es, post => by
      simp only [List.flatMap_cons, entryUnits, annotS_append, annotS_blks, truthKeeps, annUnits, annotS_units rc es post]
  | .batch b :: es, post => by
      simp only [List.flatMap_cons, entryUnits, truthKeeps, annUnits, List.cons_append, List.nil_append, annotS,
        annotS_units rc es post]

theorem visibleIso_eq (rc tsw : Bool) (L : List LUnit) :
    visibleIso rc tsw L = segVis (annSegs tsw (annot rc L)) := by
  simp only [visibleIso, segVis, annSegs, List.flatMap_map, unitSeg]
  rfl

theorem visibleIso_uncommitted (tsw : Bool) : ∀ (L : List LUnit), visibleIso false tsw L = visible tsw L
  | [] => rfl
  | u :: us => by
      have ih := visibleIso_uncommitted tsw us
      simp only [visibleIso, visible, annot, List.flatMap_cons, keepIso] at ih ⊢
      rw [ih]
      cases h : unitIsControl u <;> simp

theorem visibleIso_asc (rc tsw : Bool) {L : List LUnit} {b0 : Int} (h : LogWF tsw b0 L) : Asc b0 (visibleIso rc tsw L) := by
  rw [visibleIso_eq]
  exact segVis_asc (segsWF_ann _ _ _ (by rw [annot_fst]; exact h))

/-- the isolation hypothesis of C03, on one response; under it the aborted-transaction index is never consulted -/
def IsoOK (cfg : Cfg) (es : List Entry) : Prop :=
  cfg.readCommitted = false ∨ ∀ b, Entry.batch b ∈ es → b.txn = false

theorem keeps_static (cfg : Cfg) (es : List Entry) (post : List LUnit) : ∀ (rem : List (Int × Int)) (abs : List Int),
    IsoOK cfg es → keeps cfg es rem abs = truthKeeps false es post := by
  induction es with
  | nil => exact fun _ _ _ => rfl
  | cons e es ih =>
    intro rem abs h
    have ih := fun rem abs => ih rem abs (h.imp id fun h b hb => h b (List.mem_cons_of_mem _ hb))
    cases e with
    | legacy _ => rw [keeps, ih]; rfl
    | batch b =>
      have hn : ¬ (cfg.readCommitted = true ∧ b.txn = true ∧ b.pid ∈ (consumeAborted (batchLast b) rem abs).2) :=
        fun ⟨h1, h2, _⟩ => h.elim (fun h => Bool.noConfusion (h.symm.trans h1))
          fun h => Bool.noConfusion ((h b List.mem_cons_self).symm.trans h2)
      rw [keeps, ih, decide_eq_false hn, Bool.not_false, Bool.and_true]
      rfl

theorem decodeView_cons (e : Entry) (es : List Entry) :
    decodeView (e :: es) = if entryCount e ≠ 0 then e :: decodeView es else decodeView es := by
  simp only [decodeView, List.filter_cons]
  by_cases h : entryCount e = 0 <;> simp [h]

theorem decodeView_units_sublist : ∀ (es : List Entry),
    ((decodeView es).flatMap entryUnits).Sublist (es.flatMap entryUnits)
  | [] => List.Sublist.slnil
  | e :: es => by
      rw [decodeView_cons]
      split
      · simp only [List.flatMap_cons]
        exact List.Sublist.append (List.Sublist.refl _) (decodeView_units_sublist es)
      · simp only [List.flatMap_cons]
        exact (decodeView_units_sublist es).trans (List.sublist_append_right _ _)

theorem entry_empty_visible (tsw : Bool) (e : Entry) (h : entryCount e = 0) : visible tsw (entryUnits e) = [] := by
  cases e with
  | legacy blks =>
    have : blks = [] := List.eq_nil_of_length_eq_zero h
    subst this; rfl
  | batch b =>
    have : b.recs = [] := List.eq_nil_of_length_eq_zero h
    simp [visible, entryUnits, unitRecs, batchRecs, this]

theorem visible_append (tsw : Bool) (a b : List LUnit) : visible tsw (a ++ b) = visible tsw a ++ visible tsw b := by
  simp [visible, List.flatMap_append]

theorem decodeView_visible (tsw : Bool) : ∀ (es : List Entry),
    visible tsw ((decodeView es).flatMap entryUnits) = visible tsw (es.flatMap entryUnits)
  | [] => rfl
  | e :: es => by
      rw [decodeView_cons]
      split
      · simp only [List.flatMap_cons, visible_append, decodeView_visible tsw es]
      · rename_i h
        have h0 : entryCount e = 0 := by simpa using h
        simp only [List.flatMap_cons, visible_append, decodeView_visible tsw es, entry_empty_visible tsw e h0,
          List.nil_append]

theorem decodeView_ne_nil {es : List Entry} (h : nRecs es ≠ 0) : decodeView es ≠ [] := by
  intro hn
  refine h (List.sum_eq_zero_iff_forall_eq_nat.2 fun x hx => ?_)
  obtain ⟨e, he, rfl⟩ := List.mem_map.1 hx
  simpa using List.filter_eq_nil_iff.1 hn e he

theorem decodeView_mem {es : List Entry} {e : Entry} (h : e ∈ decodeView es) : e ∈ es := by
  simp only [decodeView, List.mem_filter] at h; exact h.1

theorem decodeView_id {es : List Entry} (hb : ∀ b, Entry.batch b ∈ es → b.recs ≠ [])
    (hl : ∀ blks, Entry.legacy blks ∈ es → blks ≠ []) : decodeView es = es := by
  unfold decodeView
  apply List.filter_eq_self.2
  intro e he
  cases e with
  | legacy blks =>
    have := hl blks he
    simp only [entryCount, ne_eq]
    exact decide_eq_true (fun h => this (List.eq_nil_of_length_eq_zero h))
  | batch b =>
    have := hb b he
    simp only [entryCount, ne_eq]
    exact decide_eq_true (fun h => this (List.eq_nil_of_length_eq_zero h))

/-- `hk`: the keep decisions of parseResponse are the ground truth of isolation level `rc` (`keeps_static`,
    `Lemmas.C11.keeps_truth`). The log is given in pieces: the entries the decoder keeps are a run of it. -/
theorem resp_annot (cfg : Cfg) (rc : Bool) (st : PState) (es : List Entry) (pt : Bool) (ab : List (Int × Int))
    (pre post : List LUnit) (b0 : Int) (hn : nRecs es ≠ 0)
    (hwf : LogWF cfg.tsFromWrapper b0 (pre ++ (decodeView es).flatMap entryUnits ++ post))
    (hpre : ∀ u ∈ pre, unitHi u < st.offset)
    (hhead : ∀ u, ((decodeView es).flatMap entryUnits).head? = some u → st.offset ≤ unitHi u)
    (hne : ∀ blks, Entry.legacy blks ∈ decodeView es → blks ≠ [])
    (hbad : ∀ e ∈ decodeView es, entryBadCtl e = false)
    (hk : keeps cfg (decodeView es) (sortAborted ab) [] = truthKeeps rc (decodeView es) post) :
    (parseBlock cfg st (.data es pt ab)).1 = window st.offset (parseBlock cfg st (.data es pt ab)).2.1.offset
        (visibleIso rc cfg.tsFromWrapper (pre ++ (decodeView es).flatMap entryUnits ++ post)) ∧
    st.offset < (parseBlock cfg st (.data es pt ab)).2.1.offset ∧
    (parseBlock cfg st (.data es pt ab)).2.2 = .ok ∧
    (parseBlock cfg st (.data es pt ab)).2.1.fetchSize = cfg.fetchDefault ∧
    (∀ e ∈ decodeView es, ∀ r ∈ entryRecs cfg.tsFromWrapper e, r.off < (parseBlock cfg st (.data es pt ab)).2.1.offset) := by
  have hann : annot rc (pre ++ (decodeView es).flatMap entryUnits ++ post) =
      annotS rc pre ((decodeView es).flatMap entryUnits ++ post) ++
        annUnits (decodeView es) (truthKeeps rc (decodeView es) post) ++ annot rc post := by
    rw [List.append_assoc, annot_append, annot_append, annotS_units, List.append_assoc]
  have hwfA := segsWF_ann cfg.tsFromWrapper (annot rc (pre ++ (decodeView es).flatMap entryUnits ++ post)) b0
    (by rw [annot_fst]; exact hwf)
  rw [visibleIso_eq]
  rw [hann] at hwfA ⊢
  exact resp_parseBlock cfg st es _ pt ab _ _ _ b0 hn rfl (decodeView_ne_nil hn) hbad hk hwfA
    (by rw [annotS_fst]; exact hpre) (run_reaches hwf rfl hhead) hne

/-- The decoder may have dropped batches emptied by compaction: they show no record, and the log without them is
    well-formed. -/
theorem resp_static (cfg : Cfg) (L : List LUnit) (b0 : Int) (st : PState) (es : List Entry) (pt : Bool)
    (ab : List (Int × Int)) (hwf : LogWF cfg.tsFromWrapper b0 L) (hf : FaithfulData L st.offset es)
    (hiso : IsoOK cfg es) (hn : nRecs es ≠ 0) :
    (parseBlock cfg st (.data es pt ab)).1 =
      window st.offset (parseBlock cfg st (.data es pt ab)).2.1.offset (visible cfg.tsFromWrapper L) ∧
    st.offset < (parseBlock cfg st (.data es pt ab)).2.1.offset ∧
    (parseBlock cfg st (.data es pt ab)).2.2 = .ok ∧
    (parseBlock cfg st (.data es pt ab)).2.1.fetchSize = cfg.fetchDefault ∧
    (∀ e ∈ decodeView es, ∀ r ∈ entryRecs cfg.tsFromWrapper e, r.off < (parseBlock cfg st (.data es pt ab)).2.1.offset) := by
  obtain ⟨pre, post, hL, hpre, hhead, hne, hbad⟩ := hf
  have hvis : visible cfg.tsFromWrapper L =
      visibleIso false cfg.tsFromWrapper (pre ++ (decodeView es).flatMap entryUnits ++ post) := by
    rw [visibleIso_uncommitted, hL]
    simp only [visible_append, decodeView_visible]
  rw [hvis]
  exact resp_annot cfg false st es pt ab pre post b0 hn
    (LogWF.sublist (hL ▸ ((List.Sublist.refl _).append (decodeView_units_sublist es)).append (List.Sublist.refl _)) hwf)
    hpre
    (fun u hu => run_reaches hwf hL hhead u ((decodeView_units_sublist es).subset (List.mem_of_mem_head? hu)))
    (fun bl hb => hne bl (decodeView_mem hb)) (fun e he => hbad e (decodeView_mem he))
    (keeps_static cfg _ post _ _ (hiso.imp id fun h b hb => h b (decodeView_mem hb)))

/-- No isolation hypothesis: the state after a response does not depend on the level (`parseBlock_snd`), and under
    read-uncommitted `resp_static` asks for none. -/
theorem resp_progress (cfg : Cfg) (L : List LUnit) (b0 : Int) (st : PState) (es : List Entry) (pt : Bool)
    (ab : List (Int × Int)) (hwf : LogWF cfg.tsFromWrapper b0 L) (hf : FaithfulData L st.offset es) (hn : nRecs es ≠ 0) :
    st.offset < (parseBlock cfg st (.data es pt ab)).2.1.offset ∧
    (parseBlock cfg st (.data es pt ab)).2.2 = .ok ∧
    (parseBlock cfg st (.data es pt ab)).2.1.fetchSize = cfg.fetchDefault ∧
    (∀ e ∈ decodeView es, ∀ r ∈ entryRecs cfg.tsFromWrapper e, r.off < (parseBlock cfg st (.data es pt ab)).2.1.offset) := by
  rw [← parseBlock_snd cfg false st es pt ab ab]
  exact (resp_static { cfg with readCommitted := false } L b0 st es pt ab hwf hf (.inl rfl) hn).2

/-- `FaithfulData` of concrete data, from side conditions that evaluation decides -/
theorem faithfulData_of {L : List LUnit} {o : Int} {es : List Entry} (pre post : List LUnit)
    (hL : L = pre ++ es.flatMap entryUnits ++ post) (hpre : ∀ u ∈ pre, unitHi u < o)
    (hhead : ∀ u ∈ (es.flatMap entryUnits).head?, o ≤ unitHi u)
    (hes : ∀ e ∈ es, e ≠ .legacy [] ∧ entryBadCtl e = false) : FaithfulData L o es :=
  ⟨pre, post, hL, hpre, fun u hu => hhead u hu, fun _ hb e => (hes _ (e ▸ hb)).1 rfl, fun e he => (hes e he).2⟩

theorem window_empty {a b : Int} (h : b ≤ a) (l : List SRec) : window a b l = [] :=
  window_nil fun r _ => (Int.lt_or_le r.off a).imp id (Int.le_trans h)

theorem parseBlock_idle (cfg : Cfg) (st : PState) (b : Block) (hp : productive b = false)
    (hg : ∀ es ab, b = .data es true ab → nRecs es = 0 → ¬ (cfg.fetchMax > 0 ∧ st.fetchSize = cfg.fetchMax)) :
    (parseBlock cfg st b).1 = [] ∧ (parseBlock cfg st b).2.1.offset = st.offset := by
  cases b with
  | data es pt ab =>
    have hn : nRecs es = 0 := Decidable.of_not_not (of_decide_eq_false hp)
    rw [parseBlock, if_pos hn]
    cases pt
    · exact ⟨rfl, rfl⟩
    · rw [if_pos rfl, if_neg (hg es ab rfl hn)]; exact ⟨rfl, rfl⟩
  | _ => exact ⟨rfl, rfl⟩

theorem step_window_of (cfg : Cfg) (V : List SRec) (st : PState) (b : Block)
    (hg : ∀ es ab, b = .data es true ab → nRecs es = 0 → ¬ (cfg.fetchMax > 0 ∧ st.fetchSize = cfg.fetchMax))
    (hdata : productive b = true →
      (parseBlock cfg st b).1 = window st.offset (parseBlock cfg st b).2.1.offset V ∧
        st.offset < (parseBlock cfg st b).2.1.offset) :
    (parseBlock cfg st b).1 = window st.offset (parseBlock cfg st b).2.1.offset V ∧
      st.offset ≤ (parseBlock cfg st b).2.1.offset := by
  cases hp : productive b
  · have ⟨h1, h2⟩ := parseBlock_idle cfg st b hp hg
    rw [h1, h2]
    exact ⟨(window_empty (Int.le_refl _) _).symm, Int.le_refl _⟩
  · exact ⟨(hdata hp).1, Int.le_of_lt (hdata hp).2⟩

/-- `H` is the hypothesis on histories; it only has to pass from a history to its first response and to the rest. -/
theorem hist_window (cfg : Cfg) (V : List SRec) (b0 : Int) (hV : Asc b0 V) (H : PState → List Block → Prop)
    (hstep : ∀ st b bs, H st (b :: bs) →
      ((parseBlock cfg st b).1 = window st.offset (parseBlock cfg st b).2.1.offset V ∧
        st.offset ≤ (parseBlock cfg st b).2.1.offset) ∧ H (parseBlock cfg st b).2.1 bs) :
    ∀ (bs : List Block) (st : PState), H st bs →
      (run cfg st bs).1 = window st.offset (run cfg st bs).2.offset V ∧ st.offset ≤ (run cfg st bs).2.offset := by
  intro bs
  induction bs with
  | nil => exact fun st _ => ⟨(window_empty (Int.le_refl _) _).symm, Int.le_refl _⟩
  | cons b bs ih =>
    intro st h
    have ⟨⟨s1, s2⟩, hrest⟩ := hstep st b bs h
    have ⟨i1, i2⟩ := ih _ hrest
    rw [run, s1, i1]
    exact ⟨(window_split hV s2 i2).symm, Int.le_trans s2 i2⟩

end Lemmas.C03
