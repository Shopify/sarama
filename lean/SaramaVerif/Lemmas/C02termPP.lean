/-
  C02 composition, progress, variant: every token-moving choice makes `vmu` strictly smaller (`mu_step`).  The
  partition producer's step is `mu_ppRecv`; the three choices that run a worker are the one case `worker`
  of `Step`, with the component's inequality (`recv_weight`, `handover_weight`, `resp_weight`, Lemmas/C02termBP.lean)
  chosen by the `Feeds` case.
-/
import SaramaVerif.Lemmas.C02termBP
import SaramaVerif.Lemmas.C02liveEn

namespace Lemmas.C02sys
open Model Model.Pipeline Model.BrokerProd

def rowW (M : Nat) (l : List PartProd.Tok) : Nat := (l.map (fun x => dW M 18 x.retries)).sum

theorem bufW_eq (M B : Nat) (bufs : Nat → List PartProd.Tok) :
    bufW M B bufs = ((List.range B).map (fun k => rowW M (bufs k))).sum := rfl

theorem rowW_append (M : Nat) (a b : List PartProd.Tok) : rowW M (a ++ b) = rowW M a + rowW M b := by
  simp [rowW, List.sum_append]

theorem bufW_setBuf (M : Nat) (bufs : Nat → List PartProd.Tok) (l : Nat) (v : List PartProd.Tok) (B : Nat)
    (hl : l < B) : bufW M B (PartProd.setBuf bufs l v) + rowW M (bufs l) = bufW M B bufs + rowW M v := by
  have := sum_map_update (f := fun k => rowW M (bufs k)) (g := fun k => rowW M (PartProd.setBuf bufs l v k)) (l := l)
    (fun k hk => by simp only [PartProd.setBuf, hk, if_false]) (List.range B) List.nodup_range
  simpa only [List.mem_range, hl, if_true, PartProd.setBuf, bufW_eq] using this

/-- what an action of the partition producer can add to the workers' input channels -/
def aW (M : Nat) : PartProd.Action → Nat
  | .emit _ l fin => if fin then 5 else dW M 17 l
  | .finSend _ => 4
  | _ => 0

def asW (M : Nat) (as : List PartProd.Action) : Nat := (as.map (aW M)).sum

theorem asW_cons (M : Nat) (a : PartProd.Action) (l : List PartProd.Action) : asW M (a :: l) = aW M a + asW M l := by
  simp [asW]
theorem asW_append (M : Nat) (a b : List PartProd.Action) : asW M (a ++ b) = asW M a + asW M b := by
  simp [asW, List.sum_append]

theorem asW_row (M : Nat) (l : List PartProd.Tok) :
    asW M (l.map (fun t => PartProd.Action.emit t.id t.retries t.fin)) ≤ rowW M l := by
  induction l with
  | nil => simp [asW, rowW]
  | cons t r ih =>
    simp only [List.map_cons, asW_cons, rowW, List.sum_cons] at ih ⊢
    have : aW M (.emit t.id t.retries t.fin) ≤ dW M 18 t.retries := by
      simp only [aW]; split
      · exact Nat.le_add_left 5 (_ + 13)
      · exact Nat.add_le_add_left (by decide : 17 ≤ 18) _
    omega

theorem flush_weight (M B : Nat) (h : Nat) (bufs : Nat → List PartProd.Tok) (e : Nat → Bool) : h ≤ B →
    bufW M B (PartProd.flush h bufs e).2.1 + asW M (PartProd.flush h bufs e).2.2 ≤ bufW M B bufs := by
  have one : ∀ h (bufs : Nat → List PartProd.Tok), h < B →
      bufW M B (PartProd.setBuf bufs h []) + asW M ((bufs h).map fun t => .emit t.id t.retries t.fin) ≤
        bufW M B bufs := fun h bufs hB => by
    have hset := bufW_setBuf M bufs h [] B hB
    have hrow := asW_row M (bufs h)
    rw [show rowW M [] = 0 from rfl] at hset
    omega
  refine flush_ind e (P := fun h bufs r => h ≤ B → bufW M B r.2.1 + asW M r.2.2 ≤ bufW M B bufs)
    (fun _ _ => Nat.le_refl _) (fun h bufs _ hB => one h bufs hB) (fun h bufs _ _ ih hB => ?_) h bufs
  have := ih (Nat.le_of_succ_le hB)
  have := one h bufs hB
  dsimp only
  rw [asW_append]
  omega

def pqWp (M : Nat) (x : PartProd.Tok) : Nat := if x.fin then 1 else dW M 22 x.retries

theorem pp_recv_weight (M B : Nat) (p : PartProd.St) (x : PartProd.Tok) (hB : p.hwm ≤ B)
    (hfin : x.fin = true → x.retries ≤ p.hwm ∧ 0 < p.hwm) :
    bufW M B (PartProd.recv p x).1.bufs + asW M (PartProd.recv p x).2 + 1 ≤ bufW M B p.bufs + pqWp M x := by
  have s1 : ∀ a : PartProd.Action, asW M [a] = aW M a := fun _ => Nat.add_zero _
  rcases recv_eq p x with ⟨hr, e⟩ | ⟨_, hf, e⟩ | ⟨hl, hf, e⟩ | ⟨_, _, hf, e⟩ | ⟨_, h0, e⟩ <;> rw [e]
  · -- a new level (a message: a chaser is not above the high watermark): chaser and message go out, 4 + 17 + 1 ≤ 22
    have hf : x.fin = false := Bool.eq_false_iff.2 (fun h => Nat.not_lt.2 (hfin h).1 hr)
    simp only [asW_cons, s1, aW, pqWp, hf, Bool.false_eq_true, if_false, dW]; omega
  · -- the chaser of a lower level is consumed: 0 + 1 ≤ 1
    simp only [s1, aW, pqWp, hf, if_true]; omega
  · -- a message of a lower level is parked: 18 + 1 ≤ 22
    have := bufW_setBuf M p.bufs x.retries (p.bufs x.retries ++ [x]) B (Nat.lt_of_lt_of_le hl hB)
    rw [rowW_append, show rowW M [x] = dW M 18 x.retries + 0 from rfl] at this
    simp only [s1, aW, pqWp, hf, Bool.false_eq_true, if_false, dW] at this ⊢; omega
  · -- the chaser of the current level is consumed: what the flush emits the buffers pay (`flush_weight`)
    have := flush_weight M B p.hwm p.bufs (PartProd.setExp p.expect p.hwm false) hB
    simp only [asW_cons, aW, pqWp, hf, if_true]; omega
  · -- a message of the current level is passed on (a chaser at level 0 does not occur): 17 + 1 ≤ 22
    have hf : x.fin = false := Bool.eq_false_iff.2 (fun h => Nat.ne_of_gt (hfin h).2 (h0 h))
    simp only [s1, aW, pqWp, hf, Bool.false_eq_true, if_false, dW]; omega

theorem ppAct_weight (M : Nat) {ws : List Nat} (hnd : ws.Nodup) (s : Sys) (lks : List (Option Nat))
    (a : PartProd.Action) (hcur : ∀ c, s.cur = some c → c ∈ ws) (hl : ∀ w, some w ∈ lks → w ∈ ws) :
    wsW M ws (ppAct s lks a).1.wk ≤ wsW M ws s.wk + aW M a := by
  cases a with
  | finSend l =>
    rcases ppAct_finSend_eq s lks l with ⟨_, e⟩ | ⟨w, hc, e⟩ <;> rw [e]
    · exact Nat.le_add_right ..
    · exact Nat.le_of_eq (wsW_pushW M ws hnd _ w _ (hcur w hc))
  | emit i l fin =>
    have hin : inW M (mkTok i l fin) + 1 ≤ aW M (.emit i l fin) := by cases fin <;> simp [inW, mkTok, aW, dW]
    rcases ppAct_emit_eq s lks i l fin with ⟨w, hc, e⟩ | ⟨_, _, e⟩ | ⟨w, r, _, rfl, e⟩ <;> rw [e]
    · rw [wsW_pushW M ws hnd _ w _ (hcur w hc)]; omega
    · exact Nat.le_add_right ..
    · have hw : w ∈ ws := hl w (List.mem_cons_self ..)
      rw [openS, wsW_pushW M ws hnd _ w _ hw, wsW_pushW M ws hnd _ w _ hw, show inW M synTok = 1 from rfl]; omega
  | park _ => exact Nat.le_add_right ..
  | finDone => exact Nat.le_add_right ..

theorem ppActs_weight (M : Nat) {ws : List Nat} (hnd : ws.Nodup) (as : List PartProd.Action) :
    ∀ (s : Sys) (lks : List (Option Nat)), (∀ c, s.cur = some c → c ∈ ws) → (∀ w, some w ∈ lks → w ∈ ws) →
    wsW M ws (ppActs s lks as).wk ≤ wsW M ws s.wk + asW M as := by
  induction as with
  | nil => intro s lks _ _; simp [ppActs, asW]
  | cons a r ih =>
    intro s lks hcur hl
    have h1 := ppAct_weight M hnd s lks a hcur hl
    obtain ⟨hc, hsub⟩ := ppAct_cur s lks a
    have h2 := ih (ppAct s lks a).1 (ppAct s lks a).2 (by
      intro c hcc
      rcases hc with e | e | ⟨w, hw, e⟩
      · exact hcur c (by rw [← e]; exact hcc)
      · rw [e] at hcc; cases hcc
      · rw [e] at hcc; cases hcc; exact hl _ hw) (fun w hw => hl w (hsub _ hw))
    simp only [ppActs, asW_cons]
    omega

theorem qW_toPP (M : Nat) (t : Tok) : qW M 22 1 t = pqWp M (toPP t) := by
  cases h : t.kind <;> simp [qW, pqWp, toPP, BrokerProd.Tok.isFin, h]

theorem mu_ppRecv {M B : Nat} {ws : List Nat} {s s' : Sys} {lks : List (Option Nat)} (hnd : ws.Nodup)
    (hcur : ∀ c, s.cur = some c → c ∈ ws) (hl : ∀ w, some w ∈ lks → w ∈ ws) (hB : s.pp.hwm ≤ B)
    (hfin1 : ∀ t r, s.pq = t :: r → t.kind = .fin → 1 ≤ t.retries ∧ t.retries ≤ s.pp.hwm)
    (hs : sysStep M s (.ppRecv lks) = some s') : vmu M B ws s' + 1 ≤ vmu M B ws s := by
  obtain ⟨t, r, hq, rfl, hg⟩ := ppRecv_grows hs
  have hw : wsW M ws (ppActs _ lks _).wk ≤ wsW M ws s.wk + asW M _ := ppActs_weight M hnd
    (PartProd.recv s.pp (toPP t)).2 { s with pq := r, pp := (PartProd.recv s.pp (toPP t)).1 } lks hcur hl
  have hpp := pp_recv_weight M B s.pp (toPP t) hB (fun hf => by
    obtain ⟨a1, a2⟩ := hfin1 t r hq ((Props.C02bp.isFin_iff t).1 hf)
    exact ⟨a2, Nat.lt_of_lt_of_le a1 a2⟩)
  have hqw := qW_toPP M t
  simp only [vmu, hg.pq, hg.dq, hg.ret, hg.pp, hq, lW_cons]
  omega

theorem wW_eq (M : Nat) (k : Worker) : wW M k = lW (inW M) k.inq + kW M k.bp k.pend := Nat.add_assoc ..

theorem wW_mk (M : Nat) (q : List Tok) (b : St) (pend : Option (Pipeline.Verdict × Nat)) :
    wW M ⟨q, b, pend⟩ = lW (inW M) q + kW M b pend := wW_eq M _

theorem qW_step (M : Nat) (t : Tok) : qW M 23 2 t + 1 = qW M 24 3 t ∧ qW M 22 1 t + 1 = qW M 23 2 t := by
  unfold qW; split <;> exact ⟨rfl, rfl⟩

theorem mu_step {M B : Nat} (hM : 1 ≤ M) {ws : List Nat} {s s' : Sys} {c : Choice} (hnd : ws.Nodup)
    (hmv : moves c = true) (hcur : ∀ c, s.cur = some c → c ∈ ws) (hlk : ∀ w ∈ lookupsOf c, w ∈ ws)
    (hsup : ∀ w, w ∉ ws → s.wk w = {}) (hB : s.pp.hwm ≤ B)
    (hfin1 : ∀ t r, s.pq = t :: r → t.kind = .fin → 1 ≤ t.retries ∧ t.retries ≤ s.pp.hwm)
    (hpend : ∀ w vd base, (s.wk w).pend = some (vd, base) → ∃ sent, (s.wk w).bp.sets = [sent])
    (hP : ∀ w, P0 (insideB (s.wk w).bp)) (hs : sysStep M s c = some s') : vmu M B ws s' + 1 ≤ vmu M B ws s := by
  -- a worker that takes a step is not in its initial state, so it is listed
  have hin : ∀ w, s.wk w ≠ {} → w ∈ ws := fun w hne => Classical.byContradiction fun hw => hne (hsup w hw)
  cases step_iff.1 hs with
  | submit | moveLeader | closeW => cases hmv
  | @retryOut t r hr => have := (qW_step M t).1; simp only [vmu, hr, lW_cons, lW_append, lW_nil]; omega
  | @dispatch t r hr => have := (qW_step M t).2; simp only [vmu, hr, lW_cons, lW_append, lW_nil]; omega
  | ppRecv lks => exact mu_ppRecv hnd hcur (fun w hw => hlk w (by simp [lookupsOf, hw])) hB hfin1 hs
  | @worker w _ q pend off i hf hd =>
    have hsum := wsW_setW M ws hnd s.wk w ⟨q, (step M (s.wk w).bp i).1, pend⟩ (hin w (hf.used hd))
    have hk : wW M ⟨q, (step M (s.wk w).bp i).1, pend⟩ + oW M (step M (s.wk w).bp i).2 + 1 ≤ wW M (s.wk w) := by
      rw [wW_mk, wW_eq M (s.wk w)]
      cases hf with
      | @recv t r ov hq =>
        have := recv_weight M (s.wk w).bp t ov (s.wk w).pend (recv_disabled M _ t ov hd)
        rw [hq, lW_cons]; omega
      | handover => have := handover_weight M (s.wk w).bp (s.wk w).pend hd; omega
      | @deliver v _ still hp =>
        -- `cases` has put the offset of the prepared answer in place of `off`
        obtain ⟨sent, hsent⟩ := hpend w v off hp
        have := resp_weight M hM (s.wk w).bp sent v still (v, off) hsent (hP w)
        rw [hp]; omega
    rw [oW] at hk
    simp only [vmu, afterW, lW_append]
    omega
  | @broker w v sent rest hsets hp =>
    have hsum := wsW_setW M ws hnd s.wk w ⟨(s.wk w).inq, (s.wk w).bp, some (v, s.log.length)⟩
      (hin w fun e => by rw [e] at hsets; cases hsets)
    have e : wW M ⟨(s.wk w).inq, (s.wk w).bp, some (v, s.log.length)⟩ + 1 = wW M (s.wk w) := by
      simp [wW, bridgeW, hsets, hp]
    simp only [vmu]
    omega

theorem vmu_closeW {M B : Nat} {ws : List Nat} {s s' : Sys} {w : Nat} (hs : sysStep M s (.closeW w) = some s') :
    vmu M B ws s' = vmu M B ws s := by
  obtain ⟨hg, rfl⟩ := closeW_spec hs
  obtain ⟨_, _, _, _, _, _, _, hp⟩ := canClose_facts hg
  have : ∀ k, wW M (setW s.wk w ⟨(s.wk w).inq, closeBp (s.wk w).bp, none⟩ k) = wW M (s.wk k) :=
    forall_setW (P := fun k x => wW M x = wW M (s.wk k)) (by rw [wW, wW, hp]; rfl) (fun _ _ => rfl)
  simp only [vmu, wsW, this]

end Lemmas.C02sys
