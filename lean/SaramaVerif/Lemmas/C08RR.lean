import SaramaVerif.Model.BalanceRoundRobin
import SaramaVerif.Lemmas.C08Assoc
/-
  The round-robin cursor loop: what `rrFind` returns (it is `List.find?` over the cursor positions, so its
  specification is the library's), when it returns, and what `rrLoop` adds to the plan.
-/
namespace Model.Balance

def rrHas (ms : Members) (t : Topic) (k : Nat) : Prop := ∃ e, ms[k % ms.length]? = some e ∧ e.2.contains t = true

theorem rrFind_eq_find? (ms : Members) (t : Topic) (fuel : Nat) : ∀ i,
    rrFind ms t i fuel = (List.range' i fuel).find? fun k => ms[k % ms.length]?.any (·.2.contains t) := by
  induction fuel with
  | zero => exact fun _ => rfl
  | succ fuel ih =>
    intro i
    rw [rrFind, List.range'_succ, List.find?_cons]
    cases he : ms[i % ms.length]? with
    | none =>
      -- there is no member at all, so no position is a hit
      cases ms with
      | nil => exact (List.find?_eq_none.mpr fun _ _ => Bool.false_ne_true).symm
      | cons a as => exact absurd (Nat.mod_lt i (Nat.succ_pos _)) (Nat.not_lt.mpr (List.getElem?_eq_none_iff.mp he))
    | some e =>
      dsimp only [Option.any]
      cases e.2.contains t
      · exact ih (i + 1)
      · rfl

theorem rrFind_spec (ms : Members) (t : Topic) (fuel i : Nat) :
    (∀ j, rrFind ms t i fuel = some j →
      i ≤ j ∧ j < i + fuel ∧ rrHas ms t j ∧ ∀ k, i ≤ k → k < j → ¬ rrHas ms t k) ∧
    (rrFind ms t i fuel = none → ∀ k, i ≤ k → k < i + fuel → ¬ rrHas ms t k) := by
  -- `rrHas ms t k` unfolds to what `Option.any_eq_true` makes of the test at `k`
  have miss : ∀ k, (!ms[k % ms.length]?.any (·.2.contains t)) = true → ¬ rrHas ms t k := fun k h hk =>
    Bool.false_ne_true (((Bool.not_eq_true' _).mp h).symm.trans ((Option.any_eq_true _ _).mpr hk))
  rw [rrFind_eq_find?]
  refine ⟨fun j h => ?_, fun h k h1 h2 => miss k (List.find?_range'_eq_none.mp h k h1 h2)⟩
  obtain ⟨hp, hm, hb⟩ := List.find?_range'_eq_some.mp h
  have hm := List.mem_range'_1.mp hm
  exact ⟨hm.1, hm.2, (Option.any_eq_true _ _).mp hp, fun k h1 h2 => miss k (hb k h1 h2)⟩

theorem rrFind_some {ms : Members} {t : Topic} : ∀ {fuel i j : Nat}, rrFind ms t i fuel = some j →
    i ≤ j ∧ j < i + fuel ∧ rrHas ms t j ∧ ∀ k, i ≤ k → k < j → ¬ rrHas ms t k :=
  fun h => (rrFind_spec ms t _ _).1 _ h

theorem rrMember_of_has {ms : Members} {t : Topic} {j : Nat} (h : rrHas ms t j) :
    ∃ e, e ∈ ms ∧ e.1 = rrMember ms j ∧ e.2.contains t = true := by
  obtain ⟨e, he, hc⟩ := h
  exact ⟨e, List.mem_of_getElem? he, by rw [rrMember, he], hc⟩

theorem exists_cursor (n i k : Nat) (hk : k < n) : ∃ j, i ≤ j ∧ j < i + n ∧ j % n = k := by
  induction i with
  | zero => exact ⟨k, Nat.zero_le k, (Nat.zero_add n).symm ▸ hk, Nat.mod_eq_of_lt hk⟩
  | succ i ih =>
    obtain ⟨j, h1, h2, h3⟩ := ih
    rcases Nat.eq_or_lt_of_le h1 with rfl | h1
    · exact ⟨i + n, Nat.add_le_add_left (Nat.zero_lt_of_lt hk) i, Nat.add_lt_add_right (Nat.lt_succ_self i) n,
        (Nat.add_mod_right i n).trans h3⟩
    · exact ⟨j, h1, Nat.lt_of_lt_of_le h2 (Nat.add_le_add_right (Nat.le_succ i) n), h3⟩

theorem rrFind_complete {ms : Members} {t : Topic} (h : hasSubscriber ms t = true) (i : Nat) :
    ∃ j, rrFind ms t i ms.length = some j := by
  cases hf : rrFind ms t i ms.length with
  | some j => exact ⟨j, rfl⟩
  | none =>
    obtain ⟨e, he, hc⟩ := List.any_eq_true.mp h
    obtain ⟨k, hk, hke⟩ := List.getElem_of_mem he
    obtain ⟨j, hj1, hj2, hj3⟩ := exists_cursor ms.length i k hk
    exact absurd ⟨e, by rw [hj3, List.getElem?_eq_getElem hk, hke], hc⟩ ((rrFind_spec ms t _ i).2 hf j hj1 hj2)

theorem rrFind_diverges {ms : Members} {t : Topic} (h : hasSubscriber ms t = false) (fuel i : Nat) :
    rrFind ms t i fuel = none := by
  cases hf : rrFind ms t i fuel with
  | none => rfl
  | some j =>
    obtain ⟨e, he, _, hc⟩ := rrMember_of_has (rrFind_some hf).2.2.1
    exact absurd (h.symm.trans (List.any_eq_true.mpr ⟨e, he, hc⟩)) Bool.false_ne_true

theorem rrLoop_induct {R : List TP → Nat → Plan → Plan → Prop} (ms : Members) (fuel : Nat)
    (nil : ∀ i plan, R [] i plan plan)
    (cons : ∀ tp rest i j plan out, rrFind ms tp.1 i fuel = some j →
      R rest (j + 1) (plan.add (rrMember ms j) tp.1 [tp.2]) out → R (tp :: rest) i plan out)
    (tps : List TP) (i : Nat) (plan out : Plan) (h : rrLoop ms fuel tps i plan = some out) : R tps i plan out := by
  induction tps generalizing i plan with
  | nil => exact Option.some.inj h ▸ nil i plan
  | cons tp rest ih =>
    rw [rrLoop] at h
    cases hf : rrFind ms tp.1 i fuel with
    | none => rw [hf] at h; cases h
    | some j => rw [hf] at h; exact cons tp rest i j plan out hf (ih _ _ h)

theorem rrLoop_inv {Inv : Plan → Prop} (ms : Members) (fuel : Nat)
    (step : ∀ (plan : Plan) j (tp : TP), rrHas ms tp.1 j → Inv plan → Inv (plan.add (rrMember ms j) tp.1 [tp.2]))
    (tps : List TP) (i : Nat) (plan out : Plan) (h : rrLoop ms fuel tps i plan = some out) : Inv plan → Inv out :=
  rrLoop_induct (R := fun _ _ plan out => Inv plan → Inv out) ms fuel (fun _ _ => id)
    (fun tp _ _ j plan _ hf ih hp => ih (step plan j tp (rrFind_some hf).2.2.1 hp)) tps i plan out h

theorem rrLoop_some (ms : Members) (tps : List TP) (hs : ∀ tp, tp ∈ tps → hasSubscriber ms tp.1 = true) (i : Nat)
    (plan : Plan) : ∃ out, rrLoop ms ms.length tps i plan = some out := by
  induction tps generalizing i plan with
  | nil => exact ⟨plan, rfl⟩
  | cons tp rest ih =>
    obtain ⟨j, hj⟩ := rrFind_complete (hs tp List.mem_cons_self) i
    rw [rrLoop, hj]
    exact ih (fun tp' h => hs tp' (List.mem_cons_of_mem _ h)) _ _

theorem rrLoop_spec (ms : Members) : ∀ (tps : List TP) (i : Nat) (plan : Plan),
    (∀ tp, tp ∈ tps → hasSubscriber ms tp.1 = true) →
    ∃ out, rrLoop ms ms.length tps i plan = some out ∧
      (∀ x, AL.countAll out x = AL.countAll plan x + tps.count x) ∧
      (PlanAll (fun m tp => ∃ e, e ∈ ms ∧ e.1 = m ∧ e.2.contains tp.1 = true) plan →
        PlanAll (fun m tp => ∃ e, e ∈ ms ∧ e.1 = m ∧ e.2.contains tp.1 = true) out) := by
  intro tps i plan hs
  obtain ⟨out, ho⟩ := rrLoop_some ms tps hs i plan
  refine ⟨out, ho, ?_, ?_⟩
  · refine rrLoop_induct (R := fun tps _ plan out => ∀ x, AL.countAll out x = AL.countAll plan x + tps.count x)
      ms _ (fun _ _ _ => rfl) (fun tp rest _ _ _ _ _ ih x => ?_) tps i plan out ho
    rw [ih x, countAll_add, Nat.add_assoc]
    exact congrArg _ (List.count_append (l₁ := [tp])).symm
  · exact rrLoop_inv ms _ (fun _ _ _ hj hpl => planAll_add hpl _ _ _ fun _ _ => rrMember_of_has hj) tps i plan out ho

theorem rrLoop_diverges (ms : Members) (fuel : Nat) : ∀ (tps : List TP) (i : Nat) (plan : Plan),
    (∃ tp, tp ∈ tps ∧ hasSubscriber ms tp.1 = false) → rrLoop ms fuel tps i plan = none := by
  intro tps
  induction tps with
  | nil => exact fun _ _ ⟨_, h, _⟩ => nomatch h
  | cons tp rest ih =>
    intro i plan ⟨tp', hm, hs⟩
    rw [rrLoop]
    cases hf : rrFind ms tp.1 i fuel with
    | none => rfl
    | some j =>
      rcases List.mem_cons.mp hm with rfl | hm
      · rw [rrFind_diverges hs] at hf; cases hf
      · exact ih _ _ ⟨tp', hm, hs⟩

theorem rrPlan_eq_plan {ms : Members} (hne : ms ≠ []) (tps : List TP) (p : Plan) :
    rrPlan ms false tps = .plan p ↔ rrLoop ms ms.length tps 0 [] = some p := by
  have : ¬ ((ms.isEmpty || false) = true) := by cases ms with
    | nil => exact absurd rfl hne
    | cons _ _ => exact Bool.false_ne_true
  rw [rrPlan, if_neg this]
  cases rrLoop ms ms.length tps 0 [] with
  | none => exact ⟨nofun, nofun⟩
  | some q => exact ⟨fun h => congrArg some (RROut.plan.inj h), fun h => congrArg RROut.plan (Option.some.inj h)⟩

/-- the topics `consumerGroup.balance` hands to the strategy are those with a subscriber -/
theorem mem_topicsOfMembers {ms : Members} {t : Topic} : t ∈ topicsOfMembers ms ↔ hasSubscriber ms t = true :=
  List.mem_eraseDups.trans (List.mem_flatMap.trans hasSubscriber_iff.symm)

end Model.Balance
