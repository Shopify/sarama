/-
  C02 composition, the log clauses.  List facts behind them (first copies by `idxOf`, offsets of an acknowledged set);
  `LogCore`: the clauses against the live tokens of a view, and the ways a step changes them (a fresh submission, the
  broker appending the set at the bridge, an acknowledgement).
-/
import SaramaVerif.Lemmas.C02sysRep

namespace Lemmas.C02sys
open Model Model.Pipeline

theorem idxOf_cons_ne {x b : Int} (r : List Int) (h : ¬ x = b) : (x :: r).idxOf b = r.idxOf b + 1 := by
  have : (x == b) = false := by simpa using h
  simp [List.idxOf_cons, this]

theorem idxOf_lt_of_sorted {l : List Int} (h : l.Pairwise (· < ·)) {a b : Int} (ha : a ∈ l) (hb : b ∈ l)
    (hab : a < b) : l.idxOf a < l.idxOf b := by
  induction l with
  | nil => cases ha
  | cons x r ih =>
    obtain ⟨hx, hr⟩ := List.pairwise_cons.1 h
    by_cases hxa : x = a
    · subst hxa
      rw [List.idxOf_cons_self, idxOf_cons_ne r (by omega)]; omega
    · have ha' : a ∈ r := (List.mem_cons.1 ha).resolve_left (fun e => hxa e.symm)
      by_cases hxb : x = b
      · subst hxb
        have := hx a ha'; omega
      · have hb' : b ∈ r := (List.mem_cons.1 hb).resolve_left (fun e => hxb e.symm)
        have := ih hr ha' hb'
        rw [idxOf_cons_ne r hxa, idxOf_cons_ne r hxb]; omega

/-- clause `J` of `LogCore` when a sorted block `S` is appended to the log: an id of `S` below a logged id is logged
    itself (`hK`, from clause `K`), so its first copy is not the one in the block -/
theorem J_append {log S : List Int}
    (hJ : ∀ a b, a < b → a ∈ log → b ∈ log → log.idxOf a < log.idxOf b) (hS : S.Pairwise (· < ·))
    (hK : ∀ b ∈ log, ∀ a ∈ S, a < b → a ∈ log) :
    ∀ a b, a < b → a ∈ log ++ S → b ∈ log ++ S → (log ++ S).idxOf a < (log ++ S).idxOf b := by
  intro a b hab ha hb
  rw [List.idxOf_append, List.idxOf_append]
  by_cases hbl : b ∈ log
  · have hal : a ∈ log := (List.mem_append.1 ha).elim id (fun haS => hK b hbl a haS hab)
    rw [if_pos hal, if_pos hbl]; exact hJ a b hab hal hbl
  · have hbS : b ∈ S := (List.mem_append.1 hb).resolve_left hbl
    rw [if_neg hbl]
    by_cases hal : a ∈ log
    · rw [if_pos hal]
      have := List.idxOf_lt_length_iff.2 hal; omega
    · rw [if_neg hal]
      have := idxOf_lt_of_sorted hS ((List.mem_append.1 ha).resolve_left hal) hbS hab; omega

theorem mem_offs {l : List Tok} {off : Nat} {p : Int × Nat} (h : p ∈ offs l off) :
    (∃ t ∈ l, t.id = p.1) ∧ off ≤ p.2 ∧ p.2 < off + l.length := by
  induction l generalizing off with
  | nil => cases h
  | cons t r ih =>
    simp only [offs, List.mem_cons] at h
    rcases h with rfl | h
    · exact ⟨⟨t, List.mem_cons_self .., rfl⟩, Nat.le_refl _, by simp⟩
    · obtain ⟨⟨x, hx, e⟩, h1, h2⟩ := ih h
      exact ⟨⟨x, List.mem_cons_of_mem _ hx, e⟩, by omega, by simp only [List.length_cons]; omega⟩

theorem offs_sorted {l : List Tok} (hl : l.Pairwise (fun a b => a.id < b.id)) {off : Nat} {p q : Int × Nat}
    (hp : p ∈ offs l off) (hq : q ∈ offs l off) (hpq : p.1 < q.1) : p.2 < q.2 := by
  induction l generalizing off with
  | nil => cases hp
  | cons t r ih =>
    rw [List.pairwise_cons] at hl
    simp only [offs, List.mem_cons] at hp hq
    rcases hp with rfl | hp <;> rcases hq with rfl | hq
    · simp at hpq
    · have := (mem_offs hq).2.1; simp only; omega
    · obtain ⟨⟨x, hx, e⟩, _⟩ := mem_offs hp
      have := hl.1 x hx; simp only at hpq; omega
    · exact ih hl.2 hp hq

theorem gw_sorted {v : View} (h : VInv v) : v.gw.Pairwise (fun a b => a.id < b.id) := by
  have h0 := h.ord 0
  rw [List.append_assoc, List.pairwise_append] at h0
  have := List.Pairwise.and h0.1 h.gdesc
  exact this.imp (fun hab => hab.1.1 hab.2)

/-- the log, the successes and the rank counter against the live tokens of a view: the clauses of `LogInv`
    (Lemmas/C02sysRep.lean) without `pend`, which speaks of one worker.  `K`: below a logged id every live id is
    logged; `J`: first copies in the log come in id order; `S1`, `S3`, `S5`: a success is below every live id, offsets
    increase with the id and lie inside the log; `S6`, `idlt`, `Llt`: every id was submitted. -/
structure LogCore (log : List Int) (succ : List (Int × Nat)) (next : Nat) (v : View) : Prop where
  K    : ∀ b ∈ log, ∀ a, LiveId v a → a < b → a ∈ log
  J    : ∀ a b, a < b → a ∈ log → b ∈ log → log.idxOf a < log.idxOf b
  S1   : ∀ p ∈ succ, ∀ a, LiveId v a → p.1 < a
  S3   : ∀ p ∈ succ, ∀ q ∈ succ, p.1 < q.1 → p.2 < q.2
  S5   : ∀ p ∈ succ, p.2 < log.length
  S6   : ∀ p ∈ succ, p.1 < (next : Int)
  idlt : ∀ a, LiveId v a → a < (next : Int)
  Llt  : ∀ b ∈ log, b < (next : Int)

theorem LogCore.init : LogCore [] [] 0 ⟨{}, [], [], true⟩ :=
  have E {α : Type} {p : α → Prop} : ∀ x ∈ ([] : List α), p x := List.forall_mem_nil p
  ⟨E, fun _ _ _ h => absurd h List.not_mem_nil, E, E, E, E, fun _ ⟨_, h, _⟩ => h.elim nofun (·.elim nofun nofun), E⟩

section LogCore
variable {log : List Int} {succ : List (Int × Nat)} {next : Nat} {v v' : View}

theorem LogCore.mono (hl : LogCore log succ next v) (hlive : ∀ a, LiveId v' a → LiveId v a) : LogCore log succ next v' :=
  ⟨fun b hb a ha => hl.K b hb a (hlive a ha), hl.J, fun p hp a ha => hl.S1 p hp a (hlive a ha), hl.S3, hl.S5, hl.S6,
    fun a ha => hl.idlt a (hlive a ha), hl.Llt⟩

theorem LogCore.fresh (hl : LogCore log succ next v) (hlive : ∀ a, LiveId v' a → LiveId v a ∨ a = (next : Int)) :
    LogCore log succ (next + 1) v' := by
  have hnext : ((next + 1 : Nat) : Int) = (next : Int) + 1 := rfl
  refine ⟨?_, hl.J, ?_, hl.S3, hl.S5, ?_, ?_, ?_⟩
  · intro b hb a ha hab
    rcases hlive a ha with ha | ha
    · exact hl.K b hb a ha hab
    · have := hl.Llt b hb; omega
  · intro p hp a ha
    rcases hlive a ha with ha | ha
    · exact hl.S1 p hp a ha
    · rw [ha]; exact hl.S6 p hp
  · intro p hp; have := hl.S6 p hp; omega
  · intro a ha
    rcases hlive a ha with ha | ha
    · have := hl.idlt a ha; omega
    · omega
  · intro b hb; have := hl.Llt b hb; omega

theorem LogCore.log_append (hl : LogCore log succ next v) (S : List Int) (hS : S.Pairwise (· < ·))
    (hlive : ∀ x ∈ S, LiveId v x) (hlow : ∀ x ∈ S, ∀ a, LiveId v a → a < x → a ∈ S) :
    LogCore (log ++ S) succ next v := by
  refine ⟨?_, J_append hl.J hS (fun b hb a ha hab => hl.K b hb a (hlive a ha) hab), hl.S1, hl.S3, ?_, hl.S6, hl.idlt, ?_⟩
  · intro b hb a hla hab
    rcases List.mem_append.1 hb with hb | hb
    · exact List.mem_append_left _ (hl.K b hb a hla hab)
    · exact List.mem_append_right _ (hlow b hb a hla hab)
  · intro p hp; have := hl.S5 p hp; rw [List.length_append]; omega
  · intro b hb
    rcases List.mem_append.1 hb with hb | hb
    · exact hl.Llt b hb
    · exact hl.idlt b (hlive b hb)

theorem LogCore.succ_append (hl : LogCore log succ next v) (hlive : ∀ a, LiveId v' a → LiveId v a) (sent : List Tok)
    (base : Nat) (hb1 : ∀ p ∈ succ, p.2 < base) (hb2 : base + sent.length ≤ log.length)
    (hsorted : sent.Pairwise (fun a b => a.id < b.id)) (hsl : ∀ x ∈ sent, LiveId v x.id)
    (hnew : ∀ x ∈ sent, ∀ a, LiveId v' a → x.id < a) : LogCore log (succ ++ offs sent base) next v' := by
  refine ⟨fun b hb a ha => hl.K b hb a (hlive a ha), hl.J, ?_, ?_, ?_, ?_, fun a ha => hl.idlt a (hlive a ha), hl.Llt⟩
  · intro p hp a ha
    rcases List.mem_append.1 hp with hp | hp
    · exact hl.S1 p hp a (hlive a ha)
    · obtain ⟨⟨x, hx, e1⟩, _⟩ := mem_offs hp
      rw [← e1]; exact hnew x hx a ha
  · intro p hp q hq hpq
    rcases List.mem_append.1 hp with hp | hp <;> rcases List.mem_append.1 hq with hq | hq
    · exact hl.S3 p hp q hq hpq
    · have := hb1 p hp; have := (mem_offs hq).2.1; omega
    · exfalso
      obtain ⟨⟨x, hx, e1⟩, _⟩ := mem_offs hp
      have := hl.S1 q hq x.id (hsl x hx); omega
    · exact offs_sorted hsorted hp hq hpq
  · intro p hp
    rcases List.mem_append.1 hp with hp | hp
    · exact hl.S5 p hp
    · have := (mem_offs hp).2.2; omega
  · intro p hp
    rcases List.mem_append.1 hp with hp | hp
    · exact hl.S6 p hp
    · obtain ⟨⟨x, hx, e1⟩, _⟩ := mem_offs hp
      rw [← e1]; exact hl.idlt x.id (hsl x hx)

theorem front_facts (hv : VInv v) {sent rest : List Tok} (hgw : v.gw = sent ++ rest) :
    sent.Pairwise (fun a b => a.id < b.id) ∧ (∀ x ∈ sent, x.kind = .data ∧ LiveId v x.id) ∧
    ∀ x ∈ sent, ∀ y, (y ∈ rest ∨ y ∈ data v.av ∨ ∃ k, y ∈ v.buf k) → x.id < y.id := by
  have hsorted := gw_sorted hv
  rw [hgw, List.pairwise_append] at hsorted
  have hmem : ∀ x ∈ sent, x ∈ v.gw := fun x hx => hgw ▸ List.mem_append_left _ hx
  exact ⟨hsorted.1, fun x hx => ⟨hv.gdata x (hmem x hx), .gw (hmem x hx)⟩,
    fun x hx y hy => hy.elim (hsorted.2.2 x hx y) (hv.low x (hmem x hx) y)⟩

/-- the step `broker`: the set at the bridge is the front of `gw`, so its ids are the least live ones, in order.  The
    second conjunct bounds the answer prepared by the step (base offset: the length of the log before) for the
    clause `pend` of the invariants built on `LogCore`: an acknowledged set lies inside the log. -/
theorem LogCore.broker (hl : LogCore log succ next v) (hv : VInv v) {sent rest : List Tok} (hgw : v.gw = sent ++ rest)
    (app : Bool) : LogCore (if app then log ++ dataIds sent else log) succ next v ∧
      log.length + (if app then sent.length else 0) = (if app then log ++ dataIds sent else log).length := by
  obtain ⟨hsorted, hsd, hlow⟩ := front_facts hv hgw
  have hids := dataIds_allData (fun t ht => (hsd t ht).1)
  cases app with
  | false => exact ⟨hl, rfl⟩
  | true =>
    refine ⟨?_, by simp [hids]⟩
    show LogCore (log ++ dataIds sent) succ next v
    rw [hids]
    refine hl.log_append _ (List.pairwise_map.2 hsorted) ?_ ?_
    · intro a ha
      obtain ⟨x, hx, rfl⟩ := List.mem_map.1 ha
      exact (hsd x hx).2
    · intro b hb a ⟨y, hy, hya⟩ hab
      obtain ⟨x, hx, rfl⟩ := List.mem_map.1 hb
      rcases hy with hy | hy
      · rcases List.mem_append.1 (hgw ▸ hy) with hy | hy
        · exact List.mem_map.2 ⟨y, hy, hya⟩
        · have := hlow x hx y (.inl hy); omega
      · have := hlow x hx y (.inr hy); omega

theorem shrink_front {sent rest : List Tok} (hgw : v.gw = sent ++ rest) : Shrink ⟨v.pp, rest, v.av, v.good⟩ v :=
  ⟨rfl, rfl, hgw ▸ List.sublist_append_right _ _, List.Sublist.refl _⟩

theorem LogCore.ack (hl : LogCore log succ next v) (hv : VInv v) {sent rest : List Tok} (hgw : v.gw = sent ++ rest)
    (base : Nat) (hb1 : ∀ p ∈ succ, p.2 < base) (hb2 : base + sent.length ≤ log.length) :
    LogCore log (succ ++ offs sent base) next ⟨v.pp, rest, v.av, v.good⟩ := by
  obtain ⟨hsorted, hsd, hlow⟩ := front_facts hv hgw
  refine hl.succ_append (hv.shrink (shrink_front hgw)).live sent base hb1 hb2 hsorted (fun x hx => (hsd x hx).2) ?_
  intro x hx a ⟨y, hy, hya⟩
  rw [← hya]; exact hlow x hx y hy

end LogCore

theorem LogInv.core {s : Sys} {v : View} (h : LogInv s v) : LogCore s.log s.succ s.next v :=
  ⟨h.K, h.J, h.S1, h.S3, h.S5, h.S6, h.idlt, h.Llt⟩

theorem LogCore.logInv {s : Sys} {v : View} (c : LogCore s.log s.succ s.next v)
    (hp : ∀ vd base, (W s).pend = some (vd, base) →
      ∃ sent, (W s).bp.sets = [sent] ∧ (∀ p ∈ s.succ, p.2 < base) ∧ (vd = .ok → base + sent.length ≤ s.log.length)) :
    LogInv s v :=
  ⟨c.K, c.J, c.S1, c.S3, c.S5, c.S6, c.idlt, c.Llt, hp⟩

end Lemmas.C02sys
