import SaramaVerif.Lemmas.C15Keyed
/-
  C15: what `updateMetadata` does to every component of the cache, one topic entry at a time (`applyTopic`) and
  over a whole response; `updateBroker` and the partition lists. The two maps keyed by topic are followed together,
  as the pair of entries a topic has in them (`topicView`).
-/
namespace Lemmas.C15
open Model.Metadata

/-- the three codes `switch topic.Err` singles out -/
theorem topicClass_cases (e : Int) :
    (e = 0 ∧ topicClass e = .store) ∨ (e = 5 ∧ topicClass e = .storeRetry) ∨ (e = 3 ∧ topicClass e = .forgetRetry) ∨
      (e ≠ 0 ∧ e ≠ 5 ∧ e ≠ 3 ∧ topicClass e = .forget) := by
  by_cases h0 : e = 0
  · subst h0; exact .inl ⟨rfl, by decide⟩
  by_cases h5 : e = 5
  · subst h5; exact .inr (.inl ⟨rfl, by decide⟩)
  by_cases h3 : e = 3
  · subst h3; exact .inr (.inr (.inl ⟨rfl, by decide⟩))
  refine .inr (.inr (.inr ⟨h0, h5, h3, ?_⟩))
  unfold topicClass errNone errUnknownTopicOrPartition errLeaderNotAvailable
  rw [if_neg h0, if_neg h3, if_neg h5]
  exact ite_self _

theorem applyTopic_s (a : Acc) (tm : TopicMeta) :
    (applyTopic a tm).s =
      if (topicClass tm.err).stores then storeTopic (forgetTopic a.s tm.name) tm else forgetTopic a.s tm.name := by
  unfold applyTopic
  cases topicClass tm.err <;> rfl

theorem applyTopic_frame (a : Acc) (tm : TopicMeta) :
    (applyTopic a tm).s.brokers = a.s.brokers ∧ (applyTopic a tm).s.controller = a.s.controller ∧
    (applyTopic a tm).s.seeds = a.s.seeds ∧ (applyTopic a tm).s.dead = a.s.dead := by
  rw [applyTopic_s]
  cases (topicClass tm.err).stores <;>
    simp only [↓reduceIte, Bool.false_eq_true, storeTopic, rebuildCache, putMeta, forgetTopic, and_self]

theorem foldl_applyTopic_frame (ts : List TopicMeta) (a : Acc) :
    (ts.foldl applyTopic a).s.brokers = a.s.brokers ∧ (ts.foldl applyTopic a).s.controller = a.s.controller ∧
    (ts.foldl applyTopic a).s.seeds = a.s.seeds ∧ (ts.foldl applyTopic a).s.dead = a.s.dead :=
  foldl_preserves (P := fun b : Acc => b.s.brokers = a.s.brokers ∧ b.s.controller = a.s.controller ∧
      b.s.seeds = a.s.seeds ∧ b.s.dead = a.s.dead)
    (fun b tm h => by
      have h2 := applyTopic_frame b tm
      exact ⟨h2.1.trans h.1, h2.2.1.trans h.2.1, h2.2.2.1.trans h.2.2.1, h2.2.2.2.trans h.2.2.2⟩)
    ts ⟨rfl, rfl, rfl, rfl⟩

/-- what the cache holds for topic `t`, all a reader can see of it: its entry of `client.metadata` and of
    `client.cachedPartitionsResults` -/
def topicView (s : State) (t : Topic) : Option (Topic × List PartMeta) × Option (Topic × (List Int × List Int)) :=
  (kget Prod.fst t s.metadata, kget Prod.fst t s.cached)

def storedView (tm : TopicMeta) : Option (Topic × List PartMeta) × Option (Topic × (List Int × List Int)) :=
  if (topicClass tm.err).stores then
    (some (tm.name, buildParts tm.parts), some (tm.name, (allIds (buildParts tm.parts), writableIds (buildParts tm.parts))))
  else (none, none)

theorem cacheLists_cons (t : Topic) (pm : List PartMeta) (md : List (Topic × List PartMeta)) :
    cacheLists ((t, pm) :: md) t = (allIds pm, writableIds pm) := by
  simp [cacheLists, setPartitionCache, kget_cons]

theorem applyTopic_view (a : Acc) (tm : TopicMeta) (t : Topic) :
    topicView (applyTopic a tm).s t = if tm.name = t then storedView tm else topicView a.s t := by
  rw [applyTopic_s, storedView, topicView, topicView]
  cases (topicClass tm.err).stores
  · show (kget Prod.fst t (kerase Prod.fst tm.name a.s.metadata), kget Prod.fst t (kerase Prod.fst tm.name a.s.cached)) = _
    rw [kget_kerase, kget_kerase]
    split <;> rfl
  · simp only [↓reduceIte, storeTopic, rebuildCache, putMeta, cacheLists_cons]
    show (kget Prod.fst t (kset Prod.fst (tm.name, _) a.s.metadata), kget Prod.fst t (kset Prod.fst (tm.name, _) a.s.cached)) = _
    rw [kget_kset, kget_kset]
    split <;> rfl

theorem mem_track {t x : Topic} {tr : List Topic} : t ∈ track x tr ↔ t = x ∨ t ∈ tr := by
  unfold track
  split
  · exact ⟨.inr, fun h => h.elim (· ▸ ‹_›) id⟩
  · exact List.mem_cons

theorem applyTopic_tracked (a : Acc) (tm : TopicMeta) (t : Topic) :
    t ∈ (applyTopic a tm).s.tracked ↔ t = tm.name ∨ t ∈ a.s.tracked := by
  rw [applyTopic_s]
  cases (topicClass tm.err).stores <;> exact mem_track

theorem foldl_applyTopic_view (ts : List TopicMeta) (a : Acc) (t : Topic) :
    topicView (ts.foldl applyTopic a).s t = (kget TopicMeta.name t ts.reverse).elim (topicView a.s t) storedView :=
  foldl_last_wins (g := fun a => topicView a.s t) (fun a tm => applyTopic_view a tm t) ts a

theorem foldl_applyTopic_tracked (ts : List TopicMeta) (a : Acc) (t : Topic) :
    t ∈ (ts.foldl applyTopic a).s.tracked ↔ (∃ tm ∈ ts, tm.name = t) ∨ t ∈ a.s.tracked := by
  induction ts generalizing a with
  | nil => simp
  | cons tm ts ih =>
    rw [List.foldl_cons, ih, applyTopic_tracked]
    simp only [List.mem_cons, exists_eq_or_imp, eq_comm (a := t), or_assoc, or_left_comm]

def topicRetry (tm : TopicMeta) : Bool :=
  match topicClass tm.err with
  | .store => partsRetry tm.parts
  | .storeRetry => true
  | .forget => false
  | .forgetRetry => true

theorem applyTopic_retry (a : Acc) (tm : TopicMeta) : (applyTopic a tm).retry = (a.retry || topicRetry tm) := by
  unfold applyTopic topicRetry
  cases topicClass tm.err <;> simp

theorem applyTopic_err (a : Acc) (tm : TopicMeta) :
    (applyTopic a tm).err = if (topicClass tm.err).stores = false then tm.err else a.err := by
  unfold applyTopic
  cases topicClass tm.err <;> rfl

theorem foldl_applyTopic_retry (ts : List TopicMeta) (a : Acc) :
    (ts.foldl applyTopic a).retry = (a.retry || ts.any topicRetry) := by
  induction ts generalizing a with
  | nil => simp
  | cons tm ts ih => rw [List.foldl_cons, List.any_cons, ih, applyTopic_retry, Bool.or_assoc]

theorem foldl_applyTopic_err (ts : List TopicMeta) (a : Acc) :
    (ts.foldl applyTopic a).err =
      (ts.reverse.find? (fun tm => decide ((topicClass tm.err).stores = false))).elim a.err (·.err) :=
  foldl_last_wins (g := Acc.err) applyTopic_err ts a

theorem kget_regBroker (m : List (Int × Addr)) (b : Int × Addr) (k : Int) :
    kget Prod.fst k (regBroker m b) = if b.1 = k then some b else kget Prod.fst k m := by
  unfold regBroker
  split
  · exact kget_kset Prod.fst k b m
  · rename_i old hold
    split
    · exact kget_kset Prod.fst k b m
    · -- same id, same address: the registered entry is `b` itself
      rename_i hne
      have : old = b := Prod.ext (kget_some Prod.fst hold).1 (Decidable.not_not.mp hne).symm
      split
      · rename_i h; rw [← h, hold, this]
      · rfl

theorem regBroker_nodup (m : List (Int × Addr)) (b : Int × Addr) (h : (keys Prod.fst m).Nodup) :
    (keys Prod.fst (regBroker m b)).Nodup := by
  unfold regBroker
  split
  · exact keys_kset_nodup Prod.fst h
  · split
    · exact keys_kset_nodup Prod.fst h
    · exact h

theorem kget_updateBrokers (cur news : List (Int × Addr)) (k : Int) :
    kget Prod.fst k (updateBrokers cur news) = kget Prod.fst k news.reverse := by
  rw [updateBrokers, kget_filter_key Prod.fst (fun id => news.any (fun n => decide (n.1 = id))),
    foldl_last_wins (g := kget Prod.fst k) (val := some) (fun m b => kget_regBroker m b k)]
  show (if _ then (kget Prod.fst k news.reverse).elim _ some else none) = _
  cases h : kget Prod.fst k news.reverse with
  | some b =>
    have hb := kget_some Prod.fst h
    exact if_pos (List.any_eq_true.mpr ⟨b, List.mem_reverse.mp hb.2, decide_eq_true hb.1⟩)
  | none =>
    refine if_neg fun hq => ?_
    obtain ⟨n, hn, e⟩ := List.any_eq_true.mp hq
    exact (kget_none Prod.fst).mp h n (List.mem_reverse.mpr hn) (of_decide_eq_true e)

theorem updateBrokers_nodup (cur news : List (Int × Addr)) (h : (keys Prod.fst cur).Nodup) :
    (keys Prod.fst (updateBrokers cur news)).Nodup :=
  keys_filter_nodup Prod.fst _ (foldl_preserves (fun m b => regBroker_nodup m b) news h)

theorem kget_buildParts (ps : List PartMeta) (p : Int) :
    kget PartMeta.id p (buildParts ps) = kget PartMeta.id p ps.reverse := by
  rw [buildParts, foldl_last_wins (g := kget PartMeta.id p) (val := some) (fun m a => kget_kset PartMeta.id p a m)]
  show (kget PartMeta.id p ps.reverse).elim none some = _
  cases kget PartMeta.id p ps.reverse <;> rfl

theorem buildParts_nodup (ps : List PartMeta) : (keys PartMeta.id (buildParts ps)).Nodup :=
  foldl_preserves (P := fun m => (keys PartMeta.id m).Nodup) (fun _ _ => keys_kset_nodup PartMeta.id) ps
    List.nodup_nil

theorem allIds_spec (m : List PartMeta) (h : (keys PartMeta.id m).Nodup) :
    (allIds m).Pairwise (· < ·) ∧ ∀ p, p ∈ allIds m ↔ (kget PartMeta.id p m).isSome :=
  ⟨isort_strict h, fun _ => mem_isort.trans (mem_keys_iff PartMeta.id)⟩

theorem writableIds_spec (m : List PartMeta) (h : (keys PartMeta.id m).Nodup) :
    (writableIds m).Pairwise (· < ·) ∧
    ∀ p, p ∈ writableIds m ↔ ∃ pm, kget PartMeta.id p m = some pm ∧ pm.err ≠ errLeaderNotAvailable := by
  refine ⟨isort_strict (keys_filter_nodup PartMeta.id _ h), fun p => ?_⟩
  rw [writableIds, mem_isort, List.mem_map]
  constructor
  · rintro ⟨pm, hpm, rfl⟩
    have hf := List.mem_filter.mp hpm
    exact ⟨pm, kget_of_mem_nodup PartMeta.id h hf.1, of_decide_eq_true hf.2⟩
  · rintro ⟨pm, hg, he⟩
    have hs := kget_some PartMeta.id hg
    exact ⟨pm, List.mem_filter.mpr ⟨hs.2, decide_eq_true he⟩, hs.1⟩

end Lemmas.C15
