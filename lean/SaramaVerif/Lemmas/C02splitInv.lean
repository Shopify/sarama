/-
  C02 composition, an invariant of EVERY run of `Model.Pipeline` (any number of workers, any retry budget): all tokens
  are of partition 0, and no worker has a retry mark outside partition 0 (`P0Inv`).  A worker's step re-queues and keeps
  tokens it held or took, and changes the retry marks of their partitions only (`step_requeue`, `step_inside`, `step_cr`,
  Lemmas/C02bp.lean): `step_ret` reads the first through `actRet`, `feeds_p0` all three through `Feeds`.  `Base`
  (Lemmas/C02base.lean) has it as its clause `p0`; the simulation of runs with re-selection reads that clause and
  `feeds_p0` where a worker takes the last token of a stay (`sim_bpRecv`, Lemmas/C02splitW.lean).
-/
import SaramaVerif.Lemmas.C02sysBP

namespace Lemmas.C02sys
open Model Model.Pipeline Model.BrokerProd

def ActsP0 (as : List Action) : Prop := ∀ a ∈ as, ∀ id p r f, a = Action.requeue id p r f → p = 0

theorem ActsP0.append {a b : List Action} (ha : ActsP0 a) (hb : ActsP0 b) : ActsP0 (a ++ b) :=
  List.forall_mem_append.2 ⟨ha, hb⟩

theorem mem_actRet {as : List Action} {x : Tok} (h : x ∈ actRet as) :
    ∃ id p r f, Action.requeue id p r f ∈ as ∧ x = ⟨id, p, r, if f then .fin else .data⟩ := by
  induction as with
  | nil => exact absurd h List.not_mem_nil
  | cons a l ih =>
    rw [actRet_cons] at h
    rcases List.mem_append.1 h with h | h
    · cases a with
      | requeue id p r f => exact ⟨id, p, r, f, List.mem_cons_self, List.mem_singleton.1 h⟩
      | _ => exact absurd h List.not_mem_nil
    · obtain ⟨id, p, r, f, m, e⟩ := ih h
      exact ⟨id, p, r, f, List.mem_cons_of_mem _ m, e⟩

theorem step_ret {M : Nat} {b : St} {i : In} {x : Tok} (hx : x ∈ actRet (step M b i).2) :
    ∃ t ∈ insideB b ++ arrived b i, x.part = t.part ∧ x.retries = t.retries + 1 ∧ t.retries < M := by
  obtain ⟨id, p, r, f, m, rfl⟩ := mem_actRet hx
  obtain ⟨t, ht, e⟩ := Props.C02bp.step_requeue m
  exact ⟨t, ht, Props.C02bp.retryMsg_requeue e⟩

-- `q`: the channels in front of the partition producer; `w`: a worker's input channel and what it holds; `cr`: its
-- retry marks
structure P0Inv (s : Sys) : Prop where
  q  : P0 (s.pq ++ s.dq ++ s.ret)
  w  : ∀ w, P0 ((s.wk w).inq ++ insideB (s.wk w).bp)
  cr : ∀ w p, p ≠ 0 → (s.wk w).bp.cr p = false

theorem p0Inv_init : P0Inv {} :=
  ⟨by simp [P0], fun _ => by simp [P0, insideB, Props.C02bp.inside], fun _ _ _ => rfl⟩

theorem feeds_p0 (M : Nat) {s : Sys} {w : Nat} {c : Choice} {q : List Tok}
    {pend : Option (Pipeline.Verdict × Nat)} {off : Nat} {i : In} (h : P0 ((s.wk w).inq ++ insideB (s.wk w).bp))
    (hf : Feeds s w c q pend off i) :
    P0 q ∧ P0 (insideB (step M (s.wk w).bp i).1) ∧
      (∀ p, p ≠ 0 → (step M (s.wk w).bp i).1.cr p = (s.wk w).bp.cr p) ∧ P0 (actRet (step M (s.wk w).bp i).2) := by
  obtain ⟨a, b⟩ := P0_append.1 h
  have inv : P0 q ∧ ∀ t ov, i = .recv t ov → t.part = 0 := by
    cases hf with
    | @recv t r ov hq => rw [hq] at a; exact ⟨(P0_cons a).2, fun _ _ e => (In.recv.inj e).1 ▸ (P0_cons a).1⟩
    | handover => exact ⟨a, fun _ _ e => nomatch e⟩
    | deliver still _ => exact ⟨a, fun _ _ e => nomatch e⟩
  have all : P0 (insideB (s.wk w).bp ++ arrived (s.wk w).bp i) :=
    P0_append.2 ⟨b, fun x hx => (Props.C02bp.mem_arrived hx).elim fun ov e => inv.2 x ov e⟩
  refine ⟨inv.1, fun x hx => all x (Props.C02bp.step_inside hx), fun p hp => ?_, fun x hx => ?_⟩
  · exact Props.C02bp.step_cr (fun t ht e => hp (e ▸ b t ht)) fun t ov e e' => hp (e' ▸ inv.2 t ov e)
  · obtain ⟨t, ht, e, _⟩ := step_ret hx
    exact e.trans (all t ht)

theorem p0w_step {M : Nat} {s s' : Sys} {c : Choice} {w : Nat} (h : P0 ((s.wk w).inq ++ insideB (s.wk w).bp))
    (hs : Step M s c s') : P0 ((s'.wk w).inq ++ insideB (s'.wk w).bp) := by
  have setw := fun u (x : Worker) (hx : w = u → P0 (x.inq ++ insideB x.bp)) =>
    setW_ind (P := fun x => P0 (x.inq ++ insideB x.bp)) (f := s.wk) w hx h
  cases hs with
  | @ppRecv t r lks =>
    obtain ⟨post, hp, e⟩ := (ppActs_grows (PartProd.recv s.pp (toPP t)).2
      { s with pq := r, pp := (PartProd.recv s.pp (toPP t)).1 } lks).wk w
    obtain ⟨a, b⟩ := P0_append.1 h
    show P0 ((_ : Worker).inq ++ insideB (_ : Worker).bp)
    rw [e]
    exact P0_append.2 ⟨P0_append.2 ⟨a, hp⟩, b⟩
  | @worker u _ _ _ _ _ hf =>
    refine setw u _ (fun e => ?_)
    subst e
    obtain ⟨h0, h1, _⟩ := feeds_p0 M h hf
    exact P0_append.2 ⟨h0, h1⟩
  | @broker u v => exact setw u { s.wk u with pend := some (v, s.log.length) } (fun e => e ▸ h)
  | @closeW u => exact setw u _ (fun e => e ▸ h)
  | _ => exact h

theorem p0Inv_step {M : Nat} {s s' : Sys} {c : Choice} (h : P0Inv s) (hs : sysStep M s c = some s') :
    P0Inv s' := by
  have st := step_iff.1 hs
  refine ⟨fun x hx => ?_, fun k => p0w_step (h.w k) st, fun k => ?_⟩
  · rcases st.front hx with h1 | rfl | ⟨w, _, _, _, _, hf, _, hm⟩
    · exact h.q x h1
    · rfl
    · exact (feeds_p0 M (h.w w) hf).2.2.2 x hm
  · -- the retry marks outside partition 0: only a worker that steps changes its marks, and not these
    have setw := fun u (x : Worker) (hx : k = u → ∀ p, p ≠ 0 → x.bp.cr p = false) =>
      setW_ind (P := fun x => ∀ p, p ≠ 0 → x.bp.cr p = false) (f := s.wk) k hx (h.cr k)
    cases st with
    | ppRecv lks => rw [(ppActs_grows ..).bp]; exact h.cr k
    | @worker u _ _ _ _ _ hf =>
      exact setw u _ fun e p hp => e ▸ ((feeds_p0 M (h.w u) hf).2.2.1 p hp).trans (h.cr u p hp)
    | @broker u v => exact setw u { s.wk u with pend := some (v, s.log.length) } fun e => e ▸ h.cr k
    | @closeW u => exact setw u _ fun e => e ▸ h.cr k
    | _ => exact h.cr k

set_option linter.unusedVariables false in
/-- the statement carries `1 ≤ M`, which the proof does not use -/
theorem p0Inv_run {M : Nat} (hM : 1 ≤ M) (cs : List Choice) : ∀ {s s' : Sys}, P0Inv s → run M s cs = some s' → P0Inv s' :=
  run_invariant p0Inv_step cs

end Lemmas.C02sys
