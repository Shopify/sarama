import SaramaVerif.Model.CodecMachine
import SaramaVerif.Lemmas.C09Fmt
/-
  The operational machines (call sequences on prepEncoder / realEncoder) compute what the schema interpreters
  `size` / `enc` denote.
-/
namespace Lemmas.C09
open Model.Codec

theorem runPrepFrom_append (s : PrepSt) (a b : List Tok) : runPrepFrom s (a ++ b) = runPrepFrom (runPrepFrom s a) b :=
  List.foldl_append ..

theorem runRealFrom_append (s : RealSt) (a b : List Tok) : runRealFrom s (a ++ b) = runRealFrom (runRealFrom s a) b :=
  List.foldl_append ..

/-- what a balanced call sequence does to the prep machine: `n` more bytes, stack and flag as before -/
def addLen (s : PrepSt) (n : Nat) : PrepSt := { s with length := s.length + (n : Int) }

theorem addLen_zero (s : PrepSt) : s = addLen s 0 := congrArg (fun l => { s with length := l }) (Int.add_zero _).symm

theorem addLen_add (s : PrepSt) (a b : Nat) : addLen (addLen s a) b = addLen s (a + b) := by
  unfold addLen; rw [Int.natCast_add, ← Int.add_assoc]

theorem prep_countTok (s : PrepSt) (c : Count) (n : Option Nat) :
    runPrepFrom s (countTok c n) = addLen s (prepCount c n) := by
  cases c <;> cases n
  case compact.some k =>
    show { s with length := s.length + (prepUVarint ((k : Int) + 1).toNat : Nat) } = _
    rw [show ((k : Int) + 1).toNat = k + 1 by omega]; rfl
  case i32.none | compact.none | varint.none => exact addLen_zero s
  all_goals rfl

theorem prep_push_pop (s : PrepSt) (k : PushKind) (stale : Int) (body : List Tok) (n : Nat)
    (ih : ∀ s, runPrepFrom s body = addLen s n) :
    runPrepFrom s ([.push k stale] ++ body ++ [.pop]) =
      prepStep { s with length := s.length + reserveLength k stale + n, stack := ⟨k, s.length, stale⟩ :: s.stack } .pop := by
  rw [runPrepFrom_append, runPrepFrom_append, ih]; rfl

theorem adjustLength_body (start stale n : Int) :
    adjustLength (start + reserveLength .varlen stale + n) start stale =
      (n, reserveLength .varlen n - reserveLength .varlen stale) := by
  have e : start + reserveLength .varlen stale + n - start - reserveLength .varlen stale = n := by omega
  unfold adjustLength; rw [e]

theorem prep_toks (fresh : Bool) (f : Fmt) (ver : Nat) : ∀ (v : Val) (s : PrepSt),
    runPrepFrom s (toks fresh f ver v) = addLen s (size f ver v) := by
  induction f with
  | prim p => exact fun v s => rfl
  | unit => exact fun v s => addLen_zero s
  | seq a b iha ihb =>
    intro v s
    cases v
    case pair x y =>
      unfold toks size
      rw [runPrepFrom_append, iha, ihb, addLen_add]
    all_goals exact addLen_zero s
  | ite lo hi a b iha ihb =>
    intro v s
    unfold toks size
    split
    · exact iha v s
    · exact ihb v s
  | arr c e ih =>
    intro v s
    cases v
    case null => exact prep_countTok s c none
    case list vs =>
      have key : ∀ (vs : List Val) (s : PrepSt), runPrepFrom s ((vs.map (toks fresh e ver)).flatten) =
          addLen s (vs.map (size e ver)).sum := by
        intro vs
        induction vs with
        | nil => exact addLen_zero
        | cons v vs ihv =>
          intro s
          rw [List.map_cons, List.flatten_cons, runPrepFrom_append, ih, ihv, List.map_cons, List.sum_cons, addLen_add]
      unfold toks size
      rw [runPrepFrom_append, prep_countTok, key, addLen_add]
    all_goals exact addLen_zero s
  | len32 f ih | crc p f ih =>
    intro v s
    unfold toks size
    rw [prep_push_pop s _ _ _ _ (ih v)]
    exact addLen_add s 4 _
  | varlen f ih =>
    intro v s
    unfold toks
    rw [prep_push_pop s _ _ _ _ (ih v)]
    show { s with length := _ + (adjustLength _ s.length _).2 } =
      { s with length := s.length + ((prepVarint (size f ver v) + size f ver v : Nat) : Int) }
    rw [adjustLength_body]
    congr 1
    show _ + _ + _ + (((prepVarint (size f ver v) : Nat) : Int) - _) = _
    omega

/-- what a balanced call sequence does to the real machine: `out` appended, stack and flag as before -/
def addBuf (s : RealSt) (out : Bytes) : RealSt := { s with buf := s.buf ++ out }

theorem addBuf_nil (s : RealSt) : s = addBuf s [] := congrArg (fun l => { s with buf := l }) (List.append_nil _).symm

theorem addBuf_append (s : RealSt) (a b : Bytes) : addBuf (addBuf s a) b = addBuf s (a ++ b) :=
  congrArg (fun l => { s with buf := l }) (List.append_assoc ..)

theorem real_countTok (s : RealSt) (c : Count) (n : Option Nat) :
    runRealFrom s (countTok c n) = addBuf s (putCount c n) := by
  cases c <;> cases n
  case compact.some k =>
    show { s with buf := s.buf ++ putUVarint ((k : Int) + 1).toNat } = _
    rw [show ((k : Int) + 1).toNat = k + 1 by omega]; rfl
  case i32.none | compact.none | varint.none => exact addBuf_nil s
  all_goals rfl

theorem patch_reserved (a z b fld : Bytes) (h : z.length = fld.length) :
    patch (a ++ z ++ b) a.length fld = a ++ fld ++ b := by
  have e1 : (a ++ z ++ b).take a.length = a := by rw [List.append_assoc, List.take_left]
  have e2 : (a ++ z ++ b).drop (a.length + fld.length) = b := by rw [← h, ← List.length_append, List.drop_left]
  rw [patch, e1, e2]

theorem zeros_length (n : Nat) : (zeros n).length = n := List.length_replicate

theorem real_push_pop (s : RealSt) (k : PushKind) (fieldLen : Int) (body : List Tok) (out : Bytes)
    (ih : ∀ s, runRealFrom s body = addBuf s out) :
    runRealFrom s ([.push k fieldLen] ++ body ++ [.pop]) =
      realStep { s with buf := s.buf ++ zeros (reserveLength k fieldLen).toNat ++ out,
                        stack := ⟨k, s.buf.length, fieldLen⟩ :: s.stack } .pop := by
  rw [runRealFrom_append, runRealFrom_append, ih]; rfl

theorem real_toks (f : Fmt) (ver : Nat) : ∀ (v : Val) (s : RealSt),
    runRealFrom s (toks false f ver v) = addBuf s (enc f ver v) := by
  induction f with
  | prim p => exact fun v s => rfl
  | unit => exact fun v s => addBuf_nil s
  | seq a b iha ihb =>
    intro v s
    cases v
    case pair x y =>
      unfold toks enc
      rw [runRealFrom_append, iha, ihb, addBuf_append]
    all_goals exact addBuf_nil s
  | ite lo hi a b iha ihb =>
    intro v s
    unfold toks enc
    split
    · exact iha v s
    · exact ihb v s
  | arr c e ih =>
    intro v s
    cases v
    case null => exact real_countTok s c none
    case list vs =>
      have key : ∀ (vs : List Val) (s : RealSt), runRealFrom s ((vs.map (toks false e ver)).flatten) =
          addBuf s (vs.map (enc e ver)).flatten := by
        intro vs
        induction vs with
        | nil => exact addBuf_nil
        | cons v vs ihv =>
          intro s
          rw [List.map_cons, List.flatten_cons, runRealFrom_append, ih, ihv, List.map_cons, List.flatten_cons,
            addBuf_append]
      unfold toks enc
      rw [runRealFrom_append, real_countTok, key, addBuf_append]
    all_goals exact addBuf_nil s
  | len32 f ih =>
    intro v s
    unfold toks enc
    rw [real_push_pop s _ _ _ _ (ih v)]
    show { s with buf := patch _ s.buf.length
                            (putInt 4 (((s.buf ++ zeros 4 ++ enc f ver v).length : Int) - s.buf.length - 4)) } = _
    rw [patch_reserved _ _ _ _ (by rw [zeros_length, putInt_length]; rfl), List.length_append, List.length_append,
      zeros_length, List.append_assoc,
      show ((s.buf.length + 4 + (enc f ver v).length : Nat) : Int) - s.buf.length - 4 = (enc f ver v).length by omega]
    rfl
  | varlen f ih =>
    intro v s
    unfold toks
    rw [real_push_pop s _ _ _ _ (ih v)]
    show { s with buf := patch _ s.buf.length (putVarint (size f ver v)) } = _
    rw [patch_reserved _ _ _ _ (by rw [zeros_length]; rfl), List.append_assoc]
    rfl
  | crc p f ih =>
    intro v s
    unfold toks enc
    rw [real_push_pop s _ _ _ _ (ih v)]
    show { s with buf := patch _ s.buf.length
                            (be 4 (crc32 p ((s.buf ++ zeros 4 ++ enc f ver v).drop (s.buf.length + 4)))) } = _
    rw [patch_reserved _ _ _ _ (by rw [zeros_length, be_length]; rfl),
      show s.buf.length + 4 = (s.buf ++ zeros 4).length by rw [List.length_append, zeros_length], List.drop_left,
      List.append_assoc]
    rfl

end Lemmas.C09
