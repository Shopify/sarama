/-
  C02 composition: the tie between a system state (`Model.Pipeline.Sys`, one broker worker: worker 0) and its
  `View`, phase by phase, and the full invariant `Good`.

  `Rep` reads the queues in front of the partition producer as they are and everything else off worker 0; `WRep`
  is that second part alone, for any worker, about plain lists and flags, and the moves of the worker and of the
  partition producer are proved on it.  `workSw` is the state after a worker step with what the worker bounced and
  reported as parameters; `afterW_work` ties it to `afterW` of `Step`.
-/
import SaramaVerif.Lemmas.C02sysView
import SaramaVerif.Lemmas.C02sysBP

namespace Lemmas.C02sys
open Model Model.Pipeline

def AllData (l : List Tok) : Prop := ∀ t ∈ l, t.kind = .data

def nosynq (q : List Tok) : List Tok := q.filter (fun t => !(t.kind == .syn))

abbrev W (s : Sys) : Worker := s.wk 0
abbrev ins (s : Sys) : List Tok := insideB (W s).bp

abbrev insW (s : Sys) (w : Nat) : List Tok := insideB (s.wk w).bp

/-- the view of a system state, by the phase of worker 0:
    closed  - the worker is closing: it bounces everything, for ever;
    normal  - the worker accepts the partition (a syn may still be on its way);
    failed  - the worker bounced the partition and the partition producer has not noticed yet;
    reopen  - the chaser `fin k` is in the worker's queue: what is before it will be bounced, what is behind it
              (after a syn) will be accepted.
    `mk` is the syn marker that the partition producer sends when it selects the worker, as long as it is in the
    queue (`[synTok]`, else `[]`); `G` are the data tokens behind it.
    A partition producer bound to no worker (`cur = none`, in `normal` and `reopen`) counts as `good = true`: by
    `VInv.cap` nothing in its arrival stream is above the high watermark, so a token that raises the watermark
    (`rise_bad`: `good = false`) finds it bound (`Conc.capN`). -/
inductive Rep (M : Nat) (s : Sys) : View → Prop
  | closed : (W s).bp.closing = true → ins s = [] →
      Rep M s ⟨s.pp, [], s.pq ++ s.dq ++ s.ret ++ bumpF M (nosynq (W s).inq), false⟩
  | normal (mk G : List Tok) : (W s).bp.closing = false → (W s).bp.cr 0 = false → (W s).inq = mk ++ G →
      AllData G → (mk = [] ∨ (mk = [synTok] ∧ ins s = [])) →
      (s.cur = some 0 ∨ (s.cur = none ∧ (W s).inq = [] ∧ ins s = [])) →
      Rep M s ⟨s.pp, ins s ++ G, s.pq ++ s.dq ++ s.ret, true⟩
  | failed : (W s).bp.closing = false → (W s).bp.cr 0 = true → ins s = [] → AllData (W s).inq →
      s.cur = some 0 →
      Rep M s ⟨s.pp, [], s.pq ++ s.dq ++ s.ret ++ bumpF M (W s).inq, false⟩
  | reopen (D : List Tok) (k : Nat) (mk G : List Tok) : (W s).bp.closing = false → (W s).bp.cr 0 = true →
      ins s = [] → (W s).inq = D ++ finTok k :: (mk ++ G) → AllData D → AllData G →
      ((mk = [] ∧ G = [] ∧ s.cur = none) ∨ (mk = [synTok] ∧ s.cur = some 0)) →
      Rep M s ⟨s.pp, G, s.pq ++ s.dq ++ s.ret ++ (bumpF M D ++ [finTok (k + 1)]), true⟩

theorem nosynq_cons_data {t : Tok} (l : List Tok) (h : t.kind ≠ .syn) : nosynq (t :: l) = t :: nosynq l := by
  simp [nosynq, h]

theorem nosynq_cons_syn {t : Tok} (l : List Tok) (h : t.kind = .syn) : nosynq (t :: l) = nosynq l := by
  simp [nosynq, h]

theorem nosynq_allData {G : List Tok} (h : AllData G) : nosynq G = G := by
  simp only [nosynq, List.filter_eq_self]; intro t ht; simp [h t ht]

theorem nosynq_append (a b : List Tok) : nosynq (a ++ b) = nosynq a ++ nosynq b := by simp [nosynq]

theorem AllData.append {a b : List Tok} (ha : AllData a) (hb : AllData b) : AllData (a ++ b) :=
  List.forall_mem_append.2 ⟨ha, hb⟩

theorem bumpF_nil (M : Nat) : bumpF M [] = [] := rfl

theorem bumpF_fin (M k : Nat) (h : k < M) : bumpF M [finTok k] = [finTok (k + 1)] :=
  (bump1_lt (t := finTok k) h).1

theorem kind_cases (t : Tok) : t.kind = .data ∨ t.kind = .syn ∨ t.kind = .fin := by
  cases t.kind <;> simp

theorem needsRetry_iff (b : BrokerProd.St) : BrokerProd.needsRetry b 0 = (b.closing || b.cr 0) := rfl

/-- a worker with input queue `inq`, flags `cl` (closing) and `cr` (retry mode of the partition), holding `ins`,
    (worker `me`) seen from a partition producer bound to `cur`: it holds or will accept `gw`, it is going to bounce `tl`
    (counted at the next level), and `g` says whether it accepts what is forwarded now -/
inductive WRep (M : Nat) (me : Nat) (cur : Option Nat) (inq : List Tok) (cl cr : Bool) (ins : List Tok) :
    List Tok → List Tok → Bool → Prop
  | closed : cl = true → ins = [] → WRep M me cur inq cl cr ins [] (bumpF M (nosynq inq)) false
  | normal (mk G : List Tok) : cl = false → cr = false → inq = mk ++ G → AllData G →
      (mk = [] ∨ (mk = [synTok] ∧ ins = [])) → (cur = some me ∨ (cur = none ∧ inq = [] ∧ ins = [])) →
      WRep M me cur inq cl cr ins (ins ++ G) [] true
  | failed : cl = false → cr = true → ins = [] → AllData inq → cur = some me →
      WRep M me cur inq cl cr ins [] (bumpF M inq) false
  | reopen (D : List Tok) (k : Nat) (mk G : List Tok) : cl = false → cr = true → ins = [] →
      inq = D ++ finTok k :: (mk ++ G) → AllData D → AllData G →
      ((mk = [] ∧ G = [] ∧ cur = none) ∨ (mk = [synTok] ∧ cur = some me)) →
      WRep M me cur inq cl cr ins G (bumpF M D ++ [finTok (k + 1)]) true

theorem Rep.wrep {M : Nat} {s : Sys} {v : View} (h : Rep M s v) :
    ∃ gw tl g, WRep M 0 s.cur (W s).inq (W s).bp.closing ((W s).bp.cr 0) (ins s) gw tl g ∧
      v = ⟨s.pp, gw, s.pq ++ s.dq ++ s.ret ++ tl, g⟩ := by
  cases h with
  | closed h1 h2 => exact ⟨_, _, _, .closed h1 h2, rfl⟩
  | normal mk G h1 h2 h3 h4 h5 h6 => exact ⟨_, _, _, .normal mk G h1 h2 h3 h4 h5 h6, by rw [List.append_nil]⟩
  | failed h1 h2 h3 h4 h5 => exact ⟨_, _, _, .failed h1 h2 h3 h4 h5, rfl⟩
  | reopen D k mk G h1 h2 h3 h4 h5 h6 h7 => exact ⟨_, _, _, .reopen D k mk G h1 h2 h3 h4 h5 h6 h7, rfl⟩

theorem WRep.rep {M : Nat} {s : Sys} {gw tl : List Tok} {g : Bool}
    (h : WRep M 0 s.cur (W s).inq (W s).bp.closing ((W s).bp.cr 0) (ins s) gw tl g) :
    Rep M s ⟨s.pp, gw, s.pq ++ s.dq ++ s.ret ++ tl, g⟩ := by
  cases h with
  | closed h1 h2 => exact .closed h1 h2
  | normal mk G h1 h2 h3 h4 h5 h6 => rw [List.append_nil]; exact .normal mk G h1 h2 h3 h4 h5 h6
  | failed h1 h2 h3 h4 h5 => exact .failed h1 h2 h3 h4 h5
  | reopen D k mk _ h1 h2 h3 h4 h5 h6 h7 => exact .reopen D k mk gw h1 h2 h3 h4 h5 h6 h7

section WRep
variable {M me : Nat} {cur : Option Nat} {inq : List Tok} {cl cr : Bool} {ins gw tl : List Tok} {g : Bool}

theorem WRep.tl_pos (h : WRep M me cur inq cl cr ins gw tl g) : ∀ t ∈ tl, 1 ≤ t.retries := by
  have hb : ∀ X, ∀ t ∈ bumpF M X, 1 ≤ t.retries := fun X t ht => by
    obtain ⟨y, _, _, rfl⟩ := mem_bumpF ht; exact Nat.le_add_left _ _
  cases h with
  | closed => exact hb _
  | normal => exact fun t ht => nomatch ht
  | failed => exact hb _
  | reopen D k mk G =>
    intro t ht
    rcases List.mem_append.1 ht with ht | ht
    · exact hb _ t ht
    · rw [List.mem_singleton.1 ht]; exact Nat.le_add_left _ _

theorem WRep.gw_nil (h : WRep M me cur inq cl cr ins gw tl g) (hc : cur = none) : gw = [] := by
  cases h with
  | closed => rfl
  | failed => rfl
  | normal mk G h1 h2 h3 h4 h5 h6 =>
    rcases h6 with h6 | ⟨_, h6, h7⟩
    · rw [hc] at h6; cases h6
    · rw [h3] at h6; rw [h7, (List.append_eq_nil_iff.1 h6).2]; rfl
  | reopen D k mk G h1 h2 h3 h4 h5 h6 h7 =>
    rcases h7 with ⟨_, h7, _⟩ | ⟨_, h7⟩
    · exact h7
    · rw [hc] at h7; cases h7

theorem WRep.ins_nil (h : WRep M me cur inq cl cr ins gw tl g) (hn : (cl || cr) = true) : ins = [] := by
  cases h with
  | normal mk G h1 h2 => rw [h1, h2] at hn; cases hn
  | closed _ h => exact h
  | failed _ _ h => exact h
  | reopen D k mk G _ _ h => exact h

theorem WRep.held {sent rest : List Tok} (h : WRep M me cur inq cl cr (sent ++ rest) gw tl g) :
    ∃ G, gw = sent ++ (rest ++ G) := by
  have nil : sent ++ rest = [] → ∃ G, gw = sent ++ (rest ++ G) := fun e => by
    obtain ⟨rfl, rfl⟩ := List.append_eq_nil_iff.1 e; exact ⟨gw, rfl⟩
  cases h with
  | normal mk G => exact ⟨G, List.append_assoc ..⟩
  | closed h1 h2 => exact nil h2
  | failed h1 h2 h3 => exact nil h3
  | reopen D k mk G h1 h2 h3 => exact nil h3

theorem WRep.bounce {t : Tok} {r : List Tok} (h : WRep M me cur (t :: r) cl cr ins gw tl g) (hk : t.kind = .data)
    (hn : (cl || cr) = true) : ∃ tl', tl = bumpF M [t] ++ tl' ∧ WRep M me cur r cl cr ins gw tl' g := by
  have hns : t.kind ≠ .syn := by rw [hk]; exact nofun
  cases h with
  | closed h1 h2 => exact ⟨_, by rw [nosynq_cons_data _ hns, bumpF_cons], .closed h1 h2⟩
  | normal mk G h1 h2 => rw [h1, h2] at hn; cases hn
  | failed h1 h2 h3 h4 h5 => exact ⟨_, bumpF_cons M t r, .failed h1 h2 h3 (List.forall_mem_cons.1 h4).2 h5⟩
  | reopen D k mk G h1 h2 h3 h4 h5 h6 h7 =>
    cases D with
    | nil => rw [(List.cons.inj h4).1] at hk; cases hk
    | cons d D' =>
      obtain ⟨rfl, rfl⟩ := List.cons.inj h4
      exact ⟨_, by rw [bumpF_cons, List.append_assoc], .reopen D' k mk gw h1 h2 h3 rfl (List.forall_mem_cons.1 h5).2 h6 h7⟩

theorem WRep.add {t : Tok} {r : List Tok} (h : WRep M me cur (t :: r) cl cr ins gw tl g) (hk : t.kind = .data)
    (hn : (cl || cr) = false) : WRep M me cur r cl cr (ins ++ [t]) gw tl g := by
  cases h with
  | closed h1 h2 => rw [h1] at hn; cases hn
  | failed h1 h2 => rw [h1, h2] at hn; cases hn
  | reopen D k mk G h1 h2 => rw [h1, h2] at hn; cases hn
  | normal mk G h1 h2 h3 h4 h5 h6 =>
    rcases h5 with rfl | ⟨rfl, _⟩
    · obtain ⟨rfl, rfl⟩ : G = t :: r := h3.symm
      have hcur : cur = some me := h6.resolve_right (fun h => nomatch h.2.1)
      rw [show ins ++ t :: r = ins ++ [t] ++ r from (List.append_assoc ins [t] r).symm]
      exact .normal [] r h1 h2 rfl (List.forall_mem_cons.1 h4).2 (Or.inl rfl) (Or.inl hcur)
    · rw [(List.cons.inj h3).1] at hk; cases hk

/-- a syn is consumed; that it clears the retry flag changes the phase in no reachable case -/
theorem WRep.syn {t : Tok} {r : List Tok} (h : WRep M me cur (t :: r) cl cr ins gw tl g) (hk : t.kind = .syn) :
    WRep M me cur r cl false ins gw tl g := by
  have hnd : t.kind ≠ .data := by rw [hk]; exact nofun
  cases h with
  | closed h1 h2 => rw [nosynq_cons_syn _ hk]; exact .closed h1 h2
  | failed h1 h2 h3 h4 => exact absurd (h4 t (List.mem_cons_self ..)) hnd
  | reopen D k mk G h1 h2 h3 h4 h5 =>
    cases D with
    | nil => rw [(List.cons.inj h4).1] at hk; cases hk
    | cons d D' => exact absurd ((List.cons.inj h4).1 ▸ h5 d (List.mem_cons_self ..)) hnd
  | normal mk G h1 h2 h3 h4 h5 h6 =>
    rcases h5 with rfl | ⟨rfl, h5⟩
    · exact absurd (h4 t ((show G = t :: r from h3.symm) ▸ List.mem_cons_self ..)) hnd
    · obtain ⟨_, rfl⟩ := List.cons.inj h3
      have hcur : cur = some me := h6.resolve_right (fun h => nomatch h.2.1)
      exact .normal [] r h1 rfl rfl h4 (Or.inl rfl) (Or.inl hcur)

theorem WRep.fin {t : Tok} {r : List Tok} (h : WRep M me cur (t :: r) cl cr ins gw tl g) (hk : t.kind = .fin)
    (hlt : t.retries < M) {cr' : Bool} (hcr : cr' = if cl then cr else false) :
    ∃ tl', tl = bumpF M [t] ++ tl' ∧ WRep M me cur r cl cr' ins gw tl' g := by
  have hns : t.kind ≠ .syn := by rw [hk]; exact nofun
  have hnd : t.kind ≠ .data := by rw [hk]; exact nofun
  cases h with
  | closed h1 h2 => exact ⟨_, by rw [nosynq_cons_data _ hns, bumpF_cons], .closed h1 h2⟩
  | failed h1 h2 h3 h4 => exact absurd (h4 t (List.mem_cons_self ..)) hnd
  | normal mk G h1 h2 h3 h4 h5 h6 =>
    rcases h5 with rfl | ⟨rfl, _⟩
    · exact absurd (h4 t ((show G = t :: r from h3.symm) ▸ List.mem_cons_self ..)) hnd
    · rw [(List.cons.inj h3).1] at hk; cases hk
  | reopen D k mk G h1 h2 h3 h4 h5 h6 h7 =>
    cases D with
    | cons d D' => exact absurd ((List.cons.inj h4).1 ▸ h5 d (List.mem_cons_self ..)) hnd
    | nil =>
      obtain ⟨rfl, rfl⟩ := List.cons.inj h4
      subst h3
      refine ⟨[], by rw [bumpF_fin M k hlt]; rfl, ?_⟩
      rw [h1] at hcr
      refine .normal mk gw h1 hcr rfl h6 (h7.imp (·.1) (fun h => ⟨h.1, rfl⟩)) ?_
      rcases h7 with ⟨rfl, rfl, hc⟩ | ⟨_, hc⟩
      · exact Or.inr ⟨hc, rfl, rfl⟩
      · exact Or.inl hc

theorem WRep.shrink {sent rest : List Tok} (h : WRep M me cur inq cl cr (sent ++ rest) gw tl g)
    (hn : (cl || cr) = false) :
    ∃ G, gw = sent ++ (rest ++ G) ∧ tl = [] ∧ g = true ∧ WRep M me cur inq cl cr rest (rest ++ G) [] true := by
  have hr : sent ++ rest = [] → rest = [] := fun e => (List.append_eq_nil_iff.1 e).2
  cases h with
  | closed h1 h2 => rw [h1] at hn; cases hn
  | failed h1 h2 => rw [h1, h2] at hn; cases hn
  | reopen D k mk G h1 h2 => rw [h1, h2] at hn; cases hn
  | normal mk G h1 h2 h3 h4 h5 h6 =>
    exact ⟨G, List.append_assoc .., rfl, rfl,
      .normal mk G h1 h2 h3 h4 (h5.imp_right (fun h => ⟨h.1, hr h.2⟩)) (h6.imp_right (fun h => ⟨h.1, h.2.1, hr h.2.2⟩))⟩

theorem WRep.fail (h : WRep M me cur inq cl cr ins gw tl g) (hn : (cl || cr) = false) {cl' cr' : Bool}
    (hmode : cl' = true ∨ (cl' = false ∧ cr' = true ∧ ins ≠ [])) :
    tl = [] ∧ g = true ∧ ∃ tl', bumpF M gw = bumpF M ins ++ tl' ∧ WRep M me cur inq cl' cr' [] [] tl' false := by
  cases h with
  | closed h1 h2 => rw [h1] at hn; cases hn
  | failed h1 h2 => rw [h1, h2] at hn; cases hn
  | reopen D k mk G h1 h2 => rw [h1, h2] at hn; cases hn
  | normal mk G h1 h2 h3 h4 h5 h6 =>
    refine ⟨rfl, rfl, bumpF M G, bumpF_append M ins G, ?_⟩
    rcases hmode with hc | ⟨hc, hr, hne⟩
    · have hq : nosynq inq = G := by
        rw [h3, nosynq_append, nosynq_allData h4]
        rcases h5 with rfl | ⟨rfl, _⟩ <;> rfl
      rw [← hq]; exact .closed hc rfl
    · obtain rfl : mk = [] := h5.resolve_right (fun h => hne h.2)
      obtain rfl : inq = G := h3
      exact .failed hc hr rfl h4 (h6.resolve_right (fun h => hne h.2.2))

/-- an answer for an empty set while the worker refuses the partition anyway: nothing changes, unless the worker
    starts closing with a chaser in its queue - then it will bounce what it was going to accept -/
theorem WRep.refused (h : WRep M me cur inq cl cr [] gw tl g) (hn : (cl || cr) = true) {cl' : Bool}
    (hc : cl' = true ∨ cl' = cl) (hfq : ∀ t ∈ inq, t.kind = .fin → t.retries < M) :
    WRep M me cur inq cl' cr [] gw tl g ∨ (g = true ∧ WRep M me cur inq cl' cr [] [] (tl ++ bumpF M gw) false) := by
  cases h with
  | normal mk G h1 h2 => rw [h1, h2] at hn; cases hn
  | closed h1 h2 => exact Or.inl (.closed (hc.elim id (·.trans h1)) rfl)
  | failed h1 h2 h3 h4 h5 =>
    left
    cases hcl : cl' with
    | true =>
      have := WRep.closed (M := M) (me := me) (cur := cur) (inq := inq) (cl := true) (cr := cr) (ins := []) rfl rfl
      rwa [nosynq_allData h4] at this
    | false => exact .failed rfl h2 rfl h4 h5
  | reopen D k mk G h1 h2 h3 h4 h5 h6 h7 =>
    cases hcl : cl' with
    | false => exact Or.inl (.reopen D k mk gw rfl h2 rfl h4 h5 h6 h7)
    | true =>
      refine Or.inr ⟨rfl, ?_⟩
      have hk : k < M := hfq (finTok k) (by rw [h4]; simp) rfl
      have hq : bumpF M (nosynq inq) = bumpF M D ++ [finTok (k + 1)] ++ bumpF M gw := by
        have : nosynq (mk ++ gw) = gw := by
          rw [nosynq_append, nosynq_allData h6]
          rcases h7 with ⟨rfl, _, _⟩ | ⟨rfl, _⟩ <;> rfl
        rw [h4, nosynq_append, nosynq_allData h5, nosynq_cons_data _ (by exact nofun), this, bumpF_append, bumpF_cons,
          bumpF_fin M k hk, List.append_assoc]
      rw [← hq]; exact .closed rfl rfl

theorem WRep.pushes {E : List Tok} (h : WRep M me (some me) inq cl cr ins gw tl g) (hd : AllData E) :
    WRep M me (some me) (inq ++ E) cl cr ins (gw ++ if g then E else []) (tl ++ if g then [] else bumpF M E) g := by
  have hns : nosynq E = E := nosynq_allData hd
  cases h with
  | closed h1 h2 =>
    show WRep _ _ _ _ _ _ _ [] (bumpF M (nosynq inq) ++ bumpF M E) false
    rw [← bumpF_append, ← hns, ← nosynq_append, hns]; exact .closed h1 h2
  | normal mk G h1 h2 h3 h4 h5 h6 =>
    show WRep _ _ _ _ _ _ _ (ins ++ G ++ E) ([] ++ []) true
    rw [List.append_assoc]
    exact .normal mk (G ++ E) h1 h2 (by rw [h3, List.append_assoc]) (h4.append hd) h5 (Or.inl rfl)
  | failed h1 h2 h3 h4 h5 =>
    show WRep _ _ _ _ _ _ _ [] (bumpF M inq ++ bumpF M E) false
    rw [← bumpF_append]; exact .failed h1 h2 h3 (h4.append hd) h5
  | reopen D k mk G h1 h2 h3 h4 h5 h6 h7 =>
    obtain ⟨rfl, _⟩ : mk = [synTok] ∧ _ := h7.resolve_left (fun h => nomatch h.2.2)
    show WRep _ _ _ _ _ _ _ (gw ++ E) (bumpF M D ++ [finTok (k + 1)] ++ []) true
    rw [List.append_nil]
    exact .reopen D k [synTok] (gw ++ E) h1 h2 h3 (by rw [h4]; simp) h5 (h6.append hd) (Or.inr ⟨rfl, rfl⟩)

/-- updateLeader selects the worker: a syn goes first -/
theorem WRep.select (h : WRep M me none inq cl cr ins gw tl g) : WRep M me (some me) (inq ++ [synTok]) cl cr ins gw tl g := by
  cases h with
  | closed h1 h2 =>
    rw [show nosynq inq = nosynq (inq ++ [synTok]) by rw [nosynq_append]; exact (List.append_nil _).symm]
    exact .closed h1 h2
  | failed h1 h2 h3 h4 h5 => cases h5
  | normal mk G h1 h2 h3 h4 h5 h6 =>
    obtain ⟨_, rfl, rfl⟩ := h6.resolve_left (fun h => nomatch h)
    obtain ⟨rfl, rfl⟩ := List.append_eq_nil_iff.1 h3.symm
    exact .normal [synTok] [] h1 h2 rfl h4 (Or.inr ⟨rfl, rfl⟩) (Or.inl rfl)
  | reopen D k mk G h1 h2 h3 h4 h5 h6 h7 =>
    obtain ⟨rfl, rfl, _⟩ := h7.resolve_right (fun h => nomatch h.2)
    exact .reopen D k [synTok] [] h1 h2 h3 (by rw [h4]; simp) h5 h6 (Or.inr ⟨rfl, rfl⟩)

/-- newHighWatermark: the chaser goes to the worker (which does not accept the partition), and the partition
    producer lets go of it -/
theorem WRep.chase {l : Nat} (h : WRep M me cur inq cl cr ins gw tl false) (hl : l < M) :
    ∃ g', WRep M me none (inq ++ [finTok l]) cl cr ins gw (tl ++ [finTok (l + 1)]) g' := by
  cases h with
  | closed h1 h2 =>
    refine ⟨false, ?_⟩
    rw [← bumpF_fin M l hl, ← bumpF_append, show [finTok l] = nosynq [finTok l] from rfl, ← nosynq_append]
    exact .closed h1 h2
  | failed h1 h2 h3 h4 h5 =>
    exact ⟨true, .reopen inq l [] [] h1 h2 h3 rfl h4 (fun _ h => nomatch h) (Or.inl ⟨rfl, rfl, rfl⟩)⟩

end WRep

theorem rep_av {M : Nat} {s : Sys} {v : View} (h : Rep M s v) : ∃ tl, v.av = s.pq ++ s.dq ++ s.ret ++ tl ∧
    (∀ t ∈ tl, 1 ≤ t.retries) := by
  obtain ⟨gw, tl, g, hw, rfl⟩ := h.wrep
  exact ⟨tl, rfl, hw.tl_pos⟩

/-- the side conditions of the single worker (worker 0 is the only worker that is ever used); for any number of
    workers they are `BaseU` and `ConcU`, Lemmas/C02uRep.lean -/
structure Conc (M : Nat) (s : Sys) (v : View) : Prop where
  pinv  : Props.C02bp.PInv (W s).bp
  p0    : P0 (s.pq ++ s.dq ++ s.ret ++ (W s).inq ++ ins s)
  -- retry levels are within the budget; a chaser on its way to the worker can still be bounced once more
  lvl   : ∀ t ∈ s.pq ++ s.dq ++ s.ret, t.retries ≤ M
  finq  : ∀ t ∈ (W s).inq, t.kind = .fin → t.retries < M
  ret1  : ∀ t ∈ s.ret, 1 ≤ t.retries
  cur01 : s.cur = none ∨ s.cur = some 0
  -- while the partition producer is bound to no worker, nothing in flight is above the high watermark (leaving
  -- the worker raised it): the next data token cannot raise it again before a worker is selected
  capN  : s.cur = none → ∀ x ∈ data v.av, x.retries ≤ v.pp.hwm
  -- newHighWatermark never found `pp.brokerProducer == nil`
  crash : s.crash = false

/-- the log and the successes against the live tokens of the view -/
structure LogInv (s : Sys) (v : View) : Prop where
  -- a live id below a logged id is itself in the log
  K    : ∀ b ∈ s.log, ∀ a, LiveId v a → a < b → a ∈ s.log
  -- first copies in the log come in id order
  J    : ∀ a b, a < b → a ∈ s.log → b ∈ s.log → s.log.idxOf a < s.log.idxOf b
  -- a success is below every live id; success offsets increase with the id and lie inside the log
  S1   : ∀ p ∈ s.succ, ∀ a, LiveId v a → p.1 < a
  S3   : ∀ p ∈ s.succ, ∀ q ∈ s.succ, p.1 < q.1 → p.2 < q.2
  S5   : ∀ p ∈ s.succ, p.2 < s.log.length
  -- every id seen so far was submitted
  S6   : ∀ p ∈ s.succ, p.1 < (s.next : Int)
  idlt : ∀ a, LiveId v a → a < (s.next : Int)
  Llt  : ∀ b ∈ s.log, b < (s.next : Int)
  -- a pending answer is for the one set at the bridge; its base offset is above every success so far, and an ok
  -- answers a set that was appended at that offset
  pend : ∀ vd base, (W s).pend = some (vd, base) →
    ∃ sent, (W s).bp.sets = [sent] ∧ (∀ p ∈ s.succ, p.2 < base) ∧
      (vd = .ok → base + sent.length ≤ s.log.length)

structure Good (M : Nat) (s : Sys) (v : View) : Prop where
  rep  : Rep M s v
  vinv : VInv v
  conc : Conc M s v
  log  : LogInv s v

/-- a choice that concerns worker 0 only, with leader lookups that can only find worker 0 -/
def OneW : Choice → Prop
  | .ppRecv lks => ∀ l ∈ lks, l = none ∨ l = some 0
  | .bpRecv w _ => w = 0
  | .handover w => w = 0
  | .broker w _ => w = 0
  | .deliver w _ => w = 0
  | .closeW _ => False   -- outside the single-worker scope (see Props/C02chain.lean)
  | _ => True

/-- the system after `Choice.submit` -/
def submitS (s : Sys) : Sys := { s with next := s.next + 1, dq := s.dq ++ [mkTok (s.next : Int) 0 false] }

/-- the system after worker `w` has become `x` and has bounced `X`, with successes `sc` and errors `e`: what `afterW`
    (Lemmas/C02sysFifo.lean) is once it is known what the worker's actions re-queue and report (`afterW_work`) -/
def workSw (M : Nat) (s : Sys) (w : Nat) (x : Worker) (X : List Tok) (sc : List (Int × Nat)) (e : List Int) : Sys :=
  { s with wk := setW s.wk w x, ret := s.ret ++ bumpF M X, succ := sc, errs := e }

theorem afterW_work {M : Nat} {s : Sys} {w : Nat} {q : List Tok} {pend : Option (Pipeline.Verdict × Nat)} {off : Nat}
    {i : BrokerProd.In} {st : BrokerProd.St × List BrokerProd.Action} {X : List Tok} {sc : List (Int × Nat)} {e : List Int}
    (hst : BrokerProd.step M (s.wk w).bp i = st) (h1 : actRet st.2 = bumpF M X) (h2 : s.succ ++ actSucc off st.2 = sc)
    (h3 : s.errs ++ actErrs st.2 = e) : afterW M s w q pend off i = workSw M s w ⟨q, st.1, pend⟩ X sc e := by
  subst hst; rw [afterW, h1, h2, h3]; rfl

theorem afterW_bounce1 {M : Nat} {s : Sys} {w : Nat} {q : List Tok} {pend : Option (Pipeline.Verdict × Nat)} {off : Nat}
    {i : BrokerProd.In} {b' : BrokerProd.St} {t : Tok}
    (hst : BrokerProd.step M (s.wk w).bp i = (b', [.refuse t.id, BrokerProd.retryMsg M t])) (ht : t.kind ≠ .syn) :
    afterW M s w q pend off i = workSw M s w ⟨q, b', pend⟩ [t] s.succ (s.errs ++ errOut M [t]) := by
  obtain ⟨h1, h2, h3⟩ := act_retry1 M ht []
  exact afterW_work hst (h1.trans (List.append_nil _)) ((congrArg _ (h3 off)).trans (List.append_nil _))
    (congrArg _ (h2.trans (List.append_nil _)))

theorem afterW_quiet {M : Nat} {s : Sys} {w : Nat} {q : List Tok} {pend : Option (Pipeline.Verdict × Nat)} {off : Nat}
    {i : BrokerProd.In} {st : BrokerProd.St × List BrokerProd.Action} (hst : BrokerProd.step M (s.wk w).bp i = st)
    (h : Bounces M st.2 []) : afterW M s w q pend off i = workSw M s w ⟨q, st.1, pend⟩ [] s.succ s.errs :=
  afterW_work hst h.1 ((congrArg _ (h.2.2 off)).trans (List.append_nil _)) ((congrArg _ h.2.1).trans (List.append_nil _))

end Lemmas.C02sys
