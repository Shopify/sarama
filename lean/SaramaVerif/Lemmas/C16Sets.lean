import SaramaVerif.Model.ProduceSet
/-
  C16 / C04: structural lemmas about the produce-set model (lookup / addTo / removeTp,
  the running sums, the per-partition estimate) and the state invariant `SInv` that every reachable set has.
  At the end, the one place where the batch format is decided: `buildBatch` tests the request version, its users know
  the gate `c.v2`; `buildBatch_eq` restates the one by the other under `GatesOrdered`, which both regimes of the users
  give (`Conf.WF` in C04, `codec = 0` for the sizes of C16), and every per-format statement reads off a branch of it.
-/
namespace Lemmas.C16
open Model.ProduceSet

def sumBytes : List PSet → Int
  | [] => 0
  | p :: t => p.bufferBytes + sumBytes t

def sumCount : List PSet → Int
  | [] => 0
  | p :: t => (p.msgs.length : Int) + sumCount t

def payload : List Msg → Int
  | [] => 0
  | m :: t => ((m.keyLen : Int) + (m.valLen : Int)) + payload t

/-- what `add` accumulates for the 2nd, 3rd, … message of a partition set -/
def restBytes (c : Conf) : List Msg → Int
  | [] => 0
  | m :: t => addSize c false m + restBytes c t

/-- what `add` accumulates for the messages of one partition set -/
def estimate (c : Conf) : List Msg → Int
  | [] => 0
  | m :: t => addSize c true m + restBytes c t

theorem headersSize_nonneg (hs : List (Nat × Nat)) : 0 ≤ headersSize hs := by
  induction hs with
  | nil => simp [headersSize]
  | cons h t ih => simp only [headersSize, maxVarintLen32]; omega

theorem byteSize_ge (v : Int) (m : Msg) : 26 + (m.keyLen : Int) + (m.valLen : Int) ≤ byteSize v m := by
  have := headersSize_nonneg m.headers
  unfold byteSize maximumRecordOverhead producerMessageOverhead
  split <;> omega

theorem addSize_eq (c : Conf) (isNew : Bool) (m : Msg) :
    addSize c isNew m = byteSize (sizeVersion c) m + (if c.v2 = true ∧ isNew = true then recordBatchOverhead else 0) := by
  unfold addSize byteSize sizeVersion
  cases hv : c.v2 <;> cases isNew <;> simp <;> omega

theorem addSize_false (c : Conf) (m : Msg) : addSize c false m = byteSize (sizeVersion c) m := by
  rw [addSize_eq, if_neg (fun h => nomatch h.2), Int.add_zero]

theorem addSize_le (c : Conf) (isNew : Bool) (m : Msg) :
    addSize c isNew m ≤ byteSize (sizeVersion c) m + (if c.v2 = true then recordBatchOverhead else 0) := by
  rw [addSize_eq]
  cases c.v2 <;> cases isNew <;> simp [recordBatchOverhead] <;> omega

theorem addSize_ge (c : Conf) (isNew : Bool) (m : Msg) : 26 + (m.keyLen : Int) + (m.valLen : Int) ≤ addSize c isNew m := by
  rw [addSize_eq]
  have := byteSize_ge (sizeVersion c) m
  unfold recordBatchOverhead
  split <;> omega

theorem restBytes_ge (c : Conf) (ms : List Msg) : payload ms + 26 * (ms.length : Int) ≤ restBytes c ms := by
  induction ms with
  | nil => simp [payload, restBytes]
  | cons m t ih =>
    have := addSize_ge c false m
    simp only [payload, restBytes, List.length_cons]; omega

theorem estimate_ge (c : Conf) (ms : List Msg) : payload ms + 26 * (ms.length : Int) ≤ estimate c ms := by
  cases ms with
  | nil => simp [payload, estimate]
  | cons m t =>
    have := addSize_ge c true m
    have := restBytes_ge c t
    simp only [payload, estimate, List.length_cons]; omega

theorem restBytes_append (c : Conf) (ms : List Msg) (m : Msg) :
    restBytes c (ms ++ [m]) = restBytes c ms + addSize c false m := by
  induction ms with
  | nil => simp [restBytes]
  | cons a t ih => simp only [List.cons_append, restBytes, ih]; omega

theorem estimate_append (c : Conf) (ms : List Msg) (m : Msg) (h : ms ≠ []) :
    estimate c (ms ++ [m]) = estimate c ms + addSize c false m := by
  cases ms with
  | nil => exact absurd rfl h
  | cons a t => simp only [List.cons_append, estimate, restBytes_append]; omega

theorem estimate_eq_restBytes (c : Conf) (ms : List Msg) (h : ms ≠ []) :
    estimate c ms = restBytes c ms + (if c.v2 = true then recordBatchOverhead else 0) := by
  cases ms with
  | nil => exact absurd rfl h
  | cons a t =>
    rw [estimate, restBytes, addSize_eq, addSize_false]
    simp only [and_true]
    exact Int.add_right_comm ..

theorem lookup_some {tp : Nat × Nat} {ps : List PSet} {p : PSet} (h : lookup tp ps = some p) :
    p ∈ ps ∧ p.tp = tp := by
  induction ps with
  | nil => simp [lookup] at h
  | cons q t ih =>
    simp only [lookup] at h
    split at h
    · cases h; exact ⟨List.mem_cons_self, by assumption⟩
    · exact ⟨List.mem_cons_of_mem _ (ih h).1, (ih h).2⟩

theorem mem_addTo {c : Conf} {now : Int} {m : Msg} {ps : List PSet} {p' : PSet} (h : p' ∈ addTo c now m ps) :
    p' ∈ ps ∨ (lookup m.tp ps = none ∧ p' = newPSet c now m) ∨
      (∃ p, lookup m.tp ps = some p ∧ p' = extend c now p m) := by
  induction ps with
  | nil => exact Or.inr (Or.inl ⟨rfl, List.mem_singleton.mp h⟩)
  | cons q t ih =>
    revert h
    simp only [addTo, lookup]
    split <;> intro h <;> rcases List.mem_cons.mp h with h | h
    · exact Or.inr (Or.inr ⟨q, rfl, h⟩)
    · exact Or.inl (List.mem_cons_of_mem _ h)
    · exact Or.inl (h ▸ List.mem_cons_self)
    · exact (ih h).imp_left (List.mem_cons_of_mem _)

theorem sumBytes_addTo (c : Conf) (now : Int) (m : Msg) (ps : List PSet) :
    sumBytes (addTo c now m ps) = sumBytes ps + addSize c (lookup m.tp ps).isNone m := by
  induction ps with
  | nil => simp [addTo, sumBytes, lookup, newPSet]
  | cons q t ih =>
    rw [addTo, lookup]
    by_cases h : q.tp = m.tp
    · rw [if_pos h, if_pos h]; exact Int.add_right_comm ..
    · rw [if_neg h, if_neg h]; exact (congrArg (q.bufferBytes + ·) ih).trans (Int.add_assoc ..).symm

theorem sumCount_addTo (c : Conf) (now : Int) (m : Msg) (ps : List PSet) :
    sumCount (addTo c now m ps) = sumCount ps + 1 := by
  induction ps with
  | nil => simp [addTo, sumCount, newPSet]
  | cons q t ih =>
    rw [addTo]
    by_cases h : q.tp = m.tp
    · rw [if_pos h]
      simp only [sumCount, extend, List.length_append, List.length_singleton]; omega
    · rw [if_neg h]; exact (congrArg ((q.msgs.length : Int) + ·) ih).trans (Int.add_assoc ..).symm

theorem mem_removeTp {tp : Nat × Nat} {ps : List PSet} {p : PSet} (h : p ∈ removeTp tp ps) : p ∈ ps := by
  induction ps with
  | nil => simp [removeTp] at h
  | cons q t ih =>
    simp only [removeTp] at h
    split at h
    · exact List.mem_cons_of_mem _ h
    · rcases List.mem_cons.mp h with h | h
      · exact h ▸ List.mem_cons_self
      · exact List.mem_cons_of_mem _ (ih h)

theorem sums_removeTp {tp : Nat × Nat} {ps : List PSet} {p : PSet} (h : lookup tp ps = some p) :
    sumBytes (removeTp tp ps) = sumBytes ps - p.bufferBytes ∧
    sumCount (removeTp tp ps) = sumCount ps - (p.msgs.length : Int) := by
  induction ps with
  | nil => simp [lookup] at h
  | cons q t ih =>
    revert h
    simp only [lookup, removeTp]
    split <;> intro h
    · cases h; exact ⟨(Int.sub_eq_iff_eq_add'.mpr rfl).symm, (Int.sub_eq_iff_eq_add'.mpr rfl).symm⟩
    · exact ⟨(congrArg (q.bufferBytes + ·) (ih h).1).trans (Int.add_sub_assoc ..).symm,
        (congrArg ((q.msgs.length : Int) + ·) (ih h).2).trans (Int.add_sub_assoc ..).symm⟩

def recSizes (r : Rec) : Nat × Nat × List (Nat × Nat) := (r.keyLen, r.valLen, r.headers)
def msgSizes (c : Conf) (m : Msg) : Nat × Nat × List (Nat × Nat) :=
  (m.keyLen, m.valLen, if c.v2 then m.headers else [])

structure PInv (c : Conf) (p : PSet) : Prop where
  nonempty : p.msgs ≠ []
  bytes : p.bufferBytes = estimate c p.msgs
  sizes : p.recs.map recSizes = p.msgs.map (msgSizes c)
  ids : p.recs.map (·.id) = p.msgs.map (·.id)
  tps : ∀ m ∈ p.msgs, m.tp = p.tp

structure SInv (c : Conf) (s : State) : Prop where
  parts : ∀ p ∈ s.parts, PInv c p
  bytes : s.bufferBytes = sumBytes s.parts
  count : s.bufferCount = sumCount s.parts

theorem payload_nonneg (l : List Msg) : 0 ≤ payload l := by
  induction l with
  | nil => exact Int.le_refl _
  | cons a t ih => exact Int.add_nonneg (Int.add_nonneg (Int.natCast_nonneg _) (Int.natCast_nonneg _)) ih

theorem PInv.bytes_pos {c : Conf} {p : PSet} (h : PInv c p) : 26 ≤ p.bufferBytes := by
  have := estimate_ge c p.msgs
  have := payload_nonneg p.msgs
  have := List.length_pos_iff.mpr h.nonempty
  rw [h.bytes]; omega

theorem pinv_new (c : Conf) (now : Int) (m : Msg) : PInv c (newPSet c now m) where
  nonempty := List.cons_ne_nil _ _
  bytes := (Int.add_zero _).symm
  sizes := by
    simp only [newPSet, List.map_cons, List.map_nil, recSizes, msgSizes, mkRec]
  ids := rfl
  tps := fun x hx => List.mem_singleton.mp hx ▸ rfl

theorem pinv_extend {c : Conf} {p : PSet} (now : Int) (m : Msg) (h : PInv c p) (ht : p.tp = m.tp) :
    PInv c (extend c now p m) where
  nonempty := List.append_ne_nil_of_right_ne_nil _ (List.cons_ne_nil _ _)
  bytes := (congrArg (· + addSize c false m) h.bytes).trans (estimate_append c p.msgs m h.nonempty).symm
  sizes := by
    simp only [extend, List.map_append, h.sizes, List.map_cons, List.map_nil, recSizes, msgSizes, mkRec]
  ids := by simp [extend, h.ids, mkRec]
  tps := fun x hx => (List.mem_append.mp hx).elim (h.tps x) fun hx => List.mem_singleton.mp hx ▸ ht.symm

theorem sinv_empty (c : Conf) : SInv c State.empty where
  parts := by simp [State.empty]
  bytes := rfl
  count := rfl

theorem sinv_add {c : Conf} {s : State} (now : Int) (m : Msg) (h : SInv c s) : SInv c (add c s now m) := by
  unfold add
  split
  · refine ⟨?_, ?_, ?_⟩
    · intro p' hp'
      rcases mem_addTo hp' with h1 | ⟨_, h2⟩ | ⟨p, h1, h2⟩
      · exact h.parts p' h1
      · exact h2 ▸ pinv_new c now m
      · have := lookup_some h1
        exact h2 ▸ pinv_extend now m (h.parts p this.1) this.2
    · simp only [sumBytes_addTo, h.bytes]
    · simp only [sumCount_addTo, h.count]
  · exact h

theorem sinv_drop {c : Conf} {s : State} (tp : Nat × Nat) (h : SInv c s) : SInv c (dropPartition s tp) := by
  unfold dropPartition
  split
  · exact h
  · rename_i p hl
    have hs := sums_removeTp hl
    exact ⟨fun q hq => h.parts q (mem_removeTp hq), by simp only [hs.1, h.bytes], by simp only [hs.2, h.count]⟩

theorem sinv_single {c : Conf} {s : State} {p : PSet} (h : SInv c s) (hp : p ∈ s.parts) : SInv c (State.single p) where
  parts := by
    intro q hq
    simp only [State.single, List.mem_singleton] at hq
    exact hq ▸ h.parts p hp
  bytes := by simp [State.single, sumBytes]
  count := by simp [State.single, sumCount]

theorem sums_nonneg {c : Conf} {ps : List PSet} (h : ∀ p ∈ ps, PInv c p) : 0 ≤ sumBytes ps ∧ 0 ≤ sumCount ps := by
  induction ps with
  | nil => exact ⟨Int.le_refl _, Int.le_refl _⟩
  | cons q t ih =>
    have ih := ih fun x hx => h x (List.mem_cons_of_mem _ hx)
    exact ⟨Int.add_nonneg (Int.le_trans (by decide) (h q List.mem_cons_self).bytes_pos) ih.1,
      Int.add_nonneg (Int.natCast_nonneg _) ih.2⟩

theorem member_le_sums {c : Conf} {ps : List PSet} (h : ∀ p ∈ ps, PInv c p) {p : PSet} (hp : p ∈ ps) :
    p.bufferBytes ≤ sumBytes ps ∧ (p.msgs.length : Int) ≤ sumCount ps := by
  induction ps with
  | nil => cases hp
  | cons q t ih =>
    have ht := sums_nonneg fun x hx => h x (List.mem_cons_of_mem _ hx)
    rcases List.mem_cons.mp hp with rfl | hp
    · exact ⟨Int.le_add_of_nonneg_right ht.1, Int.le_add_of_nonneg_right ht.2⟩
    · have ih := ih (fun x hx => h x (List.mem_cons_of_mem _ hx)) hp
      exact ⟨Int.le_trans ih.1 (Int.le_add_of_nonneg_left (Int.le_trans (by decide) (h q List.mem_cons_self).bytes_pos)),
        Int.le_trans ih.2 (Int.le_add_of_nonneg_left (Int.natCast_nonneg _))⟩

theorem parts_nil_of_count_zero {c : Conf} {s : State} (h : SInv c s) (h0 : s.bufferCount = 0) : s.parts = [] :=
  List.eq_nil_iff_forall_not_mem.mpr fun p hp => by
    have := (member_le_sums h.parts hp).2
    have := List.length_pos_iff.mpr (h.parts p hp).nonempty
    have := h.count
    omega

/-- the zstd gate (codec 4 from 2.1 on: request version 7) is not open below the record-batch gate (0.11): so it is when
    one KafkaVersion answers both (`Conf.WF`) and, trivially, for every codec but zstd -/
def GatesOrdered (c : Conf) : Prop := c.codec = 4 → c.v21 = true → c.v2 = true

theorem gates_of_wf {c : Conf} (h : c.WF) : GatesOrdered c := fun _ => h.1

theorem gates_of_uncompressed {c : Conf} (h : c.codec = 0) : GatesOrdered c := fun h4 => absurd (h ▸ h4) (by decide)

/-- below 0.11 the only way to a request version ≥ 3 is the zstd gate, which `hg` closes -/
theorem reqVersion_ge3_iff {c : Conf} (hg : GatesOrdered c) : reqVersion c ≥ 3 ↔ c.v2 = true := by
  unfold reqVersion
  cases hv : c.v2
  · rw [if_neg fun h => absurd (hv ▸ hg h.1 h.2) (by decide), if_neg (by decide)]
    split <;> decide
  · rw [if_pos rfl]
    split <;> decide

theorem buildBatch_eq {c : Conf} (hg : GatesOrdered c) (p : PSet) :
    buildBatch c p =
      if c.v2 = true then
        .recordBatch p.firstTs (if p.recs.length > 0 then (p.recs.length : Int) - 1 else 0) c.codec (renumber 0 p.recs)
      else if c.codec = 0 then .msgSet (if c.v1 then 1 else 0) p.recs
      else if c.v1 then .wrapper c.codec 1 (headTs p.recs) (renumber 0 p.recs)
      else .wrapper c.codec 0 none p.recs := by
  by_cases hv : c.v2 = true
  · rw [buildBatch, if_pos ((reqVersion_ge3_iff hg).mpr hv), if_pos hv]
  · rw [buildBatch, if_neg (mt (reqVersion_ge3_iff hg).mp hv), if_neg hv]

end Lemmas.C16
