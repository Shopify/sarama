/-
  C02 composition, the invariant `GoodU` in a run from the initial state: `GoodC`, where the level bands are clauses
  (`K = True`), `l` is whichever worker was bound last, and a worker that is neither `l` nor old is still in its
  initial state (so it takes no step: `Feeds.used`, Lemmas/C02sysFifo.lean).  `GoodU.rise_refuses`: what the channel
  shape `Strict` (Lemmas/C02uStrict.lean) takes from the ordering invariant.  `CInv` (Props/C02chain.lean) is `Base`,
  `FinS` (Lemmas/C02liveFin.lean), `Strict` and `GoodC`, with the workers named so far.
-/
import SaramaVerif.Lemmas.C02uStepD
import SaramaVerif.Lemmas.C02uStepP

namespace Lemmas.C02sys
open Model Model.Pipeline

variable {M : Nat} {K : Prop} {s s' : Sys} {olds : List Nat} {l w : Nat} {v : View}

/-- the token was bounced, and only a refusing worker bounces above the watermark (`rise_bad`) -/
theorem GoodU.rise_refuses (h : GoodU M K s olds l v) {t : Tok} {r : List Tok} (hq : s.pq = t :: r)
    (hgt : s.pp.hwm < t.retries) (hc : s.cur = some w) : BrokerProd.needsRetry (s.wk w).bp 0 = true := by
  obtain rfl : w = l := h.conc.cur.elim (fun e => by rw [hc] at e; cases e) (fun e => Option.some.inj (hc.symm.trans e))
  obtain ⟨gw, tl, g, hwr, rfl, _⟩ := h.rep
  have hav : (⟨s.pp, gw, s.pq ++ s.dq ++ s.ret ++ (lanes M s olds ++ tl), g⟩ : View).av = t :: _ :=
    (pq_head hq _).2
  have hm : t ∈ s.pq ++ s.dq ++ s.ret ++ (lanes M s olds ++ tl) := by
    rw [show s.pq ++ s.dq ++ s.ret ++ (lanes M s olds ++ tl) = _ from hav]; exact List.mem_cons_self ..
  have hd : isData t = true := by
    rcases kind_cases t with hk | hk | hk
    · simp [isData, hk]
    · exact absurd hk (h.vinv.nosyn t hm)
    · exact absurd (h.vinv.fin1 t hm hk).2.1 (Nat.not_le.2 hgt)
  obtain rfl : g = false := rise_bad h.vinv hav hd hgt
  rw [needsRetry_iff]
  cases hwr with
  | closed h1 => rw [h1]; rfl
  | failed h1 h2 => rw [h2, Bool.or_true]

def GoodC (M : Nat) (s : Sys) (olds : List Nat) (v : View) : Prop :=
  ∃ l, GoodU M True s olds l v ∧ ∀ w, s.wk w ≠ {} → w = l ∨ w ∈ olds

theorem goodC_closeW {w : Nat} (h : GoodC M s olds v) (hs : sysStep M s (.closeW w) = some s') :
    ∃ v', GoodC M s' olds v' := by
  obtain ⟨l, hg, hnp⟩ := h
  obtain ⟨v', hg'⟩ := goodU_closeW hg hs
  refine ⟨v', l, hg', fun u hu => ?_⟩
  cases step_iff.1 hs with
  | worker hf => cases hf
  | closeW hc =>
    by_cases e : u = w
    · exact .inl (e.trans (hg.conc.cur.elim (fun e' => by rw [(canClose_facts hc).1] at e'; cases e')
        (fun e' => Option.some.inj ((canClose_facts hc).1.symm.trans e'))))
    · exact hnp u fun e' => hu ((setW_other _ _ e).trans e')

end Lemmas.C02sys
