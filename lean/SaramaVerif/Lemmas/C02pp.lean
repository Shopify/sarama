import SaramaVerif.Model.PartProd
/-
  The component module for `Model.PartProd` (as Lemmas/C02bp.lean is for `Model.BrokerProd`): `recv` by its five
  branches (one equation per branch under its guards, `recv_eq` puts them side by side) and `flush` by its three cases
  (the equations `flush_stop`, `flush_cont` with `flush_mode`, and the induction principle `flush_ind` made of them),
  with what the composition reads off a flush by that induction: where the watermark stops (`flush_top`, `flush_le`,
  `flush_hwm_ge`) and that what is emitted was parked (`flush_all_emit`, `mem_setBuf_nil`);
  then what `recv` does to the expect flags (`recv_top`, `recv_fin_clears`, `recv_expect`).
  No proof outside this file unfolds `PartProd.recv`.  The namespace is that of the composed model, whose files use
  these equations beside the broker worker's (`Props.C02sys.recv_eq`, Lemmas/C02bp.lean, is the worker's `recv`).
-/
namespace Lemmas.C02sys
open Model

theorem recv_rise (pp : PartProd.St) (px : PartProd.Tok) (h : px.retries > pp.hwm) :
    PartProd.recv pp px = ({ pp with hwm := px.retries, expect := PartProd.setExp pp.expect px.retries true },
      [.finSend (px.retries - 1), .emit px.id px.retries px.fin]) := by
  simp [PartProd.recv, h]

theorem recv_finLow (pp : PartProd.St) (px : PartProd.Tok) (h1 : ¬ px.retries > pp.hwm) (h2 : px.retries < pp.hwm)
    (hf : px.fin = true) :
    PartProd.recv pp px = ({ pp with expect := PartProd.setExp pp.expect px.retries false }, [.finDone]) := by
  have : pp.hwm > 0 := by omega
  simp [PartProd.recv, h1, h2, hf, this]

theorem recv_park (pp : PartProd.St) (px : PartProd.Tok) (h1 : ¬ px.retries > pp.hwm) (h2 : px.retries < pp.hwm)
    (hf : px.fin = false) :
    PartProd.recv pp px =
      ({ pp with bufs := PartProd.setBuf pp.bufs px.retries (pp.bufs px.retries ++ [px]) }, [.park px.id]) := by
  have : pp.hwm > 0 := by omega
  simp [PartProd.recv, h1, h2, hf, this]

theorem recv_finTop (pp : PartProd.St) (px : PartProd.Tok) (h1 : px.retries = pp.hwm) (h0 : pp.hwm > 0)
    (hf : px.fin = true) :
    PartProd.recv pp px =
      ({ hwm := (PartProd.flush pp.hwm pp.bufs (PartProd.setExp pp.expect pp.hwm false)).1,
         bufs := (PartProd.flush pp.hwm pp.bufs (PartProd.setExp pp.expect pp.hwm false)).2.1,
         expect := PartProd.setExp pp.expect pp.hwm false },
       .finDone :: (PartProd.flush pp.hwm pp.bufs (PartProd.setExp pp.expect pp.hwm false)).2.2) := by
  have a : ¬ px.retries > pp.hwm := by omega
  have b : ¬ px.retries < pp.hwm := by omega
  simp [PartProd.recv, a, b, hf, h0]

theorem recv_emit (pp : PartProd.St) (px : PartProd.Tok) (h1 : ¬ px.retries > pp.hwm)
    (h2 : pp.hwm = 0 ∨ (¬ px.retries < pp.hwm ∧ px.fin = false)) :
    PartProd.recv pp px = (pp, [.emit px.id px.retries px.fin]) := by
  rcases h2 with h2 | ⟨h2, h3⟩
  · have : ¬ pp.hwm > 0 := by omega
    simp [PartProd.recv, h1, this]
  · by_cases h0 : pp.hwm > 0
    · simp [PartProd.recv, h1, h2, h3, h0]
    · simp [PartProd.recv, h1, h0]

theorem recv_eq (p : PartProd.St) (x : PartProd.Tok) :
    (p.hwm < x.retries ∧ PartProd.recv p x =
      ({ p with hwm := x.retries, expect := PartProd.setExp p.expect x.retries true },
       [.finSend (x.retries - 1), .emit x.id x.retries x.fin])) ∨
    (x.retries < p.hwm ∧ x.fin = true ∧
      PartProd.recv p x = ({ p with expect := PartProd.setExp p.expect x.retries false }, [.finDone])) ∨
    (x.retries < p.hwm ∧ x.fin = false ∧ PartProd.recv p x =
      ({ p with bufs := PartProd.setBuf p.bufs x.retries (p.bufs x.retries ++ [x]) }, [.park x.id])) ∨
    (x.retries = p.hwm ∧ 0 < p.hwm ∧ x.fin = true ∧ PartProd.recv p x =
      ({ hwm := (PartProd.flush p.hwm p.bufs (PartProd.setExp p.expect p.hwm false)).1,
         bufs := (PartProd.flush p.hwm p.bufs (PartProd.setExp p.expect p.hwm false)).2.1,
         expect := PartProd.setExp p.expect p.hwm false },
       .finDone :: (PartProd.flush p.hwm p.bufs (PartProd.setExp p.expect p.hwm false)).2.2)) ∨
    (x.retries = p.hwm ∧ (x.fin = true → p.hwm = 0) ∧ PartProd.recv p x = (p, [.emit x.id x.retries x.fin])) := by
  by_cases h1 : x.retries > p.hwm
  · exact .inl ⟨h1, recv_rise p x h1⟩
  have hle : x.retries ≤ p.hwm := Nat.not_lt.1 h1
  by_cases hf : x.fin = true
  · by_cases h2 : x.retries < p.hwm
    · exact .inr (.inl ⟨h2, hf, recv_finLow p x h1 h2 hf⟩)
    have he : x.retries = p.hwm := Nat.le_antisymm hle (Nat.not_lt.1 h2)
    by_cases h0 : p.hwm = 0
    · exact .inr (.inr (.inr (.inr ⟨he, fun _ => h0, recv_emit p x h1 (.inl h0)⟩)))
    · exact .inr (.inr (.inr (.inl ⟨he, Nat.pos_of_ne_zero h0, hf, recv_finTop p x he (Nat.pos_of_ne_zero h0) hf⟩)))
  · have hf := Bool.eq_false_iff.2 hf
    by_cases h2 : x.retries < p.hwm
    · exact .inr (.inr (.inl ⟨h2, hf, recv_park p x h1 h2 hf⟩))
    · exact .inr (.inr (.inr (.inr ⟨Nat.le_antisymm hle (Nat.not_lt.1 h2),
        fun h => Bool.noConfusion (hf.symm.trans h), recv_emit p x h1 (.inr ⟨h2, hf⟩)⟩)))

theorem mem_setBuf_nil {bufs : Nat → List PartProd.Tok} {n l : Nat} {t : PartProd.Tok}
    (h : t ∈ PartProd.setBuf bufs n [] l) : t ∈ bufs l := by
  by_cases hl : l = n
  · rw [PartProd.setBuf, if_pos hl] at h; cases h
  · rwa [PartProd.setBuf, if_neg hl] at h

theorem flush_stop (h : Nat) (bufs : Nat → List PartProd.Tok) (e : Nat → Bool) (hs : e h = true ∨ h = 0) :
    PartProd.flush (h + 1) bufs e =
      (h, PartProd.setBuf bufs h [], (bufs h).map (fun t => PartProd.Action.emit t.id t.retries t.fin)) := by
  rw [PartProd.flush]
  by_cases h1 : e h = true
  · exact if_pos h1
  · obtain rfl : h = 0 := hs.resolve_left h1
    rw [if_neg h1]; rfl

theorem flush_cont (h : Nat) (bufs : Nat → List PartProd.Tok) (e : Nat → Bool) (he : e h = false) (h0 : h ≠ 0) :
    PartProd.flush (h + 1) bufs e =
      ((PartProd.flush h (PartProd.setBuf bufs h []) e).1, (PartProd.flush h (PartProd.setBuf bufs h []) e).2.1,
       (bufs h).map (fun t => PartProd.Action.emit t.id t.retries t.fin) ++
         (PartProd.flush h (PartProd.setBuf bufs h []) e).2.2) := by
  rw [PartProd.flush, if_neg (by rw [he]; exact Bool.false_ne_true), if_neg h0]

theorem flush_mode (e : Nat → Bool) (h : Nat) : (e h = true ∨ h = 0) ∨ (e h = false ∧ h ≠ 0) :=
  (Bool.eq_false_or_eq_true (e h)).elim (fun ht => .inl (.inl ht))
    (fun hf => (Nat.eq_zero_or_pos h).elim (fun hz => .inl (.inr hz)) (fun hp => .inr ⟨hf, Nat.ne_of_gt hp⟩))

theorem flush_ind (e : Nat → Bool)
    {P : Nat → (Nat → List PartProd.Tok) → Nat × (Nat → List PartProd.Tok) × List PartProd.Action → Prop}
    (zero : ∀ bufs, P 0 bufs (0, bufs, []))
    (stop : ∀ h bufs, e h = true ∨ h = 0 →
      P (h + 1) bufs (h, PartProd.setBuf bufs h [], (bufs h).map (fun t => .emit t.id t.retries t.fin)))
    (go : ∀ h bufs, e h = false → h ≠ 0 →
      P h (PartProd.setBuf bufs h []) (PartProd.flush h (PartProd.setBuf bufs h []) e) →
      P (h + 1) bufs ((PartProd.flush h (PartProd.setBuf bufs h []) e).1,
        (PartProd.flush h (PartProd.setBuf bufs h []) e).2.1,
        (bufs h).map (fun t => .emit t.id t.retries t.fin) ++ (PartProd.flush h (PartProd.setBuf bufs h []) e).2.2)) :
    ∀ h bufs, P h bufs (PartProd.flush h bufs e) := by
  intro h
  induction h with
  | zero => exact zero
  | succ h ih =>
    intro bufs
    rcases flush_mode e h with hs | ⟨he, h0⟩
    · rw [flush_stop h bufs e hs]; exact stop h bufs hs
    · rw [flush_cont h bufs e he h0]; exact go h bufs he h0 (ih _)

theorem flush_top (h : Nat) (bufs : Nat → List PartProd.Tok) (e : Nat → Bool) :
    0 < (PartProd.flush h bufs e).1 → e (PartProd.flush h bufs e).1 = true :=
  flush_ind e (P := fun _ _ r => 0 < r.1 → e r.1 = true) (fun _ h0 => absurd h0 (Nat.lt_irrefl 0))
    (fun _ _ hs h0 => hs.resolve_right (Nat.ne_of_gt h0)) (fun _ _ _ _ ih => ih) h bufs

theorem flush_all_emit : ∀ (h : Nat) (bufs : Nat → List PartProd.Tok) (e : Nat → Bool) (a : PartProd.Action),
    a ∈ (PartProd.flush h bufs e).2.2 → ∃ l, ∃ px ∈ bufs l, a = .emit px.id px.retries px.fin := by
  intro h bufs e a
  have hhead : ∀ {bufs : Nat → List PartProd.Tok} {n : Nat},
      a ∈ (bufs n).map (fun t => PartProd.Action.emit t.id t.retries t.fin) →
      ∃ l, ∃ px ∈ bufs l, a = .emit px.id px.retries px.fin := fun ha => by
    obtain ⟨px, hpx, rfl⟩ := List.mem_map.1 ha
    exact ⟨_, px, hpx, rfl⟩
  refine flush_ind e (P := fun _ bufs r => a ∈ r.2.2 → ∃ l, ∃ px ∈ bufs l, a = .emit px.id px.retries px.fin)
    (fun _ ha => nomatch ha) (fun _ _ _ => hhead) (fun h bufs _ _ ih ha => ?_) h bufs
  rcases List.mem_append.1 ha with ha | ha
  · exact hhead ha
  · obtain ⟨l, px, hpx, rfl⟩ := ih ha
    exact ⟨l, px, mem_setBuf_nil hpx, rfl⟩

theorem flush_hwm_ge : ∀ (h : Nat) (bufs : Nat → List PartProd.Tok) (e : Nat → Bool) (k : Nat), k < h → e k = true →
    k ≤ (PartProd.flush h bufs e).1 := fun h bufs e k =>
  flush_ind e (P := fun h _ r => k < h → e k = true → k ≤ r.1) (fun _ hk => absurd hk (Nat.not_lt_zero k))
    (fun _ _ _ hk _ => Nat.le_of_lt_succ hk)
    (fun h _ he _ ih hk hek =>
      ih (Nat.lt_of_le_of_ne (Nat.le_of_lt_succ hk) fun e' => by rw [e', he] at hek; cases hek) hek) h bufs

theorem flush_le (h : Nat) (bufs : Nat → List PartProd.Tok) (e : Nat → Bool) : (PartProd.flush h bufs e).1 ≤ h :=
  flush_ind e (P := fun h _ r => r.1 ≤ h) (fun _ => Nat.le_refl 0) (fun h _ _ => Nat.le_succ h)
    (fun _ _ _ _ ih => Nat.le_succ_of_le ih) h bufs

theorem setExp_false {e : Nat → Bool} {l k : Nat} (h : PartProd.setExp e l false k = true) : e k = true := by
  simp only [PartProd.setExp] at h; split at h
  · cases h
  · exact h

theorem recv_top (p : PartProd.St) (x : PartProd.Tok) (h : 0 < p.hwm → p.expect p.hwm = true) :
    0 < (PartProd.recv p x).1.hwm → (PartProd.recv p x).1.expect (PartProd.recv p x).1.hwm = true := by
  rcases recv_eq p x with ⟨_, e⟩ | ⟨hl, _, e⟩ | ⟨_, _, e⟩ | ⟨_, _, _, e⟩ | ⟨_, _, e⟩ <;> rw [e] <;> intro h0
  · simp [PartProd.setExp]
  · simpa [PartProd.setExp, Nat.ne_of_gt hl] using h h0
  · exact h h0
  · exact flush_top _ _ _ h0
  · exact h h0

theorem recv_fin_clears (p : PartProd.St) (x : PartProd.Tok) (hf : x.fin = true) (hl : x.retries ≤ p.hwm)
    (h0 : 0 < p.hwm) : (PartProd.recv p x).1.expect x.retries = false := by
  rcases recv_eq p x with ⟨h, _⟩ | ⟨_, _, e⟩ | ⟨_, h, _⟩ | ⟨h, _, _, e⟩ | ⟨_, h, _⟩
  · exact absurd h (Nat.not_lt.2 hl)
  · rw [e]; simp [PartProd.setExp]
  · rw [hf] at h; cases h
  · rw [e, h]; simp [PartProd.setExp]
  · exact absurd (h hf) (Nat.ne_of_gt h0)

theorem recv_expect (p : PartProd.St) (x : PartProd.Tok) (k : Nat)
    (h : (PartProd.recv p x).1.expect k = true) :
    p.expect k = true ∨ (p.hwm < x.retries ∧ k = x.retries) := by
  rcases recv_eq p x with ⟨hr, e⟩ | ⟨_, _, e⟩ | ⟨_, _, e⟩ | ⟨_, _, _, e⟩ | ⟨_, _, e⟩ <;> rw [e] at h
  · by_cases hk : k = x.retries
    · exact .inr ⟨hr, hk⟩
    · exact .inl (by simpa [PartProd.setExp, hk] using h)
  · exact .inl (setExp_false h)
  · exact .inl h
  · exact .inl (setExp_false h)
  · exact .inl h

end Lemmas.C02sys
