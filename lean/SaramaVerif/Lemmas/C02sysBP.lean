/-
  C02 composition: a broker worker all of whose tokens belong to partition 0 (`P0`, the case of `Model.Pipeline`), in
  closed form, and what its actions add to the rest of the system, read through `actRet`, `actErrs`, `actSucc`
  (Lemmas/C02sysFifo.lean).
  * `handle_P0`: handleResponse on such tokens for an answer with one verdict, the whole action list; `handle_conn`
    for a connection error.  Lemmas/C02bp.lean describes `handle` partition by partition for any answer; here the
    list itself is wanted, and the passes are evaluated on the one partition (`loop1_P0`, `loop2_P0_hit`,
    `arrange_P0`).  `handle_cases` reads the two for the answers of `Pipeline.Verdict`: the state is kept and the set
    decided (`act_verdictActs`), or the set fails and is bounced with the buffer.
  * `Bounces M as X`: the actions `as` do nothing but bounce the tokens `X` (`act_retry`); `act_succ`, `act_fail` read
    the other two kinds of list.  `errOut`: the bounced data tokens whose budget is spent; `offs`: the successes of
    an acknowledged set.
  * the inputs of the worker in terms of `insideB` (`Props.C02bp.inside`), `closing`, `cr 0` and the three readings
    of the actions: `resp_cases` (an answer: the set leaves, or everything inside is bounced), the re-check behind it
    by whether the held token is acceptable (`recheck_keep`, `recheck_fail`), `recv_fin_spec` (a fin chaser arriving;
    a data or syn token is read off `Props.C02bp.RecvCase` where it is needed, `bpRecv_casesW` in
    Lemmas/C02sysOutcome.lean), `handover_spec`; `resp_disabled` is the converse of `resp_enabled` (Lemmas/C02bp.lean)
    for a worker with at most one set at the bridge.
  `isData`, `bump` and `bumpF` (a bounced list at its next retry level, without the tokens whose budget is spent) are
  the vocabulary of the views, Lemmas/C02sysView.lean; `dataIds` is `Model.Pipeline`'s.
-/
import SaramaVerif.Lemmas.C02sysView
import SaramaVerif.Lemmas.C02sysFifo
import SaramaVerif.Lemmas.C02bp

namespace Lemmas.C02sys
open Model Model.Pipeline Model.BrokerProd

def P0 (l : List Tok) : Prop := ∀ t ∈ l, t.part = 0
def NoSyn (l : List Tok) : Prop := ∀ t ∈ l, t.kind ≠ .syn

def errOut (M : Nat) (l : List Tok) : List Int :=
  (l.filter (fun t => decide (M ≤ t.retries) && isData t)).map (·.id)

def offs : List Tok → Nat → List (Int × Nat)
  | [], _ => []
  | t :: r, off => (t.id, off) :: offs r (off + 1)

theorem bpActs_nil (s : Sys) (off : Nat) : bpActs s off [] = s := rfl

theorem bpActs_add (s : Sys) (off : Nat) (id p : Int) : bpActs s off [Action.add id p] = s := rfl

theorem P0_cons {t : Tok} {l : List Tok} (h : P0 (t :: l)) : t.part = 0 ∧ P0 l := List.forall_mem_cons.1 h

theorem P0_append {a b : List Tok} : P0 (a ++ b) ↔ P0 a ∧ P0 b := List.forall_mem_append

theorem NoSyn_append {a b : List Tok} : NoSyn (a ++ b) ↔ NoSyn a ∧ NoSyn b := List.forall_mem_append

theorem errOut_append (M : Nat) (a b : List Tok) : errOut M (a ++ b) = errOut M a ++ errOut M b := by
  simp [errOut]

theorem bump1_lt {M : Nat} {t : Tok} (h : t.retries < M) : bumpF M [t] = [bump t] ∧ errOut M [t] = [] := by
  simp [bumpF, errOut, h, Nat.not_le.2 h]

theorem bump1_ge {M : Nat} {t : Tok} (h : M ≤ t.retries) : bumpF M [t] = [] ∧ errOut M [t] = dataIds [t] := by
  simp [bumpF, errOut, dataIds, isData, List.filter_cons, h, Nat.not_lt.2 h]

theorem act_retry1 (M : Nat) {t : Tok} (ht : t.kind ≠ .syn) (as : List Action) :
    actRet (retryMsg M t :: as) = bumpF M [t] ++ actRet as ∧
    actErrs (retryMsg M t :: as) = errOut M [t] ++ actErrs as ∧
    ∀ off, actSucc off (retryMsg M t :: as) = actSucc off as := by
  rcases Nat.lt_or_ge t.retries M with hm | hm
  · rw [retryMsg, if_neg (Nat.not_le.2 hm), (bump1_lt hm).1, (bump1_lt hm).2]
    obtain ⟨id, part, retries, kind⟩ := t
    cases kind with
    | syn => exact absurd rfl ht
    | _ => exact ⟨rfl, rfl, fun _ => rfl⟩
  · rw [retryMsg, if_pos hm, (bump1_ge hm).1, (bump1_ge hm).2]
    obtain ⟨id, part, retries, kind⟩ := t
    cases kind with
    | syn => exact absurd rfl ht
    | _ => exact ⟨rfl, rfl, fun _ => rfl⟩

def Bounces (M : Nat) (as : List Action) (X : List Tok) : Prop :=
  actRet as = bumpF M X ∧ actErrs as = errOut M X ∧ ∀ off, actSucc off as = []

theorem Bounces.append {M : Nat} {a b : List Action} {X Y : List Tok} (ha : Bounces M a X) (hb : Bounces M b Y) :
    Bounces M (a ++ b) (X ++ Y) :=
  ⟨by rw [actRet_append, ha.1, hb.1, bumpF_append], by rw [actErrs_append, ha.2.1, hb.2.1, errOut_append],
   fun off => by rw [actSucc_append, ha.2.2, hb.2.2]; rfl⟩

theorem act_retry (M : Nat) {l : List Tok} (hl : NoSyn l) : Bounces M (retryMsgs M l) l := by
  induction l with
  | nil => exact ⟨rfl, rfl, fun _ => rfl⟩
  | cons t r ih =>
    obtain ⟨ht, hr⟩ := List.forall_mem_cons.1 hl
    obtain ⟨h1, h2, h3⟩ := act_retry1 M ht (retryMsgs M r)
    obtain ⟨i1, i2, i3⟩ := ih hr
    exact ⟨h1.trans ((congrArg _ i1).trans (bumpF_cons M t r).symm),
      h2.trans ((congrArg _ i2).trans (errOut_append M [t] r).symm), fun off => (h3 off).trans (i3 off)⟩

theorem act_succ (l : List Tok) :
    actRet (l.map (fun t => Action.succ t.id t.part)) = [] ∧ actErrs (l.map (fun t => Action.succ t.id t.part)) = [] ∧
    ∀ off, actSucc off (l.map (fun t => Action.succ t.id t.part)) = offs l off := by
  induction l with
  | nil => exact ⟨rfl, rfl, fun _ => rfl⟩
  | cons t r ih => exact ⟨ih.1, ih.2.1, fun off => congrArg ((t.id, off) :: ·) (ih.2.2 (off + 1))⟩

theorem act_fail (l : List Tok) :
    actRet (l.map (fun t => Action.fail t.id t.part)) = [] ∧
    actErrs (l.map (fun t => Action.fail t.id t.part)) = l.map (·.id) ∧
    ∀ off, actSucc off (l.map (fun t => Action.fail t.id t.part)) = [] := by
  induction l with
  | nil => exact ⟨rfl, rfl, fun _ => rfl⟩
  | cons t r ih => exact ⟨ih.1, congrArg (t.id :: ·) ih.2.1, ih.2.2⟩

theorem onPart_P0 {l : List Tok} (h : P0 l) : onPart 0 l = l := by
  simp only [onPart, List.filter_eq_self]; intro t ht; simp [h t ht]

theorem offPart_P0 {l : List Tok} (h : P0 l) : offPart 0 l = [] := by
  simp only [offPart, List.filter_eq_nil_iff]; intro t ht; simp [h t ht]

theorem arrange_nil (ps : List Int) : arrange ps [] = [] := by
  induction ps with
  | nil => rfl
  | cons p ps ih => simp [arrange, onPart, offPart, ih]

theorem arrange_P0 {l : List Tok} (h : P0 l) : arrange (partsOf l) l = l := by
  cases l with
  | nil => rfl
  | cons t r =>
    have ht := (P0_cons h).1
    simp only [partsOf, List.map_cons, arrange, ht]
    rw [onPart_P0 h, offPart_P0 h, arrange_nil]; simp

theorem loop1_nil (M : Nat) (v : Int → BrokerProd.Verdict) (ps : List Int) : loop1 M v ps [] = [] := by
  induction ps with
  | nil => rfl
  | cons p ps ih => simp [loop1, onPart, offPart, verdictActs, ih]

theorem loop1_P0 (M : Nat) (v : Int → BrokerProd.Verdict) {l : List Tok} (h : P0 l) :
    loop1 M v (partsOf l) l = verdictActs M (v 0) l := by
  cases l with
  | nil => simp [partsOf, loop1, verdictActs]
  | cons t r =>
    have ht := (P0_cons h).1
    simp only [partsOf, List.map_cons, loop1, ht]
    rw [onPart_P0 h, offPart_P0 h, loop1_nil]; simp

theorem loop2_nil (M : Nat) (v : Int → BrokerProd.Verdict) (ps : List Int) (s : St) :
    loop2 M v ps [] s = (s, []) := by
  induction ps with
  | nil => rfl
  | cons p ps ih => simp [loop2, onPart, offPart, ih]

theorem loop2_P0_skip (M : Nat) (v : Int → BrokerProd.Verdict) {l : List Tok} (h : P0 l) (s : St)
    (hv : v 0 ≠ .retriable) : loop2 M v (partsOf l) l s = (s, []) := by
  cases l with
  | nil => rfl
  | cons t r =>
    have ht := (P0_cons h).1
    simp only [partsOf, List.map_cons, loop2, ht]
    rw [offPart_P0 h, loop2_nil]; simp [hv]

theorem loop2_P0_hit (M : Nat) (v : Int → BrokerProd.Verdict) (t : Tok) (r : List Tok) (h : P0 (t :: r)) (s : St)
    (hb : P0 s.buffer) (hv : v 0 = .retriable) :
    loop2 M v (partsOf (t :: r)) (t :: r) s =
      ({ s with cr := setCr s.cr 0 true, buffer := [] },
       retryMsgs M (t :: r) ++ Action.drop 0 :: retryMsgs M s.buffer) := by
  have ht := (P0_cons h).1
  simp only [partsOf, List.map_cons, loop2, ht]
  rw [onPart_P0 h, offPart_P0 h, onPart_P0 hb, offPart_P0 hb]
  simp [hv, loop2_nil]

/-- stands in `Props.C02sys`, the namespace of the layer of several partitions (Props/C02multi*.lean): the check of C02
    lists it there among the worker-level statements; `handle_cases` rests on it -/
theorem _root_.Props.C02sys.handle_P0 (M : Nat) (b1 : St) (l : List Pipeline.Tok) (x : BrokerProd.Verdict)
    (hs : P0 l) (hb : P0 b1.buffer) :
    handle M b1 l (.verdicts (fun _ => x) [] []) =
      if l ≠ [] ∧ 0 < M ∧ x = .retriable then
        (({ b1 with cr := setCr b1.cr 0 true, buffer := [] } : St),
          retryMsgs M l ++ Action.drop 0 :: retryMsgs M b1.buffer)
      else (b1, verdictActs M x l) := by
  unfold handle
  dsimp only
  by_cases hF : l ≠ [] ∧ 0 < M ∧ x = .retriable
  · obtain ⟨hl, hM, rfl⟩ := hF
    obtain ⟨t, r, rfl⟩ := List.exists_cons_of_ne_nil hl
    have hrt : retryTopics M (fun _ => BrokerProd.Verdict.retriable) (t :: r) = true := by
      simp [retryTopics, hM]
    have hM0 : ¬ M = 0 := by omega
    have h2 := loop2_P0_hit M (fun _ => BrokerProd.Verdict.retriable) t r hs b1 hb rfl
    rw [if_pos hrt, if_pos ⟨hl, hM, rfl⟩]
    simp only [List.nil_append, loop1_P0 M _ hs, h2, verdictActs, hM0]
    -- left: the first pass reports nothing for a retriable set within the budget, `[] ++ _` behind two decided `if`s
    simp
  · have hrt : ¬ retryTopics M (fun _ => x) l = true := by
      intro h
      rw [Props.C02bp.retryTopics_iff] at h
      obtain ⟨hM, t, ht, hx⟩ := h
      exact hF ⟨List.ne_nil_of_mem ht, hM, hx⟩
    rw [if_neg hrt, if_neg hF]
    simp only [List.nil_append, loop1_P0 M _ hs]

open Props.C02sys (handle_P0)

theorem handle_conn (M : Nat) (b : St) {sent : List Tok} (h : P0 sent) (hb : P0 b.buffer) (a : Bool) :
    handle M b sent (Pipeline.Verdict.conn a).toResp =
      ({ b with closing := true, buffer := [] },
       Action.closing :: Action.abandon :: retryMsgs M sent ++ retryMsgs M b.buffer) := by
  simp only [Pipeline.Verdict.toResp, handle, List.nil_append, arrange_P0 h, arrange_P0 hb]

theorem act_verdictActs {M : Nat} (hM : 1 ≤ M) (x : BrokerProd.Verdict) (l : List Tok)
    (hk : ¬(l ≠ [] ∧ 0 < M ∧ x = .retriable)) :
    actRet (verdictActs M x l) = [] ∧
    ((x = .ok ∧ actErrs (verdictActs M x l) = [] ∧ ∀ off, actSucc off (verdictActs M x l) = offs l off) ∨
     (actErrs (verdictActs M x l) = l.map (·.id) ∧ ∀ off, actSucc off (verdictActs M x l) = [])) := by
  cases l with
  | nil => exact ⟨rfl, .inr ⟨rfl, fun _ => rfl⟩⟩
  | cons t r =>
    have hf := act_fail (t :: r)
    cases x with
    | ok => exact ⟨(act_succ _).1, .inl ⟨rfl, (act_succ _).2⟩⟩
    | missing => exact ⟨hf.1, .inr hf.2⟩
    | fatal =>
      rw [show verdictActs M .fatal (t :: r) = [] ++ (t :: r).map fun t => Action.fail t.id t.part from
        congrArg (· ++ _) (if_neg (Nat.ne_of_gt hM))]
      exact ⟨hf.1, .inr hf.2⟩
    | retriable => exact absurd ⟨List.cons_ne_nil t r, hM, rfl⟩ hk

/-- **handleResponse at a worker all of whose tokens belong to partition 0, for an answer of `Model.Pipeline`**: the
    state is kept and the set is decided (`A`: acknowledged or failed); or the set fails: the retry mode is entered
    (`cr'`, a retriable answer for a set that is not empty) or the worker closes (`cl'`, a connection error), and the
    set and the buffer are bounced, in this order (`pre`, `mid`: `closing`, `abandon`, `drop`) -/
theorem handle_cases {M : Nat} (hM : 1 ≤ M) (b : St) (sent : List Tok) (vd : Pipeline.Verdict) (hP : P0 sent)
    (hb : P0 b.buffer) :
    (∃ A, handle M b sent vd.toResp = (b, A) ∧ actRet A = [] ∧
      ((vd = .ok ∧ actErrs A = [] ∧ ∀ off, actSucc off A = offs sent off) ∨
       (actErrs A = sent.map (·.id) ∧ ∀ off, actSucc off A = []))) ∨
    (∃ cl' cr' pre mid, handle M b sent vd.toResp =
        ({ b with closing := cl', cr := cr', buffer := [] },
         pre ++ (retryMsgs M sent ++ (mid ++ retryMsgs M b.buffer))) ∧ Bounces M pre [] ∧ Bounces M mid [] ∧
      ((cl' = true ∧ cr' = b.cr) ∨ (cl' = b.closing ∧ cr' = setCr b.cr 0 true ∧ sent ≠ []))) := by
  obtain ⟨x, hok, e⟩ | ⟨a, rfl⟩ : (∃ x, (x = BrokerProd.Verdict.ok → vd = .ok) ∧
      vd.toResp = .verdicts (fun _ => x) [] []) ∨ ∃ a, vd = .conn a := by
    cases vd with
    | ok => exact .inl ⟨.ok, fun _ => rfl, rfl⟩
    | fatal => exact .inl ⟨.fatal, nofun, rfl⟩
    | retriable a => exact .inl ⟨.retriable, nofun, rfl⟩
    | conn a => exact .inr ⟨a, rfl⟩
  · rw [e, handle_P0 M b sent x hP hb]
    by_cases hF : sent ≠ [] ∧ 0 < M ∧ x = .retriable
    · rw [if_pos hF]
      exact .inr ⟨b.closing, _, [], [.drop 0], rfl, ⟨rfl, rfl, fun _ => rfl⟩, ⟨rfl, rfl, fun _ => rfl⟩,
        .inr ⟨rfl, rfl, hF.1⟩⟩
    · rw [if_neg hF]
      obtain ⟨h1, h2⟩ := act_verdictActs hM x sent hF
      exact .inl ⟨_, rfl, h1, h2.imp_left fun h => ⟨hok h.1, h.2⟩⟩
  · exact .inr ⟨true, b.cr, [.closing, .abandon], [], handle_conn M b hP hb a, ⟨rfl, rfl, fun _ => rfl⟩,
      ⟨rfl, rfl, fun _ => rfl⟩, .inl ⟨rfl, rfl⟩⟩

abbrev insideB (b : St) : List Tok := Props.C02bp.inside b

theorem recheck_keep (M : Nat) (x : St) (acts : List Action) (still : Bool)
    (h : ∀ t, x.wait = some t → needsRetry x t.part = false) :
    (recheck M x acts still).1.closing = x.closing ∧ (recheck M x acts still).1.cr = x.cr ∧
    insideB (recheck M x acts still).1 = insideB x ∧ actRet (recheck M x acts still).2 = actRet acts ∧
    actErrs (recheck M x acts still).2 = actErrs acts ∧
    ∀ off, actSucc off (recheck M x acts still).2 = actSucc off acts := by
  generalize hr : recheck M x acts still = r
  have c := Props.C02bp.recheck_case M x acts still
  rw [hr] at c
  cases c with
  | free | stay => exact ⟨rfl, rfl, rfl, rfl, rfl, fun _ => rfl⟩
  | bounce hw hn => cases (h _ hw).symm.trans hn
  | add hw =>
    refine ⟨rfl, rfl, ?_, (actRet_append ..).trans (List.append_nil _), (actErrs_append ..).trans (List.append_nil _),
      fun off => (actSucc_append ..).trans (List.append_nil _)⟩
    show x.sets.flatten ++ (x.buffer ++ [_]) ++ [] = x.sets.flatten ++ x.buffer ++ x.wait.toList
    rw [hw, List.append_nil, List.append_assoc]; rfl

theorem recheck_fail (M : Nat) (x : St) (acts : List Action) (still : Bool)
    (h : ∀ t, x.wait = some t → needsRetry x t.part = true) :
    (recheck M x acts still).1.closing = x.closing ∧ (recheck M x acts still).1.cr = x.cr ∧
    insideB (recheck M x acts still).1 = x.sets.flatten ++ x.buffer ∧
    (recheck M x acts still).2 = acts ++ retryMsgs M x.wait.toList := by
  generalize hr : recheck M x acts still = r
  have c := Props.C02bp.recheck_case M x acts still
  rw [hr] at c
  cases c with
  | free hw =>
    refine ⟨rfl, rfl, ?_, ?_⟩
    · show x.sets.flatten ++ x.buffer ++ x.wait.toList = _; rw [hw]; exact List.append_nil _
    · rw [hw]; exact (List.append_nil _).symm
  | bounce hw => refine ⟨rfl, rfl, List.append_nil _, ?_⟩; rw [hw]; rfl
  | stay hw hn | add hw hn => cases (h _ hw).symm.trans hn

theorem inside_one {b : St} {sent : List Tok} (hs : b.sets = [sent]) :
    insideB b = sent ++ b.buffer ++ b.wait.toList := by
  simp [insideB, Props.C02bp.inside, hs]

/-- **the answer for the set `sent` at the bridge of a worker all of whose tokens belong to partition 0**, in terms
    of the new state `st.1` and of what the actions `st.2` add to the retries queue, the successes and the errors:
    the modes stay and the outcome is terminal for `sent` (acknowledged, or failed for good) - the set leaves the
    worker;  or the set fails - everything inside is bounced, in order, the worker holds nothing, and it closes or
    refuses the partition from now on -/
theorem resp_cases {M : Nat} (hM : 1 ≤ M) {b : St} {st : St × List Action} (hpi : Props.C02bp.PInv b)
    (hP : P0 (insideB b)) {sent : List Tok} (hs : b.sets = [sent]) (vd : Pipeline.Verdict) (still : Bool)
    (hr : step M b (.resp vd.toResp still) = st) :
    (st.1.closing = b.closing ∧ st.1.cr = b.cr ∧ insideB b = sent ++ insideB st.1 ∧ actRet st.2 = [] ∧
        ((vd = .ok ∧ actErrs st.2 = [] ∧ ∀ off, actSucc off st.2 = offs sent off) ∨
         (actErrs st.2 = sent.map (·.id) ∧ ∀ off, actSucc off st.2 = []))) ∨
    (insideB st.1 = [] ∧ Bounces M st.2 (insideB b) ∧
        ((st.1.closing = true ∧ st.1.cr = b.cr) ∨ (st.1.closing = b.closing ∧ st.1.cr 0 = true ∧ insideB b ≠ []))) := by
  have hN : NoSyn (insideB b) := fun t ht => by rw [hpi.data t ht]; exact nofun
  have hin := inside_one hs
  rw [hin, P0_append, P0_append] at hP
  rw [hin, NoSyn_append, NoSyn_append] at hN
  rw [show step M b (.resp vd.toResp still) = _ from Props.C02bp.resp_cons _ still hs] at hr
  rw [hin]
  rcases handle_cases hM { b with sets := [] } sent vd hP.1.1 hP.1.2 with
    ⟨A, e, h1, h2⟩ | ⟨cl', cr', pre, mid, e, hpre, hmid, hmode⟩ <;> rw [e] at hr <;> subst hr
  · -- the held token stays: it is of a partition the worker accepts
    obtain ⟨c1, c2, c3, x1, x2, x3⟩ := recheck_keep M { b with sets := [] } A still fun t ht =>
      (hpi.acc t (by rw [show Props.C02bp.inside b = _ from hin, show b.wait = some t from ht]; simp)).2
    refine .inl ⟨c1, c2, by rw [c3]; simp [insideB, Props.C02bp.inside], x1.trans h1, ?_⟩
    simp only [x2, x3]
    exact h2
  · -- the worker refuses the partition of the held token
    have hn : (cl' || cr' 0) = true := by
      rcases hmode with ⟨rfl, _⟩ | ⟨_, rfl, _⟩
      · rfl
      · exact Bool.or_true _
    obtain ⟨c1, c2, c3, c4⟩ := recheck_fail M { b with sets := [], closing := cl', cr := cr', buffer := [] }
      (pre ++ (retryMsgs M sent ++ (mid ++ retryMsgs M b.buffer))) still fun t ht =>
        (congrArg (needsRetry _) (hP.2 t (by rw [show b.wait = some t from ht]; exact .head _))).trans hn
    refine .inr ⟨c3, ?_, hmode.imp (fun h => ⟨c1.trans h.1, c2.trans h.2⟩) fun h =>
      ⟨c1.trans h.1, (congrFun (c2.trans h.2.1) 0).trans (if_pos rfl), fun e =>
        h.2.2 (List.append_eq_nil_iff.1 (List.append_eq_nil_iff.1 e).1).1⟩⟩
    rw [c4]
    exact (hpre.append ((act_retry M hN.1.1).append (hmid.append (act_retry M hN.1.2)))).append (act_retry M hN.2)

theorem recv_fin_spec (M : Nat) (b : St) (t : Tok) (ov : Bool) (hw : b.wait = none) (hk : t.kind = .fin)
    (hp : t.part = 0) :
    (step M b (.recv t ov)).2 = [Action.refuse t.id, retryMsg M t] ∧
    (step M b (.recv t ov)).1.closing = b.closing ∧
    (step M b (.recv t ov)).1.buffer = b.buffer ∧ (step M b (.recv t ov)).1.sets = b.sets ∧
    (step M b (.recv t ov)).1.wait = b.wait ∧
    ((step M b (.recv t ov)).1.cr 0 = if b.closing then b.cr 0 else false) := by
  obtain ⟨r, a, hr, c⟩ : ∃ r a, step M b (.recv t ov) = r ∧ Props.C02bp.RecvCase M b t ov r a :=
    ⟨_, _, rfl, Props.C02bp.recv_case ..⟩
  rw [hr]
  cases c with
  | busy h => rw [hw] at h; cases h
  | syn _ h | hold _ h | add _ h => rw [hk] at h; cases h
  | bounce _ _ _ hcl =>
    refine ⟨rfl, rfl, rfl, rfl, rfl, ?_⟩
    cases hc : b.closing
    · -- bounced without leaving the retry mode although not closing: the partition was not refused
      cases hr : b.cr 0
      · rfl
      · exact absurd (hcl (by rw [hp, needsRetry, hr, Bool.or_true]) hk) (by rw [hc]; exact Bool.false_ne_true)
    · rfl
  | reopen _ _ _ hcl =>
    refine ⟨rfl, rfl, rfl, rfl, rfl, ?_⟩
    rw [hcl, hp]
    exact (if_pos rfl : setCr b.cr 0 false 0 = false)

theorem handover_spec (M : Nat) (b : St) (h : (step M b .handover).2 ≠ [Action.disabled]) :
    (step M b .handover).1.closing = b.closing ∧ (step M b .handover).1.cr = b.cr ∧
    insideB (step M b .handover).1 = insideB b ∧ b.sets = [] ∧
    (∃ sent, (step M b .handover).1.sets = [sent]) ∧ Bounces M (step M b .handover).2 [] := by
  obtain ⟨hs, e⟩ := Props.C02bp.handover_eq M b h
  rw [e]
  refine ⟨rfl, rfl, ?_, hs, ⟨_, rfl⟩, ?_⟩
  · simp [insideB, Props.C02bp.inside, hs]
  · cases b.wait <;> exact ⟨rfl, rfl, fun _ => rfl⟩

theorem resp_disabled (M : Nat) (b : St) (r : Resp) (still : Bool) (h1 : b.sets.length ≤ 1)
    (h : (step M b (.resp r still)).2 ≠ [Action.disabled]) : ∃ sent, b.sets = [sent] := by
  cases hs : b.sets with
  | nil => exact absurd (congrArg Prod.snd (Props.C02bp.resp_nil r still hs)) h
  | cons x r =>
    cases r with
    | nil => exact ⟨x, rfl⟩
    | cons y r' => rw [hs] at h1; simp at h1

end Lemmas.C02sys
