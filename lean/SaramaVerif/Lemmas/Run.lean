/-
  Runs.  A model with a step function has a `run` that folds it over a list of events, choices or operations and stops
  at the first one that is refused: with values in `Except` (the acceptors) or in `Option` (`Pipeline.run`, `runOps`).
  `Runs T R` says that `R` is the run of the step relation `T`, by the two equations of the fold.  From it: runs glue and
  split (`append`, `mid`), and the one induction over a run, `Runs.hist`, whose invariant may speak of the events seen so
  far; invariants (`inv`), invariants under a condition on the events (`inv_on`) and counters (`counts`) are instances
  of it.
-/
namespace Lemmas.Run

variable {σ ε : Type} {T : σ → ε → σ → Prop} {R : σ → List ε → σ → Prop}

structure Runs (T : σ → ε → σ → Prop) (R : σ → List ε → σ → Prop) : Prop where
  nil  : ∀ {s s'}, R s [] s' ↔ s' = s
  cons : ∀ {s e es s''}, R s (e :: es) s'' ↔ ∃ s', T s e s' ∧ R s' es s''

theorem Runs.ofExcept {ρ : Type} {step : σ → ε → Except ρ σ} {run : σ → List ε → Except ρ σ}
    (nil : ∀ s, run s [] = .ok s) (cons : ∀ s e es, run s (e :: es) = (step s e).bind fun s' => run s' es) :
    Runs (fun s e s' => step s e = .ok s') (fun s es s' => run s es = .ok s') where
  nil := by intro s s'; rw [nil]; exact ⟨fun h => (Except.ok.inj h).symm, fun h => h ▸ rfl⟩
  cons := by
    intro s e es s''
    rw [cons]
    cases step s e with
    | ok s' => exact ⟨fun h => ⟨s', rfl, h⟩, fun ⟨_, h1, h2⟩ => Except.ok.inj h1 ▸ h2⟩
    | error m => exact ⟨nofun, fun ⟨_, h1, _⟩ => nomatch h1⟩

theorem Runs.ofOption {step : σ → ε → Option σ} {run : σ → List ε → Option σ}
    (nil : ∀ s, run s [] = some s) (cons : ∀ s e es, run s (e :: es) = (step s e).bind fun s' => run s' es) :
    Runs (fun s e s' => step s e = some s') (fun s es s' => run s es = some s') where
  nil := by intro s s'; rw [nil]; exact ⟨fun h => (Option.some.inj h).symm, fun h => h ▸ rfl⟩
  cons := by
    intro s e es s''
    rw [cons]
    cases step s e with
    | some s' => exact ⟨fun h => ⟨s', rfl, h⟩, fun ⟨_, h1, h2⟩ => Option.some.inj h1 ▸ h2⟩
    | none => exact ⟨nofun, fun ⟨_, h1, _⟩ => nomatch h1⟩

theorem Runs.append (hr : Runs T R) {xs ys : List ε} {s s'' : σ} :
    R s (xs ++ ys) s'' ↔ ∃ s', R s xs s' ∧ R s' ys s'' := by
  induction xs generalizing s with
  | nil => exact ⟨fun h => ⟨s, hr.nil.mpr rfl, h⟩, fun ⟨_, h1, h2⟩ => hr.nil.mp h1 ▸ h2⟩
  | cons x xs ih =>
    rw [List.cons_append, hr.cons]
    exact ⟨fun ⟨s1, h1, h⟩ => (ih.mp h).elim fun s2 h2 => ⟨s2, hr.cons.mpr ⟨s1, h1, h2.1⟩, h2.2⟩,
      fun ⟨s2, h, h3⟩ => (hr.cons.mp h).elim fun s1 h1 => ⟨s1, h1.1, ih.mpr ⟨s2, h1.2, h3⟩⟩⟩

theorem Runs.mid (hr : Runs T R) {pre post : List ε} {e : ε} {s s'' : σ} (h : R s (pre ++ e :: post) s'') :
    ∃ s1 s2, R s pre s1 ∧ T s1 e s2 ∧ R s2 post s'' :=
  (hr.append.mp h).elim fun s1 h1 => (hr.cons.mp h1.2).elim fun s2 h2 => ⟨s1, s2, h1.1, h2.1, h2.2⟩

theorem Runs.hist (hr : Runs T R) (P : List ε → σ → Prop)
    (hstep : ∀ h s e s', P h s → T s e s' → P (h ++ [e]) s') :
    ∀ {es h0 : List ε} {s s' : σ}, R s es s' → P h0 s → P (h0 ++ es) s' := by
  intro es
  induction es with
  | nil => intro h0 s s' h hp; rw [hr.nil.mp h, List.append_nil]; exact hp
  | cons e es ih =>
    intro h0 s s' h hp
    obtain ⟨s1, h1, h2⟩ := hr.cons.mp h
    have := ih h2 (hstep h0 s e s1 hp h1)
    rwa [List.append_assoc] at this

theorem Runs.inv (hr : Runs T R) (P : σ → Prop) (hstep : ∀ s e s', P s → T s e s' → P s')
    {es : List ε} {s s' : σ} (h : R s es s') (h0 : P s) : P s' :=
  hr.hist (fun _ => P) (fun _ => hstep) (h0 := []) h h0

theorem Runs.inv_on (hr : Runs T R) (Q : ε → Prop) (P : σ → Prop) (hstep : ∀ s e s', Q e → P s → T s e s' → P s')
    {es : List ε} {s s' : σ} (h : R s es s') (hq : ∀ e ∈ es, Q e) (h0 : P s) : P s' :=
  hr.hist (fun h s => (∀ e ∈ h, Q e) → P s)
    (fun h s e s' ih hs hq => hstep s e s' (hq e (List.mem_append_right _ (List.mem_singleton_self e)))
      (ih fun x hx => hq x (List.mem_append_left _ hx)) hs)
    (h0 := []) h (fun _ => h0) (by rwa [List.nil_append])

/-- `rs`: the events that may set the counter afresh; the run has none of them -/
theorem Runs.counts (hr : Runs T R) (c : σ → Nat) (up dn : ε → Bool) (rs : ε → Prop)
    (hstep : ∀ s e s', ¬ rs e → T s e s' → c s' + (if dn e then 1 else 0) = c s + (if up e then 1 else 0))
    {es : List ε} {s s' : σ} (h : R s es s') (hno : ∀ x ∈ es, ¬ rs x) : c s' + es.countP dn = c s + es.countP up := by
  have := hr.hist (fun h t => (∀ x ∈ h, ¬ rs x) → c t + h.countP dn = c s + h.countP up)
    (fun h t e t' ih ht hno => by
      have h1 := ih fun x hx => hno x (List.mem_append_left _ hx)
      have h2 := hstep t e t' (hno e (List.mem_append_right _ (List.mem_singleton_self e))) ht
      rw [List.countP_append, List.countP_append, List.countP_singleton, List.countP_singleton]
      omega)
    (h0 := []) h (fun _ => rfl)
  rw [List.nil_append] at this
  exact this hno

end Lemmas.Run
