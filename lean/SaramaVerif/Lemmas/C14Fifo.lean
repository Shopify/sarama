import SaramaVerif.Lemmas.C14Inv
/-
  C14: FIFO conservation (every enqueued promise is completed, in the receiver's
  hand, or still queued – in this order), the capacity bound and the Close protocol flags.
-/
namespace Lemmas.C14
open Model.BrokerConn

structure InvB (s : State) : Prop where
  mpos : 1 ≤ s.cfg.maxOpen
  fifo : s.enq = s.done.map (·.p) ++ curList s ++ s.queue
  bound : s.queue.length + curCount s ≤ s.cfg.maxOpen
  bound_res : s.cfg.reserve = true → ∀ p, s.holder = .written p →
      s.queue.length + curCount s + 1 ≤ s.cfg.maxOpen
  closed_lock : s.chanClosed = true → (s.holder = .closing ∨ (s.holder = .free ∧ s.connNil = true))
  exited : s.recvExited = true → s.chanClosed = true ∧ s.queue = [] ∧ s.cur = none
  nil_closed : s.connNil = true → s.chanClosed = true

theorem invB_init (cfg : Cfg) (c0 : Int) (hm : 1 ≤ cfg.maxOpen) : InvB (init cfg c0) := by
  refine ⟨hm, by simp [init, curList], by simp [init, curCount], by simp [init], by simp [init],
    by simp [init], by simp [init]⟩

theorem cur_not_exited {s : State} (I : InvB s) {x : Promise × Phase} (hcur : s.cur = some x) : s.recvExited = false := by
  cases hx : s.recvExited
  · rfl
  · exact absurd ((I.exited hx).2.2 ▸ hcur) (by simp)

theorem invB_complete {s : State} (I : InvB s) {p : Promise} {ph : Phase} (hcur : s.cur = some (p, ph))
    (i' c' : Bytes) (e' : Option Err) (out : Outcome) (hdr : Bytes) :
    InvB { s with inbuf := i', consumed := c', cur := none, dead := e', done := s.done ++ [⟨p, out, hdr⟩] } := by
  have hx := cur_not_exited I hcur
  refine { I with fifo := ?_, bound := ?_, bound_res := ?_, exited := fun hx' => absurd (hx ▸ hx') (by decide) }
  · have := I.fifo
    simp only [curList, hcur] at this ⊢
    rw [this]; simp
  · have := I.bound
    simp only [curCount, hcur] at this ⊢
    omega
  · intro hr q hw
    have := I.bound_res hr q hw
    simp only [curCount, hcur] at this ⊢
    omega

theorem invB_step {s s' : State} {e : Event} (h : step s e = .ok s') (I : InvB s) : InvB s' := by
  -- whoever holds the lock without having closed the channel: the channel is still open
  have open_of_holder : ∀ {hd : Holder}, s.holder = hd → hd ≠ .closing → hd ≠ .free → s.chanClosed = true → False := by
    intro hd hh h1 h2 hc
    rcases I.closed_lock hc with h | ⟨h, _⟩
    · exact h1 (hh ▸ h)
    · exact h2 (hh ▸ h)
  cases step_sound h with
  | sendBegin c hv ex hf hn =>
    refine { I with bound_res := nofun, closed_lock := ?_ }
    intro hc
    rcases I.closed_lock hc with h1 | ⟨_, h2⟩
    · exact absurd (hf ▸ h1) (by simp)
    · exact absurd (hn ▸ h2) (by decide)
  | write c hv hh hg =>
    exact { I with bound_res := fun hr p _ => hg hr, closed_lock := fun hc => (open_of_holder hh (by simp) (by simp) hc).elim }
  | writeOneWay c hv hh | writeFail c hv ex hh =>
    exact { I with bound_res := nofun, closed_lock := fun hc => (open_of_holder hh (by simp) (by simp) hc).elim }
  | enqueue c p hh _ hg =>
    have hnc : s.chanClosed = true → False := open_of_holder hh (by simp) (by simp)
    refine { I with fifo := ?_, bound := ?_, bound_res := nofun, closed_lock := fun hc => (hnc hc).elim,
                    exited := fun hx => (hnc (I.exited hx).1).elim }
    · have := I.fifo
      simp only [curList] at this ⊢
      rw [this]; simp
    · have := I.bound
      have hm := I.mpos
      simp only [curCount, List.length_append, List.length_singleton] at this ⊢
      rcases hg with hg | ⟨hq, hc⟩
      · split <;> omega
      · simp only [hq, hc, List.length_nil]; omega
  | recvDeqDead p rest e hx hcur hq | recvDeq p rest hx hcur hq =>
    refine { I with fifo := ?_, bound := ?_, bound_res := ?_, exited := fun hx' => absurd (hx ▸ hx') (by decide) }
    · have := I.fifo
      simp only [curList, hcur, hq] at this ⊢
      rw [this]; simp
    · have := I.bound
      simp only [curCount, hcur, hq, List.length_cons] at this ⊢
      omega
    · intro hr q hw
      have := I.bound_res hr q hw
      simp only [curCount, hcur, hq, List.length_cons] at this ⊢
      omega
  | recvHeader p len hcur =>
    have hx := cur_not_exited I hcur
    have h2 := I.fifo; have h3 := I.bound; have h4 := I.bound_res
    simp only [curList, curCount, hcur] at h2 h3 h4
    exact { I with fifo := h2, bound := h3, bound_res := h4, exited := fun hx' => absurd (hx ▸ hx') (by decide) }
  | recvHeaderFail _ _ hcur | recvBody _ _ _ hcur | recvEOF _ _ hcur | recvTimeout _ _ hcur => exact invB_complete I hcur _ _ _ _ _
  | closeBegin hf hn =>
    exact { I with bound_res := nofun, closed_lock := fun _ => .inl rfl, exited := fun hx => ⟨rfl, (I.exited hx).2⟩,
                   nil_closed := fun _ => rfl }
  | recvExit _ hc hcur hq => exact { I with exited := fun _ => ⟨hc, hq, hcur⟩ }
  | closeEnd hc hx =>
    exact { I with bound_res := nofun, closed_lock := fun _ => .inr ⟨rfl, rfl⟩, nil_closed := fun _ => (I.exited hx).1 }
  | _ => exact { I with }

end Lemmas.C14
