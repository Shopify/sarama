/-
  Lists of entries with a key.
  Kept by "replace", the representation of a Go map: the new entry in front, the entries with its key filtered out of the
  rest (`kset` of the client's metadata cache, the slots of the sync producer, the clients of a group world).  Looking a
  key up afterwards finds the new entry for its own key and the old one for any other key.
  Sorted by the key under an irreflexive order (the log of an idempotent partition by (epoch, sequence), the promises of
  a broker connection by correlation id): no key occurs twice.
-/
namespace Lemmas.Assoc

theorem find?_replace {κ α : Type} [DecidableEq κ] (key : α → κ) (l : List α) (a : α) (k : κ) :
    (a :: l.filter (fun x => key x ≠ key a)).find? (fun x => key x = k) =
      if key a = k then some a else l.find? (fun x => key x = k) := by
  by_cases h : key a = k
  · rw [List.find?_cons, if_pos h, decide_eq_true h]
  · rw [List.find?_cons, if_neg h, decide_eq_false h, List.find?_filter]
    refine congrArg (List.find? · l) (funext fun x => ?_)
    by_cases hx : key x = k
    · simpa [hx] using fun e : k = key a => h e.symm
    · simp [hx]

theorem getElem_inj_of_sorted {κ α : Type} {r : κ → κ → Prop} (irr : ∀ k, ¬ r k k) {key : α → κ} {l : List α}
    (hl : (l.map key).Pairwise r) {i j : Nat} (hi : i < l.length) (hj : j < l.length)
    (h : key l[i] = key l[j]) : i = j :=
  have nd : (l.map key).Nodup := hl.imp fun h e => by subst e; exact irr _ h
  (List.getElem_inj (h₀ := by simpa using hi) (h₁ := by simpa using hj) nd).mp (by simpa using h)

theorem key_inj_of_sorted {κ α : Type} {r : κ → κ → Prop} (irr : ∀ k, ¬ r k k) {key : α → κ} {l : List α}
    (hl : (l.map key).Pairwise r) {a b : α} (ha : a ∈ l) (hb : b ∈ l) (h : key a = key b) : a = b := by
  obtain ⟨i, hi, rfl⟩ := List.getElem_of_mem ha
  obtain ⟨j, hj, rfl⟩ := List.getElem_of_mem hb
  cases getElem_inj_of_sorted irr hl hi hj h; rfl

end Lemmas.Assoc
