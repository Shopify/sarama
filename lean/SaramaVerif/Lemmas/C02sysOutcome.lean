/-
  C02 composition: what one step of a broker worker does to the system, for any worker, from the known-choice forms of
  `Step`: a token arriving (`bpRecv_casesW` with `RecvOutcome`), the buffer handed to the bridge (`handover_work`), the
  answer of the broker arriving (`deliver_casesW` with `DeliverOutcome`).  Each gives the next state as a `workSw`.
-/
import SaramaVerif.Lemmas.C02sysRep
import SaramaVerif.Props.C02bp

namespace Lemmas.C02sys
open Model Model.Pipeline

/-- the system after worker 0 (`W s`) has run `i`, before its actions are applied -/
def midS (M : Nat) (s : Sys) (q : List Tok) (pend : Option (Pipeline.Verdict × Nat)) (i : BrokerProd.In) : Sys :=
  { s with wk := setW s.wk 0 ⟨q, (BrokerProd.step M (W s).bp i).1, pend⟩ }

theorem mid_fields (M : Nat) (s : Sys) (q : List Tok) (pend : Option (Pipeline.Verdict × Nat)) (i : BrokerProd.In) :
    (midS M s q pend i).pp = s.pp ∧ (midS M s q pend i).pq = s.pq ∧ (midS M s q pend i).dq = s.dq ∧
    (midS M s q pend i).cur = s.cur ∧ (midS M s q pend i).next = s.next ∧ (midS M s q pend i).log = s.log ∧
    (midS M s q pend i).succ = s.succ ∧ (midS M s q pend i).crash = s.crash :=
  ⟨rfl, rfl, rfl, rfl, rfl, rfl, rfl, rfl⟩

theorem ins_mid (M : Nat) (s : Sys) (q : List Tok) (pend : Option (Pipeline.Verdict × Nat)) (i : BrokerProd.In) :
    ins (midS M s q pend i) = insideB (BrokerProd.step M (W s).bp i).1 := rfl

/-- what taking the token `t` from its queue does to a worker of `s` in state `b` holding `I`, by the kind of the
    token and the mode of the worker: a data token is bounced (`X = [t]`) or kept, a syn is consumed and ends the retry
    mode, a fin chaser is bounced -/
def RecvOutcome (M : Nat) (s : Sys) (b : BrokerProd.St) (I : List Tok) (t : Tok) (b' : BrokerProd.St) (X : List Tok)
    (e : List Int) : Prop :=
  (t.kind = .data ∧ BrokerProd.needsRetry b 0 = true ∧ X = [t] ∧ e = s.errs ++ errOut M [t] ∧ b' = b) ∨
  (t.kind = .data ∧ BrokerProd.needsRetry b 0 = false ∧ X = [] ∧ e = s.errs ∧ b'.cr = b.cr ∧
      insideB b' = I ++ [t]) ∨
  (t.kind = .syn ∧ X = [] ∧ e = s.errs ∧ b'.cr 0 = false ∧ insideB b' = I) ∨
  (t.kind = .fin ∧ t.retries < M ∧ X = [t] ∧ e = s.errs ++ errOut M [t] ∧ insideB b' = I ∧
      b'.cr 0 = if b.closing then b.cr 0 else false)

theorem bpRecv_casesW {M : Nat} {s s' : Sys} {w : Nat} {ov : Bool} (hpi : Props.C02bp.PInv (s.wk w).bp)
    (hp0 : P0 (s.wk w).inq) (hfin : ∀ t ∈ (s.wk w).inq, t.kind = .fin → t.retries < M)
    (hs : sysStep M s (.bpRecv w ov) = some s') :
    ∃ t r b' X e, (s.wk w).inq = t :: r ∧ s' = workSw M s w ⟨r, b', (s.wk w).pend⟩ X s.succ e ∧
      Props.C02bp.PInv b' ∧ b'.sets = (s.wk w).bp.sets ∧ b'.closing = (s.wk w).bp.closing ∧
      RecvOutcome M s (s.wk w).bp (insW s w) t b' X e := by
  obtain ⟨t, r, hq, hd, rfl⟩ := step_bpRecv.1 hs
  have hqm : t ∈ (s.wk w).inq := hq ▸ List.mem_cons_self ..
  have htp : t.part = 0 := hp0 t hqm
  have hpinv := (Props.C02bp.step_fifo M (s.wk w).bp (.recv t ov) hpi).2
  obtain ⟨st, a, hst, c⟩ : ∃ st a, BrokerProd.step M (s.wk w).bp (.recv t ov) = st ∧
      Props.C02bp.RecvCase M (s.wk w).bp t ov st a := ⟨_, _, rfl, Props.C02bp.recv_case ..⟩
  rw [hst] at hd hpinv
  have cr0 : ∀ v, BrokerProd.setCr (s.wk w).bp.cr t.part v 0 = v := fun v => by rw [htp]; exact if_pos rfl
  cases c with
  | busy => exact absurd rfl hd
  | syn _ hk =>
    exact ⟨t, r, _, [], _, hq, afterW_quiet hst ⟨rfl, rfl, fun _ => rfl⟩, hpinv, rfl, rfl,
      .inr (.inr (.inl ⟨hk, rfl, rfl, cr0 _, rfl⟩))⟩
  | bounce hw hs hn =>
    refine ⟨t, r, _, [t], _, hq, afterW_bounce1 hst hs, hpi, rfl, rfl, ?_⟩
    rcases kind_cases t with hk | hk | hk
    · exact .inl ⟨hk, htp ▸ hn.resolve_right (by rw [hk]; exact nofun), rfl, rfl, rfl⟩
    · exact absurd hk hs
    · have h := (recv_fin_spec M _ t ov hw hk htp).2.2.2.2.2
      rw [hst] at h
      exact .inr (.inr (.inr ⟨hk, hfin t hqm hk, rfl, rfl, rfl, h⟩))
  | reopen _ hk hn hcl =>
    exact ⟨t, r, _, [t], _, hq, afterW_bounce1 hst (by rw [hk]; exact nofun), hpinv, rfl, rfl,
      .inr (.inr (.inr ⟨hk, hfin t hqm hk, rfl, rfl, rfl, by rw [hcl]; exact cr0 _⟩))⟩
  | hold hw hk hn | add hw hk hn =>
    exact ⟨t, r, _, [], _, hq, afterW_quiet hst ⟨rfl, rfl, fun _ => rfl⟩, hpinv, rfl, rfl,
      .inr (.inl ⟨hk, htp ▸ hn, rfl, rfl, rfl, by simp [insideB, Props.C02bp.inside, hw]⟩)⟩

theorem handover_work {M : Nat} {s s' : Sys} {w : Nat} (hs : sysStep M s (.handover w) = some s') :
    (BrokerProd.step M (s.wk w).bp .handover).2 ≠ [.disabled] ∧
    s' = workSw M s w ⟨(s.wk w).inq, (BrokerProd.step M (s.wk w).bp .handover).1, (s.wk w).pend⟩ [] s.succ s.errs := by
  obtain ⟨hd, rfl⟩ := step_handover.1 hs
  exact ⟨hd, afterW_quiet rfl (handover_spec M _ hd).2.2.2.2.2⟩

/-- what the answer `vd` (log position `base`) for the set `sent` does to a worker of `s` in state `b`
    holding `I`: its new state `b'`, what it bounces (`X`), the successes and the errors afterwards -
    the two cases of `resp_cases` -/
def DeliverOutcome (M : Nat) (s : Sys) (b : BrokerProd.St) (I : List Tok) (vd : Pipeline.Verdict) (base : Nat)
    (sent : List Tok) (b' : BrokerProd.St) (X : List Tok) (sc : List (Int × Nat)) (e : List Int) : Prop :=
  (X = [] ∧ b'.closing = b.closing ∧ b'.cr = b.cr ∧ I = sent ++ insideB b' ∧
      ((vd = .ok ∧ sc = s.succ ++ offs sent base ∧ e = s.errs) ∨ (sc = s.succ ∧ e = s.errs ++ sent.map (·.id)))) ∨
   (X = I ∧ insideB b' = [] ∧ sc = s.succ ∧ e = s.errs ++ errOut M I ∧
      ((b'.closing = true ∧ b'.cr = b.cr) ∨ (b'.closing = b.closing ∧ b'.cr 0 = true ∧ I ≠ [])))

theorem deliver_casesW {M : Nat} (hM : 1 ≤ M) {s s' : Sys} {w : Nat} {still : Bool}
    (hpi : Props.C02bp.PInv (s.wk w).bp) (hP : P0 (insW s w)) (hs : sysStep M s (.deliver w still) = some s') :
    ∃ vd base sent b' X sc e, (s.wk w).pend = some (vd, base) ∧ (s.wk w).bp.sets = [sent] ∧
      s' = workSw M s w ⟨(s.wk w).inq, b', none⟩ X sc e ∧ Props.C02bp.PInv b' ∧
      DeliverOutcome M s (s.wk w).bp (insW s w) vd base sent b' X sc e := by
  obtain ⟨vd, base, hpend, hd, rfl⟩ := step_deliver.1 hs
  obtain ⟨sent, hsets⟩ := resp_disabled M _ vd.toResp still hpi.one hd
  have hpinv := (Props.C02bp.step_fifo M (s.wk w).bp (.resp vd.toResp still) hpi).2
  have nil : ∀ {α : Type} {l x : List α}, x = [] → l ++ x = l := fun h => h ▸ List.append_nil _
  rcases resp_cases hM hpi hP hsets vd still rfl with ⟨a1, a2, hi, r1, hout⟩ | ⟨hi', ⟨r1, r2, r3⟩, hmode⟩
  · rcases hout with ⟨rfl, e1, e2⟩ | ⟨e1, e2⟩
    · exact ⟨_, base, sent, _, [], _, _, hpend, hsets, afterW_work rfl r1 (congrArg (_ ++ ·) (e2 base)) (nil e1),
        hpinv, .inl ⟨rfl, a1, a2, hi, .inl ⟨rfl, rfl, rfl⟩⟩⟩
    · exact ⟨_, base, sent, _, [], _, _, hpend, hsets, afterW_work rfl r1 (nil (e2 base)) (congrArg (_ ++ ·) e1),
        hpinv, .inl ⟨rfl, a1, a2, hi, .inr ⟨rfl, rfl⟩⟩⟩
  · exact ⟨_, base, sent, _, insW s w, _, _, hpend, hsets,
      afterW_work rfl r1 (nil (r3 base)) (congrArg (_ ++ ·) r2), hpinv, .inr ⟨rfl, hi', rfl, rfl, hmode⟩⟩

end Lemmas.C02sys
