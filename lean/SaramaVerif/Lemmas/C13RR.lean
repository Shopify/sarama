import SaramaVerif.Lemmas.C08RR
/-
  Round-robin with identical subscriptions: the cursor never skips, so member number k gets the positions
  congruent to k, and the totals are ⌊L/n⌋ or ⌈L/n⌉.
-/
namespace Model.Balance

/-- the number of j < c with j % n = k, in closed form (for k < n) -/
def rrShare (n c k : Nat) : Nat := c / n + (if k < c % n then 1 else 0)

theorem rrShare_succ {n c k : Nat} (hn : 0 < n) (hk : k < n) :
    rrShare n (c + 1) k = rrShare n c k + (if c % n = k then 1 else 0) := by
  -- position `c` counts for `k` exactly if it moves `c % n` past `k`
  have ind : (if k < c % n + 1 then 1 else 0) = (if k < c % n then 1 else 0) + (if c % n = k then 1 else 0) := by
    rcases Nat.lt_trichotomy k (c % n) with h | h | h
    · rw [if_pos (Nat.lt_succ_of_lt h), if_pos h, if_neg (Nat.ne_of_gt h)]
    · rw [if_pos (Nat.lt_succ_of_le (Nat.le_of_eq h)), if_neg (Nat.not_lt.mpr (Nat.le_of_eq h.symm)), if_pos h.symm]
    · rw [if_neg (Nat.not_lt.mpr h), if_neg (Nat.lt_asymm h), if_neg (Nat.ne_of_lt h)]
  have hd := Nat.div_add_mod c n
  have hlt := Nat.mod_lt c hn
  unfold rrShare
  rw [Nat.add_assoc, ← ind]
  by_cases h : c % n + 1 < n
  · have ⟨e1, e2⟩ := (Nat.div_mod_unique hn).mpr
      ⟨(by rw [Nat.add_right_comm, Nat.add_comm (c % n), hd] : c % n + 1 + n * (c / n) = c + 1), h⟩
    rw [e1, e2]
  · -- the remainder wraps to 0 and the quotient takes the one
    have hr : c % n + 1 = n := Nat.le_antisymm hlt (Nat.not_lt.mp h)
    have ⟨e1, e2⟩ := (Nat.div_mod_unique hn).mpr
      ⟨(by rw [Nat.zero_add, Nat.mul_add_one]
           exact (congrArg (n * (c / n) + ·) hr.symm).trans ((Nat.add_assoc ..).symm.trans (congrArg (· + 1) hd)) :
        0 + n * (c / n + 1) = c + 1), hn⟩
    rw [e1, e2, if_neg (Nat.not_lt_zero k), if_pos (Nat.lt_of_lt_of_le hk (Nat.not_lt.mp h))]

/-- how often the cursor positions i, …, i+L-1 fall on member number k -/
def rrHits (n : Nat) : Nat → Nat → Nat → Nat
  | _, 0, _ => 0
  | i, L + 1, k => (if i % n = k then 1 else 0) + rrHits n (i + 1) L k

theorem rrHits_share {n k : Nat} (hn : 0 < n) (hk : k < n) :
    ∀ (L i : Nat), rrHits n i L k + rrShare n i k = rrShare n (i + L) k := by
  intro L
  induction L with
  | zero => exact fun i => Nat.zero_add _
  | succ L ih =>
    intro i
    have := ih (i + 1)
    rw [rrShare_succ hn hk, Nat.add_right_comm i 1 L] at this
    rw [rrHits, Nat.add_comm (if i % n = k then 1 else 0), Nat.add_assoc, Nat.add_comm (if i % n = k then 1 else 0)]
    exact this

theorem rrHits_zero {n k : Nat} (hn : 0 < n) (hk : k < n) (L : Nat) : rrHits n 0 L k = rrShare n L k := by
  have h0 : rrShare n 0 k = 0 := by rw [rrShare, Nat.zero_div, Nat.zero_mod, if_neg (Nat.not_lt_zero k)]
  have := rrHits_share hn hk L 0
  rwa [h0, Nat.zero_add] at this

theorem rrShare_le (n c k k' : Nat) : rrShare n c k ≤ rrShare n c k' + 1 :=
  have h1 : (if k < c % n then 1 else 0) ≤ 1 := by split <;> decide
  Nat.add_le_add_left (Nat.le_trans h1 (Nat.le_add_left 1 _)) (c / n)

theorem size_add_one (plan : Plan) (m a : Member) (t : Topic) (p : Int) :
    size (plan.add m t [p]) a = size plan a + (if m = a then 1 else 0) := by
  rw [size, get_add, List.length_append]
  split <;> rfl

def rrVisits (ms : Members) : Nat → Nat → Member → Nat
  | _, 0, _ => 0
  | i, L + 1, a => (if rrMember ms i = a then 1 else 0) + rrVisits ms (i + 1) L a

theorem rrLoop_identical (ms : Members) (hne : ms ≠ []) (a : Member) (tps : List TP) (i : Nat) (plan out : Plan)
    (hall : ∀ e, e ∈ ms → ∀ tp, tp ∈ tps → e.2.contains tp.1 = true)
    (ho : rrLoop ms ms.length tps i plan = some out) : size out a = size plan a + rrVisits ms i tps.length a := by
  -- the member at any cursor position has every topic that occurs
  have hhas : ∀ tp, tp ∈ tps → ∀ k, rrHas ms tp.1 k := fun tp htp k =>
    have hlt := Nat.mod_lt k (List.length_pos_iff.mpr hne)
    ⟨_, List.getElem?_eq_getElem hlt, hall _ (List.getElem_mem hlt) tp htp⟩
  refine rrLoop_induct
    (R := fun tps i plan out => (∀ tp, tp ∈ tps → ∀ k, rrHas ms tp.1 k) →
      size out a = size plan a + rrVisits ms i tps.length a)
    ms _ (fun _ _ _ => rfl) (fun tp rest i j plan out hf ih hhas => ?_) tps i plan out ho hhas
  -- so the position found is the cursor itself
  have hj := rrFind_some hf
  cases Nat.le_antisymm (Nat.le_of_not_lt fun h => hj.2.2.2 i (Nat.le_refl i) h (hhas tp List.mem_cons_self i)) hj.1
  rw [ih fun tp' htp' => hhas tp' (List.mem_cons_of_mem _ htp'), size_add_one, Nat.add_assoc]
  rfl

theorem rrMember_eq_iff {ms : Members} (hids : (ms.map (·.1)).Nodup) {k : Nat} (hk : k < ms.length) (c : Nat) :
    rrMember ms c = (ms[k]).1 ↔ c % ms.length = k := by
  have hlt : c % ms.length < ms.length := Nat.mod_lt _ (Nat.zero_lt_of_lt hk)
  rw [rrMember, List.getElem?_eq_getElem hlt]
  have := List.getElem_inj (i := c % ms.length) (j := k) (h₀ := by rwa [List.length_map])
    (h₁ := by rwa [List.length_map]) hids
  rw [List.getElem_map, List.getElem_map] at this
  exact this

theorem rrVisits_eq_hits {ms : Members} (hids : (ms.map (·.1)).Nodup) {k : Nat} (hk : k < ms.length) :
    ∀ (L i : Nat), rrVisits ms i L (ms[k]).1 = rrHits ms.length i L k := by
  intro L
  induction L with
  | zero => exact fun _ => rfl
  | succ L ih =>
    intro i
    rw [rrVisits, rrHits, ih (i + 1)]
    exact congrArg (· + _) (ite_congr (propext (rrMember_eq_iff hids hk i)) (fun _ => rfl) (fun _ => rfl))

end Model.Balance
