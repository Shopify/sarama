import SaramaVerif.Lemmas.C06
/-
  C06, system level: every partition of a system run is a partition-level run (projection), the system
  invariant, and the structure of the operations `Close` performs.
-/
namespace Lemmas.C06
open Model.OffsetMgr

theorem stepSys_parts (s : Sys) (op : Op) (i : Nat) :
    (stepSys s op).parts[i]? = (s.parts[i]?).map (fun p => pstep p (proj s i op)) := by
  simp only [stepSys, stepParts, List.getElem?_mapIdx]

theorem stepSys_length (s : Sys) (op : Op) : (stepSys s op).parts.length = s.parts.length := by
  simp only [stepSys, stepParts, List.length_mapIdx]

theorem run_length (s : Sys) (ops : List Op) : (run s ops).parts.length = s.parts.length := by
  induction ops generalizing s with
  | nil => rfl
  | cons op ops ih => simp only [run]; rw [ih, stepSys_length]

theorem run_append (s : Sys) (a b : List Op) : run s (a ++ b) = run (run s a) b := by
  induction a generalizing s with
  | nil => rfl
  | cons x xs ih => exact ih (stepSys s x)

def projRun (s : Sys) (i : Nat) : List Op → List POp
  | [] => []
  | op :: ops => proj s i op :: projRun (stepSys s op) i ops

theorem run_parts (s : Sys) (ops : List Op) (i : Nat) :
    (run s ops).parts[i]? = (s.parts[i]?).map (fun p => prun p (projRun s i ops)) := by
  induction ops generalizing s with
  | nil => simp [run, projRun, prun]
  | cons op ops ih =>
    simp only [run, projRun]
    rw [ih, stepSys_parts]
    cases s.parts[i]? <;> simp [prun]

theorem projRun_append (s : Sys) (i : Nat) (a b : List Op) :
    projRun s i (a ++ b) = projRun s i a ++ projRun (run s a) i b := by
  induction a generalizing s with
  | nil => rfl
  | cons x xs ih => simp only [List.cons_append, projRun, run]; rw [ih]

theorem mem_projRun {s : Sys} {i : Nat} {ops : List Op} {pop : POp} (h : pop ∈ projRun s i ops) :
    ∃ t, ∃ op ∈ ops, proj t i op = pop := by
  induction ops generalizing s with
  | nil => cases h
  | cons op ops ih =>
    rcases List.mem_cons.mp h with rfl | h
    · exact ⟨s, op, List.mem_cons_self, rfl⟩
    · obtain ⟨t, op', hm, he⟩ := ih h
      exact ⟨t, op', List.mem_cons_of_mem _ hm, he⟩

def appOp (i : Nat) : POp → Option Op
  | .mark o m => some (.mark i o m)
  | .reset o m => some (.reset i o m)
  | _ => none

theorem isApp_of_appOp {i : Nat} {pop : POp} {op : Op} (e : appOp i pop = some op) : pop.isApp = true := by
  cases pop with
  | mark | reset => rfl
  | _ => cases e

theorem proj_app {s : Sys} {i : Nat} {op : Op} (h : (proj s i op).isApp = true) : appOp i (proj s i op) = some op := by
  cases op with
  | mark k o m | reset k o m =>
    simp only [proj] at h ⊢
    split
    · subst k; rfl
    · rw [if_neg ‹_›] at h; cases h
  | next | acloseAll | dropBroker | manageFailed => cases h
  | _ =>
    exact absurd h (Bool.eq_false_iff.mp
      (iteInduction (motive := fun q : POp => q.isApp = false) (fun _ => rfl) fun _ => rfl))

theorem projRun_app {s : Sys} {i : Nat} {ops : List Op} {pop : POp} {op : Op} (e : appOp i pop = some op)
    (h : pop ∈ projRun s i ops) : op ∈ ops := by
  obtain ⟨t, op', hm, rfl⟩ := mem_projRun h
  exact Option.some.inj (e.symm.trans (proj_app (isApp_of_appOp e))) ▸ hm

/-- holds of every reachable system state: `PInv` of each partition, and blocks are in flight only while a request
    is under way, so that every `Commit()` starts with nothing in flight -/
structure SInv (s : Sys) : Prop where
  parts : ∀ p ∈ s.parts, PInv p
  idle : s.active = false → ∀ p ∈ s.parts, p.inflight = none

theorem sinv_init (sts : List (Option Pair)) : SInv (sinit sts) :=
  ⟨List.forall_mem_map.mpr fun st _ => pinv_init st, fun _ => List.forall_mem_map.mpr fun _ _ => rfl⟩

theorem mem_stepParts {s : Sys} {op : Op} {q : PState} (h : q ∈ stepParts s op) :
    ∃ i p, s.parts[i]? = some p ∧ q = pstep p (proj s i op) := by
  simp only [stepParts, List.mem_mapIdx] at h
  obtain ⟨i, hi, rfl⟩ := h
  exact ⟨i, s.parts[i], by simp [hi], rfl⟩

theorem sinv_step {s : Sys} (h : SInv s) (op : Op) : SInv (stepSys s op) := by
  constructor
  · intro q hq
    obtain ⟨i, p, hp, rfl⟩ := mem_stepParts (s := s) (op := op) hq
    exact pinv_step (h.parts p (List.mem_of_getElem? hp)) _
  · -- only `construct` puts blocks in flight, and an idle system is active afterwards iff some block is; the end of a
    -- request (failed lookup, reply) empties `inflight` by a verdict; every other operation reaches a partition as a
    -- step that is not a snapshot
    intro hact q hq
    obtain ⟨i, p, hp, rfl⟩ := mem_stepParts (s := s) (op := op) hq
    have hpm := List.mem_of_getElem? hp
    cases op with
    | construct =>
      simp only [stepSys, stepActive] at hact
      split at hact
      · cases hact
      · exact Option.not_isSome_iff_eq_none.mp (List.any_eq_false.mp hact _ hq)
    | lookup ok =>
      simp only [stepSys, stepActive, Bool.and_eq_false_iff, Bool.not_eq_eq_eq_not, Bool.not_false] at hact
      rcases hact with hact | hact
      · have hlf : lookupFails s ok = false := by simp [lookupFails, hact]
        simp only [proj, hlf, Bool.false_eq_true, ↓reduceIte, pstep]
        exact h.idle hact p hpm
      · simp only [proj, hact, ↓reduceIte]
        exact (verdict_frame p _).2
    | reply r =>
      simp only [proj]
      split
      · exact (verdict_frame p _).2
      · rename_i hna
        simp only [pstep]
        exact h.idle (by simpa using hna) p hpm
    | manage k | mark k o m | reset k o m | aclose k | release f =>
      exact iteInduction (motive := fun q : POp => (pstep p q).inflight = none)
        (fun _ => nonsnap_inflight nofun (h.idle hact p hpm)) fun _ => nonsnap_inflight nofun (h.idle hact p hpm)
    | acloseAll => exact nonsnap_inflight nofun (h.idle hact p hpm)
    | next | dropBroker | manageFailed => exact h.idle hact p hpm

theorem sinv_run {s : Sys} (h : SInv s) (ops : List Op) : SInv (run s ops) := by
  induction ops generalizing s with
  | nil => exact h
  | cons op ops ih => exact ih (sinv_step h op)

/-- the operations of `Commit()`, and `acloseAll` / `dropBroker` of `Close`: each reaches a partition as an
    `isCommitter` operation other than the forced release (`proj_committer`), which is what `closing_run` asks -/
def isCommitterOp : Op → Bool
  | .construct => true
  | .lookup _ => true
  | .reply _ => true
  | .release false => true
  | .acloseAll => true
  | .dropBroker => true
  | _ => false

theorem proj_committer (s : Sys) (i : Nat) {op : Op} (h : isCommitterOp op = true) :
    isCommitter (proj s i op) = true ∧ proj s i op ≠ .release true := by
  cases op with
  | construct | lookup ok | reply r =>
    exact iteInduction (motive := fun q : POp => isCommitter q = true ∧ q ≠ .release true)
      (fun _ => ⟨rfl, nofun⟩) fun _ => ⟨rfl, nofun⟩
  | release f =>
    cases f
    · exact ⟨rfl, nofun⟩
    · cases h
  | acloseAll | dropBroker => exact ⟨rfl, nofun⟩
  | _ => cases h

theorem projRun_committer (s : Sys) (i : Nat) (ops : List Op) (h : ops.all isCommitterOp = true) :
    ∀ pop ∈ projRun s i ops, isCommitter pop = true ∧ pop ≠ .release true := by
  induction ops generalizing s with
  | nil => exact fun _ hp => nomatch hp
  | cons op ops ih =>
    rw [List.all_cons, Bool.and_eq_true] at h
    exact List.forall_mem_cons.mpr ⟨proj_committer s i h.1, ih (stepSys s op) h.2⟩

/-- the three shapes of `Commit()` without application calls in the window: nothing to commit, the coordinator
    lookup fails, the request is sent and answered -/
theorem commitOps_cases (s : Sys) (a : Attempt) (hw : a.win = []) :
    ((stepSys s .construct).active = false ∧ commitOps s a = [.construct, .release false]) ∨
    ((stepSys s .construct).active = true ∧ (stepSys (stepSys s .construct) (.lookup a.lk)).active = false ∧
      commitOps s a = [.construct, .lookup a.lk, .release false]) ∨
    ((stepSys s .construct).active = true ∧ (stepSys (stepSys s .construct) (.lookup a.lk)).active = true ∧
      commitOps s a = [.construct, .lookup a.lk, .reply a.r, .release false]) := by
  unfold commitOps flushOps
  rw [hw]
  split
  · split
    · exact .inr (.inr ⟨‹_›, ‹_›, rfl⟩)
    · exact .inr (.inl ⟨‹_›, Bool.eq_false_iff.mpr ‹_›, rfl⟩)
  · exact .inl ⟨Bool.eq_false_iff.mpr ‹_›, rfl⟩

theorem commitOps_committer (s : Sys) (a : Attempt) (hw : a.win = []) :
    (commitOps s a).all isCommitterOp = true := by
  rcases commitOps_cases s a hw with ⟨_, e⟩ | ⟨_, _, e⟩ | ⟨_, _, e⟩ <;> rw [e] <;> rfl

theorem stepSys_active_release (s : Sys) (f : Bool) : (stepSys s (.release f)).active = s.active := rfl

theorem stepSys_active_reply (s : Sys) (r : Reply) : (stepSys s (.reply r)).active = false := rfl

theorem commit_idle (s : Sys) (a : Attempt) (hw : a.win = []) : (run s (commitOps s a)).active = false := by
  rcases commitOps_cases s a hw with ⟨h, e⟩ | ⟨_, h, e⟩ | ⟨_, _, e⟩ <;> rw [e]
  · exact h
  · exact h
  · rfl

theorem verdict_none {p : PState} (h : p.inflight = none) (v : PVerdict) : pstep p (.verdict v) = p := by
  simp [pstep, h]

/-- an attempt the coordinator accepts: lookup succeeds, every partition's block is answered NoError, no
    application call in between -/
def Accepting (n : Nat) (a : Attempt) : Prop :=
  a.lk = true ∧ a.win = [] ∧ ∃ vs, a.r = .respond vs ∧ ∀ j, j < n → verdictAt vs j = .code 0

theorem classify_zero : classify 0 = .commit := by decide

theorem accepting_commit {s : Sys} (hs : SInv s) (hidle : s.active = false) {a : Attempt}
    (ha : Accepting s.parts.length a) {i : Nat} {p : PState} (hp : s.parts[i]? = some p) :
    (run s (commitOps s a)).parts[i]? = some (closeAttemptP p .ok) := by
  obtain ⟨hlk, hw, vs, hr, hvs⟩ := ha
  have hi : i < s.parts.length := (List.getElem?_eq_some_iff.mp hp).1
  have hsnap : proj s i .construct = .snap := by simp [proj, hidle]
  have hrl : ∀ t : Sys, proj t i (.release false) = .release false := fun t => by simp [proj]
  rw [run_parts, hp]
  rcases commitOps_cases s a hw with ⟨h1, e⟩ | ⟨h1, h2, _⟩ | ⟨h1, h2, e⟩
  · -- no block in flight after the snapshot: the answer finds nothing to do
    have hp1 : (stepSys s .construct).parts[i]? = some (pstep p .snap) := by
      rw [stepSys_parts, hp, hsnap]; rfl
    have hnone := (sinv_step hs .construct).idle h1 _ (List.mem_of_getElem? hp1)
    simp only [e, projRun, prun, hsnap, hrl, Option.map_some, closeAttemptP, verdict_none hnone]
  · -- excluded: the lookup succeeds
    have : (stepSys (stepSys s .construct) (.lookup a.lk)).active = (stepSys s .construct).active := by
      simp [stepSys, stepActive, lookupFails, hlk]
    cases h1.symm.trans (this.symm.trans h2)
  · have hl : proj (stepSys s .construct) i (.lookup a.lk) = .nop := by simp [proj, lookupFails, hlk]
    have hrp : proj (stepSys (stepSys s .construct) (.lookup a.lk)) i (.reply a.r) = .verdict .ok := by
      simp only [proj, h2, ↓reduceIte, hr, pverdictFor, hvs i hi, classify_zero]
    simp only [e, projRun, prun, hsnap, hl, hrp, hrl, Option.map_some]
    rfl

theorem remaining_zero {s : Sys} (h : remaining s = 0) : ∀ p ∈ s.parts, p.live = false := by
  intro p hp
  simp only [remaining, List.countP_eq_zero] at h
  have := h p hp
  simpa using this

theorem commit_closing {s : Sys} (hs : SInv s) (hidle : s.active = false) {a : Attempt} (hw : a.win = []) {i : Nat}
    {p : PState} (hp : s.parts[i]? = some p) {pend : Pair} (hcl : Closing pend p) :
    ∃ q, (run s (commitOps s a)).parts[i]? = some q ∧ Closing pend q ∧ (q.live = true → p.live = true) ∧
      (Accepting s.parts.length a → q.live = false) := by
  have hcl1 := closing_run hcl (projRun s i (commitOps s a)) (projRun_committer s i _ (commitOps_committer s a hw))
  have hq : (run s (commitOps s a)).parts[i]? = some (prun p (projRun s i (commitOps s a))) := by
    rw [run_parts, hp]; rfl
  refine ⟨_, hq, hcl1.1, hcl1.2.2, fun ha => ?_⟩
  rw [← Option.some.inj ((accepting_commit hs hidle ha hp).symm.trans hq)]
  exact (closing_attempt hcl (hs.idle hidle p (List.mem_of_getElem? hp)) .ok (by decide)).2 rfl

/-- `Closing pend r` with `r.live = false` says that the pending pair is stored (`Closing.dead`) -/
theorem closeLoop_flushes {pend : Pair} (i : Nat) (script : List Attempt) :
    ∀ (s : Sys), SInv s → s.active = false → (∀ a ∈ script, a.win = []) →
      ∀ p, s.parts[i]? = some p → Closing pend p →
      (p.live = false ∨ ∃ a ∈ script, Accepting s.parts.length a) →
      ∃ r, (run s (closeLoopOps s script)).parts[i]? = some r ∧ Closing pend r ∧ r.live = false := by
  induction script with
  | nil => exact fun s _ _ _ p hp hcl hacc => ⟨p, hp, hcl, hacc.resolve_right fun ⟨_, h, _⟩ => nomatch h⟩
  | cons a as ih =>
    intro s hs hidle hw p hp hcl hacc
    have hwa := hw a List.mem_cons_self
    obtain ⟨q, hq, hclq, hmono, haq⟩ := commit_closing hs hidle hwa hp hcl
    unfold closeLoopOps
    split
    · exact ⟨q, hq, hclq, remaining_zero ‹_› q (List.mem_of_getElem? hq)⟩
    · rw [run_append]
      refine ih _ (sinv_run hs _) (commit_idle s a hwa) (fun b hb => hw b (List.mem_cons_of_mem _ hb)) q hq hclq ?_
      rcases hacc with hl | ⟨b, hb, hab⟩
      · exact .inl (Bool.eq_false_iff.mpr fun h => nomatch hl.symm.trans (hmono h))
      · rcases List.mem_cons.mp hb with rfl | hb
        · exact .inl (haq hab)
        · exact .inr ⟨b, hb, by rw [run_length]; exact hab⟩

end Lemmas.C06
