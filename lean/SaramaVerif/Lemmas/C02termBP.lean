/-
  C02 composition, progress, variant: every step of a broker worker makes the weight strictly smaller.  One inequality
  per input (`recv_weight`, `handover_weight`, `resp_weight`): the worker without its channel (`kW`) and what its
  actions put on the retries queue (`oW`) weigh less than the worker and the token taken did.
-/
import SaramaVerif.Lemmas.C02termW

namespace Lemmas.C02sys
open Model Model.Pipeline Model.BrokerProd
open Props.C02bp (RecvCase recv_case HandoverCase handover_case RecheckCase recheck_case)

theorem oW_append (M : Nat) (a b : List Action) : oW M (a ++ b) = oW M a + oW M b := by
  rw [oW, actRet_append, lW_append]; rfl

theorem oW_nil (M : Nat) : oW M [] = 0 := rfl

theorem oW_add (M : Nat) (id p : Int) : oW M [.add id p] = 0 := rfl

theorem oW_refuse (M : Nat) (id : Int) (l : List Action) : oW M (.refuse id :: l) = oW M l := rfl

theorem oW_cons (M : Nat) (a : Action) (l : List Action) : oW M (a :: l) = oW M [a] + oW M l := oW_append M [a] l

theorem oW_retryMsg (M : Nat) (t : Tok) : oW M [retryMsg M t] =
    if M ≤ t.retries then 0 else if t.kind = .fin then 3 else dW M 24 (t.retries + 1) := by
  simp only [retryMsg, ge_iff_le]
  split
  · rfl
  · cases h : t.kind <;> simp [oW, actRet, lW_single, qW, Tok.isFin, h]

/-- it comes back lighter than anything inside a worker -/
theorem oW_retry (M : Nat) (t : Tok) : oW M [retryMsg M t] ≤ dW M 2 t.retries := by
  rw [oW_retryMsg]
  by_cases hM : M ≤ t.retries
  · rw [if_pos hM]; exact Nat.zero_le _
  · have := dW_succ hM 2 24
    rw [if_neg hM]
    split <;> omega

theorem oW_bounce (M : Nat) {t : Tok} (hk : t.kind ≠ .syn) : oW M [retryMsg M t] + 1 ≤ inW M t := by
  cases h : t.kind with
  | syn => exact absurd h hk
  | fin => rw [oW_retryMsg]; simp only [inW, h, if_true]; split <;> omega
  | data =>
    simp only [inW, h]
    exact Nat.lt_of_le_of_lt (oW_retry M t) (Nat.add_lt_add_left (by decide) _)

theorem oW_retryMsgs (M : Nat) (l : List Tok) : oW M (retryMsgs M l) ≤ lW (inT M 2) l := by
  induction l with
  | nil => exact Nat.le_refl 0
  | cons t r ih =>
    rw [retryMsgs, List.map_cons, oW_cons, lW_cons]
    exact Nat.add_le_add (oW_retry M t) ih

def kW (M : Nat) (b : St) (pend : Option (Pipeline.Verdict × Nat)) : Nat := bpW M b + bridgeW b.sets pend

theorem lW_inT_shift (M d e : Nat) (l : List Tok) : lW (inT M (d + e)) l = lW (inT M d) l + e * l.length := by
  induction l with
  | nil => rfl
  | cons t r ih =>
    rw [lW_cons, lW_cons, ih]
    simp only [inT, dW, List.length_cons, Nat.mul_add]; omega

theorem bridgeW_nil (pend : Option (Pipeline.Verdict × Nat)) : bridgeW [] pend = 0 := rfl

theorem bridgeW_some (a : List Tok) (l : List (List Tok)) (x : Pipeline.Verdict × Nat) :
    bridgeW (a :: l) (some x) = 2 := rfl

theorem bridgeW_le (sets : List (List Tok)) (pend : Option (Pipeline.Verdict × Nat)) : bridgeW sets pend ≤ 3 := by
  simp only [bridgeW]; split
  · exact Nat.zero_le _
  · split
    · exact Nat.le_refl _
    · exact Nat.le_succ _

theorem lW_pos {g : Tok → Nat} {l : List Tok} {c : Nat} (hl : l ≠ []) (hg : ∀ t, c ≤ g t) : c ≤ lW g l := by
  cases l with
  | nil => exact absurd rfl hl
  | cons t r => rw [lW_cons]; exact Nat.le_trans (hg t) (Nat.le_add_right ..)

theorem recv_weight (M : Nat) (b : St) (t : Tok) (ov : Bool) (pend : Option (Pipeline.Verdict × Nat))
    (hw : b.wait = none) :
    kW M (step M b (.recv t ov)).1 pend + oW M (step M b (.recv t ov)).2 + 1 ≤ kW M b pend + inW M t := by
  obtain ⟨r, a, hr, c⟩ : ∃ r a, step M b (.recv t ov) = r ∧ RecvCase M b t ov r a := ⟨_, _, rfl, recv_case ..⟩
  rw [hr]
  have bounced : t.kind ≠ .syn → kW M b pend + oW M [.refuse t.id, retryMsg M t] + 1 ≤ kW M b pend + inW M t :=
    fun hk => by
      have := oW_bounce M hk
      rw [oW_refuse]
      omega
  cases c with
  | busy h => rw [hw] at h; cases h
  | syn _ hk => show kW M b pend + 0 + 1 ≤ _; simp [inW, hk]
  | bounce _ hk => exact bounced hk
  | reopen _ hk => exact bounced (fun e => nomatch hk.symm.trans e)
  | hold _ hk =>
    simp only [kW, bpW, hw, Option.toList_some, Option.toList_none, lW_single, lW_nil, inW, hk, inT, dW, oW_nil]
    omega
  | add _ hk =>
    simp only [kW, bpW, lW_append, lW_single, inW, hk, inT, dW, Bool.false_eq_true, if_false, oW_add]
    omega

theorem handover_weight (M : Nat) (b : St) (pend : Option (Pipeline.Verdict × Nat))
    (hd : (step M b .handover).2 ≠ [Action.disabled]) :
    kW M (step M b .handover).1 pend + oW M (step M b .handover).2 + 1 ≤ kW M b pend := by
  have hbr := bridgeW_le [b.buffer] pend
  have h8 : lW (inT M 10) b.buffer = lW (inT M 2) b.buffer + 8 * b.buffer.length := lW_inT_shift M 2 8 b.buffer
  obtain ⟨r, hr, c⟩ : ∃ r, step M b .handover = r ∧ HandoverCase b r := ⟨_, rfl, handover_case b⟩
  rw [hr] at hd ⊢
  cases c with
  | idle => exact absurd rfl hd
  | takeHeld hs hw =>
    simp only [kW, bpW, hs, hw, Option.toList_some, Option.toList_none, lW_single, lW_nil, List.flatten_cons,
      List.flatten_nil, List.append_nil, inT, dW, Bool.false_eq_true, if_false, oW_add]
    omega
  | take hs hw hne =>
    -- the buffer is not empty or `output` is still armed
    have : 4 ≤ 8 * b.buffer.length + if b.stale = true then 4 else 0 := by
      cases hb : b.buffer with
      | cons => rw [List.length_cons]; omega
      | nil => rw [hb] at hne; simp at hne; simp [hne]
    simp only [kW, bpW, hs, hw, Option.toList_none, lW_nil, List.flatten_cons, List.flatten_nil, List.append_nil,
      Bool.false_eq_true, if_false, oW_nil]
    omega

def nW (M : Nat) (b : St) : Nat :=
  lW (inT M 14) b.wait.toList + lW (inT M 10) b.buffer + (if b.stale then 4 else 0)

theorem bpW_eq (M : Nat) (b : St) : bpW M b = nW M b + lW (inT M 2) b.sets.flatten :=
  Nat.add_right_comm ..

theorem recheck_weight (M : Nat) (b : St) (acts : List Action) (still : Bool) :
    nW M (recheck M b acts still).1 + oW M (recheck M b acts still).2 ≤ nW M b + oW M acts := by
  obtain ⟨r, hr, c⟩ : ∃ r, recheck M b acts still = r ∧ RecheckCase M b acts still r := ⟨_, rfl, recheck_case ..⟩
  rw [hr]
  cases c with
  | free hw => simp only [nW, hw, Bool.false_eq_true, if_false]; omega
  | @bounce _ t hw =>
    have := oW_retry M t
    simp only [nW, hw, Option.toList_some, Option.toList_none, lW_single, lW_nil, oW_append, inT, dW,
      if_true] at this ⊢
    omega
  | stay => exact Nat.le_refl _
  | add hw =>
    simp only [nW, hw, Option.toList_some, Option.toList_none, lW_single, lW_nil, lW_append, oW_append, inT, dW,
      oW_add, Bool.false_eq_true, if_false]
    omega

theorem handle_weight (M : Nat) (hM : 1 ≤ M) (b0 : St) (sent : List Tok) (v : Pipeline.Verdict)
    (hP : P0 sent) (hb : P0 b0.buffer) :
    nW M (handle M b0 sent v.toResp).1 + oW M (handle M b0 sent v.toResp).2 ≤ nW M b0 + lW (inT M 2) sent := by
  have hbuf : lW (inT M 10) b0.buffer = lW (inT M 2) b0.buffer + 8 * b0.buffer.length := lW_inT_shift M 2 8 b0.buffer
  have h1 := oW_retryMsgs M sent
  have h2 := oW_retryMsgs M b0.buffer
  rcases handle_cases hM b0 sent v hP hb with ⟨A, e, hA, _⟩ | ⟨cl', cr', pre, mid, e, hpre, hmid, _⟩ <;> rw [e]
  · -- an outcome puts nothing on the retries queue
    have a0 : oW M A = 0 := congrArg (lW _) hA
    exact a0 ▸ Nat.le_add_right ..
  · have p0 : oW M pre = 0 := congrArg (lW _) hpre.1
    have m0 : oW M mid = 0 := congrArg (lW _) hmid.1
    simp only [nW, lW_nil, oW_append, p0, m0]
    omega

theorem resp_weight (M : Nat) (hM : 1 ≤ M) (b : St) (sent : List Tok) (v : Pipeline.Verdict) (still : Bool)
    (x : Pipeline.Verdict × Nat) (hs : b.sets = [sent]) (hP : P0 (insideB b)) :
    kW M (step M b (.resp v.toResp still)).1 none + oW M (step M b (.resp v.toResp still)).2 + 1 ≤
      kW M b (some x) := by
  rw [inside_one hs, P0_append, P0_append] at hP
  have h1 := handle_weight M hM { b with sets := [] } sent v hP.1.1 hP.1.2
  have h2 := recheck_weight M (handle M { b with sets := [] } sent v.toResp).1
    (handle M { b with sets := [] } sent v.toResp).2 still
  have hss : (step M b (.resp v.toResp still)).1.sets = [] := Props.C02bp.resp_sets M _ still hs
  rw [show step M b (.resp v.toResp still) = _ from Props.C02bp.resp_cons _ still hs] at hss ⊢
  have hn0 : nW M { b with sets := [] } = nW M b := rfl
  rw [hn0] at h1
  simp only [kW, bpW_eq, hss, hs, List.flatten_nil, lW_nil, List.flatten_cons, List.append_nil, bridgeW_nil,
    bridgeW_some]
  omega

end Lemmas.C02sys
