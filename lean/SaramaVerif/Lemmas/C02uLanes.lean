/-
  C02 composition: the lanes of the workers the partition producer has left.  (The files C02u* and the suffix `U` -
  `RepU`, `ConcU`, `GoodU` - are the forms for runs that use any number of workers of what `Rep`, `Conc`, `Good`,
  Lemmas/C02sysRep.lean, say of worker 0 alone.)  A worker that was left only drains: it bounces what is in its input
  channel, the chaser last; what it is still going to bounce, counted at the next retry level, is its `lane`, and the
  lanes stand in the view between the retries queue and what the worker bound last is going to bounce:
      av = pp.input ++ p.input ++ retries ++ lanes of the old workers (oldest first) ++ tail of the worker bound last
  A token that is bounced reaches the retries queue while tokens of older workers are still to come: in the arrival
  stream it jumps to the left over the lanes in between, and `VInv` (Lemmas/C02sysView.lean) survives because the
  lanes lie in disjoint retry-level bands (`VInv.moveBlock`).  The invariant that uses this is `GoodU`
  (Lemmas/C02uRep.lean).
-/
import SaramaVerif.Lemmas.C02sysRep

namespace Lemmas.C02sys
open Model Model.Pipeline

variable {M : Nat} {s s' : Sys} {olds : List Nat} {v v' : View}

theorem R_symm_of_ne {a b : Tok} (h : R a b) (hne : a.retries ≠ b.retries) : R b a :=
  ⟨fun hle => h.2 (by omega), fun hlt => h.1 (by omega)⟩

theorem pairwise_swap {α : Type} {r : α → α → Prop} {A X Y B Z : List α} (h : (A ++ (X ++ Y ++ B ++ Z)).Pairwise r)
    (hs : ∀ b ∈ B, ∀ y ∈ Y, r y b → r b y) : (A ++ (X ++ B ++ Y ++ Z)).Pairwise r := by
  have hp : (X ++ B ++ Y).Perm (X ++ Y ++ B) := by
    rw [List.append_assoc, List.append_assoc]; exact List.perm_append_comm.append_left X
  obtain ⟨hA, hin, hc1⟩ := List.pairwise_append.1 h
  obtain ⟨hXYB, hZ, hc2⟩ := List.pairwise_append.1 hin
  obtain ⟨hXY, hB, hc3⟩ := List.pairwise_append.1 hXYB
  obtain ⟨hX, hY, hc4⟩ := List.pairwise_append.1 hXY
  refine List.pairwise_append.2 ⟨hA, List.pairwise_append.2 ⟨List.pairwise_append.2
    ⟨List.pairwise_append.2 ⟨hX, hB, fun a ha b hb => hc3 a (List.mem_append_left _ ha) b hb⟩, hY, fun a ha y hy =>
      (List.mem_append.1 ha).elim (fun ha => hc4 a ha y hy)
        (fun hb => hs a hb y hy (hc3 y (List.mem_append_right _ hy) a hb))⟩,
    hZ, fun a ha z hz => hc2 a (hp.subset ha) z hz⟩, fun a ha b hb => hc1 a ha b ((hp.append_right Z).subset hb)⟩

theorem VInv.moveBlock (h : VInv v) (B X Y Z : List Tok) (hav : v.av = X ++ Y ++ B ++ Z)
    (hB : ∀ b ∈ B, (isData b = true → ∀ y ∈ data Y, y.retries ≠ b.retries) ∧
      (b.kind = .fin → ∀ y ∈ data Y, Cov v.pp.expect b y))
    (hlow : ∀ y ∈ data Y, y.retries ≤ v.pp.hwm) : VStep v { v with av := X ++ B ++ Y ++ Z } := by
  have hp : (X ++ B ++ Y ++ Z).Perm v.av := by
    rw [hav, List.append_assoc X B, List.append_assoc X Y]
    exact (List.perm_append_comm.append_left X).append_right Z
  have hmem : ∀ x, x ∈ X ++ B ++ Y ++ Z → x ∈ v.av := fun _ hx => hp.subset hx
  have hdmem : ∀ x, x ∈ data (X ++ B ++ Y ++ Z) → x ∈ data v.av := fun _ hx => (hp.filter _).subset hx
  have hdn : data (X ++ B ++ Y ++ Z) = data X ++ data B ++ data Y ++ data Z := by simp only [data_append]
  have hdo : data v.av = data X ++ data Y ++ data B ++ data Z := by rw [hav]; simp only [data_append]
  -- the part of the arrival stream above the watermark is the same list: `Y` has no part in it
  have hhi : (data (X ++ B ++ Y ++ Z)).filter (fun x => decide (v.pp.hwm < x.retries)) =
      (data v.av).filter (fun x => decide (v.pp.hwm < x.retries)) := by
    have hY : (data Y).filter (fun x => decide (v.pp.hwm < x.retries)) = [] :=
      List.filter_eq_nil_iff.2 (fun y hy => by rw [decide_eq_true_eq]; exact Nat.not_lt.2 (hlow y hy))
    rw [hdn, hdo]; simp only [List.filter_append, hY, List.append_nil]
  refine ⟨{ ord := fun k => ?_, bufx := h.bufx, low := fun g hg x hx => h.low g hg x (hx.imp_left (hdmem x)),
            ghw := h.ghw, gdesc := h.gdesc, gdata := h.gdata, gbad := h.gbad, hi := hhi ▸ h.hi,
            cap := fun hg x hx => h.cap hg x (hdmem x hx), beh := ?_, fin1 := fun f hf => h.fin1 f (hmem f hf),
            fin2 := ((hp.filter _).map _).nodup_iff.2 h.fin2, nosyn := fun x hx => h.nosyn x (hmem x hx),
            pinv := h.pinv },
    fun _ ha => live_of (fun _ hx => .gw hx) (fun x hx => .av (hdmem x hx)) (fun k _ hx => .buf k hx) ha⟩
  · have h0 := h.ord k
    rw [hdo] at h0
    show (v.gw ++ v.buf k ++ data (X ++ B ++ Y ++ Z)).Pairwise R
    rw [hdn]
    exact pairwise_swap h0 (fun b hb y hy hyb =>
      R_symm_of_ne hyb ((hB b (mem_data.1 hb).1).1 (List.mem_filter.1 hb).2 y hy))
  · have h0 := h.beh
    rw [hav] at h0
    exact pairwise_swap (A := []) h0 (fun b hb y hy _ hk hyd => (hB b hb).2 hk y (mem_data.2 ⟨hy, hyd⟩) hk hyd)

def lane (M : Nat) (s : Sys) (w : Nat) : List Tok := bumpF M (nosynq (s.wk w).inq)

def lanes (M : Nat) (s : Sys) (olds : List Nat) : List Tok := olds.flatMap (lane M s)

/-- the worker `s.cur` names, read as a worker that was selected once: what it holds and accepts (`gw`), what it is
    going to bounce (`tc`), whether it accepts; `none`: the partition producer is bound to no worker.  Narrower than
    `WRep` (Lemmas/C02sysRep.lean), through which `GoodU` reads the worker bound last (`RepU`, Lemmas/C02uRep.lean):
    the channel of a worker that refuses is data only (`WRep.closed` lets syns and chasers stand in it, and there is
    no phase `reopen`), and a syn at the head of the channel finds the worker in its initial state (`bp = {}`;
    `WRep.normal`: holding nothing). -/
inductive CurRep (M : Nat) (s : Sys) : List Tok → List Tok → Bool → Prop
  | none : s.cur = none → CurRep M s [] [] true
  | closed (c : Nat) : s.cur = some c → (s.wk c).bp.closing = true → insW s c = [] → AllData (s.wk c).inq →
      CurRep M s [] (bumpF M (s.wk c).inq) false
  | normal (c : Nat) (mk G : List Tok) : s.cur = some c → (s.wk c).bp.closing = false → (s.wk c).bp.cr 0 = false →
      (s.wk c).inq = mk ++ G → AllData G → (mk = [] ∨ (mk = [synTok] ∧ (s.wk c).bp = {})) →
      CurRep M s (insW s c ++ G) [] true
  | failed (c : Nat) : s.cur = some c → (s.wk c).bp.closing = false → (s.wk c).bp.cr 0 = true → insW s c = [] →
      AllData (s.wk c).inq → CurRep M s [] (bumpF M (s.wk c).inq) false

/-- the view of a state whose bound worker is read by `CurRep`, with the lanes of the old workers -/
def RepC (M : Nat) (s : Sys) (olds : List Nat) (v : View) : Prop :=
  ∃ gw tc g, CurRep M s gw tc g ∧ v = ⟨s.pp, gw, s.pq ++ s.dq ++ s.ret ++ (lanes M s olds ++ tc), g⟩

theorem lanes_cons (M : Nat) (s : Sys) (w : Nat) (r : List Nat) : lanes M s (w :: r) = lane M s w ++ lanes M s r := by
  simp [lanes]

theorem lanes_append (M : Nat) (s : Sys) (a b : List Nat) : lanes M s (a ++ b) = lanes M s a ++ lanes M s b := by
  simp [lanes]

theorem lanes_inq {l : List Nat} (h : ∀ u ∈ l, (s'.wk u).inq = (s.wk u).inq) :
    lanes M s' l = lanes M s l := by
  induction l with
  | nil => rfl
  | cons u r ih =>
    rw [lanes_cons, lanes_cons, ih (fun x hx => h x (List.mem_cons_of_mem _ hx)), lane, lane,
      h u (List.mem_cons_self ..)]

theorem lane_nil {w : Nat} (h : (s.wk w).inq = []) : lane M s w = [] := by
  rw [lane, h]; rfl

theorem repC_parts {M : Nat} {s : Sys} {olds : List Nat} {v : View} (h : RepC M s olds v) :
    ∃ gw tc g, CurRep M s gw tc g ∧ v = ⟨s.pp, gw, s.pq ++ s.dq ++ s.ret ++ (lanes M s olds ++ tc), g⟩ := h

end Lemmas.C02sys
