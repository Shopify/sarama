/-
  C02 composition, progress: the VARIANT `vmu`.  A weight for every token by where it is (the further along the
  pipeline the lighter; one retry costs 32), so that every token-moving choice makes the total strictly smaller
  (`mu_step`, Lemmas/C02termPP.lean).

  A message with `r` retries used at a place of rank `d` weighs `dW M d r = (M - r) * 32 + d`.  The ranks along its
  way: retries 24, p.input 23, pp.input 22 (`qW`, one less per channel); parked in a retry buffer 18 (`bufW`); in a
  worker's input channel 16 (`inW`); inside the worker (`inT`) held in waitForSpace 14, in the buffer 10, in the set
  at the bridge 2 (`bpW` sums them over one worker state, `wW` adds the channel and the bridge, `wsW` sums the
  workers listed); bounced, it is on the retries queue again (`oW`: what a list of actions
  puts there) with one retry more, and 24 - 2 < 32 is what `oW_retry` needs.  The gaps between the ranks pay for what
  a step creates besides moving the token:
    * out of pp.input: an `emit` counts 17 = 16 + 1 for the syn, of weight 1, that a look-up may put in front
      of the token; when the level rises a chaser is sent as well (`finSend`, 4), and 17 + 4 + 1 = 22 is the first
      case of `pp_recv_weight`; 18 + 1 ≤ 22 parks, 17 ≤ 18 lets a flush empty a buffer (`flush_weight`).
    * a chaser weighs 4 in a worker's channel (5 as an `emit`, the syn again), 3 / 2 / 1 in the channels of the way
      back (the last argument of `qW`) and nothing once the partition producer has consumed it; 3 + 1 ≤ 4 is its
      bounce (`oW_bounce`).
    * `bridgeW`: a set at the bridge counts 3 until the broker has prepared the answer, 2 until the answer is
      delivered, so that `broker` and `deliver` descend whatever the set holds.  A hand-over pays these 3 and its own
      step by the held message (14 - 10 = 4), by a token of the buffer (10 - 2 = 8) or, the buffer being empty, by
      the stale `output` it uses up, which therefore weighs 4 (`handover_weight`); the re-check that leaves `output`
      stale bounces the held message, 14 - 2 ≥ 4 (`recheck_weight`).
  `kW`, `nW` (Lemmas/C02termBP.lean) are a worker without its channel and without the set at the bridge; `rowW`, `aW`,
  `asW`, `pqWp` (Lemmas/C02termPP.lean) one level of the retry buffers, an action and a list of actions of the partition
  producer (what they put into the workers' channels), and the head of pp.input as it sees it.
-/
import SaramaVerif.Lemmas.C02liveFrame

namespace Lemmas.C02sys
open Model Model.Pipeline Model.BrokerProd

def dW (M d r : Nat) : Nat := (M - r) * 32 + d

/-- one retry outweighs any difference of ranks -/
theorem dW_succ {M r : Nat} (h : ¬M ≤ r) (d e : Nat) : dW M d r + e = dW M e (r + 1) + 32 + d := by
  unfold dW
  rw [Nat.add_right_comm _ e, Nat.add_right_comm _ e, ← Nat.succ_mul, ← Nat.succ_sub_succ M r,
    Nat.succ_sub (Nat.lt_of_not_le h)]

def qW (M d f : Nat) (t : Tok) : Nat := if t.kind = .fin then f else dW M d t.retries

def lW (g : Tok → Nat) (l : List Tok) : Nat := (l.map g).sum

def inW (M : Nat) (t : Tok) : Nat :=
  match t.kind with
  | .syn => 1
  | .fin => 4
  | .data => dW M 16 t.retries

def inT (M d : Nat) (t : Tok) : Nat := dW M d t.retries

def bridgeW (sets : List (List Tok)) (pend : Option (Pipeline.Verdict × Nat)) : Nat :=
  if sets.isEmpty then 0 else if pend.isNone then 3 else 2

def bpW (M : Nat) (b : St) : Nat :=
  lW (inT M 14) b.wait.toList + lW (inT M 10) b.buffer + lW (inT M 2) b.sets.flatten + (if b.stale then 4 else 0)

def wW (M : Nat) (k : Worker) : Nat := lW (inW M) k.inq + bpW M k.bp + bridgeW k.bp.sets k.pend

def oW (M : Nat) (as : List Action) : Nat := lW (qW M 24 3) (actRet as)

def bufW (M B : Nat) (bufs : Nat → List PartProd.Tok) : Nat :=
  ((List.range B).map (fun k => ((bufs k).map (fun x => dW M 18 x.retries)).sum)).sum

def wsW (M : Nat) (ws : List Nat) (f : Nat → Worker) : Nat := (ws.map (fun w => wW M (f w))).sum

/-- the variant: `B` bounds the retry levels of the partition producer, `ws` lists the workers in use -/
def vmu (M B : Nat) (ws : List Nat) (s : Sys) : Nat :=
  lW (qW M 24 3) s.ret + lW (qW M 23 2) s.dq + lW (qW M 22 1) s.pq + bufW M B s.pp.bufs + wsW M ws s.wk

theorem lW_nil (g : Tok → Nat) : lW g [] = 0 := rfl
theorem lW_cons (g : Tok → Nat) (t : Tok) (l : List Tok) : lW g (t :: l) = g t + lW g l := by simp [lW]
theorem lW_append (g : Tok → Nat) (a b : List Tok) : lW g (a ++ b) = lW g a + lW g b := by
  simp [lW, List.sum_append]
theorem lW_single (g : Tok → Nat) (t : Tok) : lW g [t] = g t := by simp [lW]

theorem wsW_setW (M : Nat) (ws : List Nat) (hnd : ws.Nodup) (f : Nat → Worker) (w : Nat) (v : Worker)
    (h : w ∈ ws) : wsW M ws (setW f w v) + wW M (f w) = wsW M ws f + wW M v := by
  have := sum_map_update (f := fun k => wW M (f k)) (g := fun k => wW M (setW f w v k)) (l := w)
    (fun k hk => by simp only [setW, hk, if_false]) ws hnd
  simpa only [h, if_true, setW, wsW] using this

theorem wW_default (M : Nat) : wW M {} = 0 := by simp [wW, bpW, lW, bridgeW]

theorem wsW_pushW (M : Nat) (ws : List Nat) (hnd : ws.Nodup) (f : Nat → Worker) (w : Nat) (t : Tok) (h : w ∈ ws) :
    wsW M ws (pushW f w t) = wsW M ws f + inW M t := by
  have := wsW_setW M ws hnd f w ⟨(f w).inq ++ [t], (f w).bp, (f w).pend⟩ h
  have e : wW M ⟨(f w).inq ++ [t], (f w).bp, (f w).pend⟩ = wW M (f w) + inW M t := by
    simp only [wW, lW_append, lW_single]; omega
  rw [e] at this
  show wsW M ws (setW f w ⟨(f w).inq ++ [t], (f w).bp, (f w).pend⟩) = _
  omega

end Lemmas.C02sys
