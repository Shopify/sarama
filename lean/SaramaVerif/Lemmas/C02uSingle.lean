/-
  C02 composition, the single worker: `Good` is kept by a step of the single-worker scope (`OneW`).  `Good` is `GoodU`
  without old workers, with worker 0 in the place of `l` and `K = False` (`Good.toU`, `GoodU.good`,
  Lemmas/C02uRep.lean), so its step is an instance of the steps of `GoodU`; a look-up can only name worker 0 again,
  which never hands the partition over.  The step starts from an ARBITRARY `Good` state, so `BaseU` cannot come from
  `Base`: it is kept by the step (`baseU_step0`, from `baseU_step`).
-/
import SaramaVerif.Lemmas.C02uStepD
import SaramaVerif.Lemmas.C02uStepP

namespace Lemmas.C02sys
open Model Model.Pipeline

theorem baseU_step0 {M : Nat} {s s' : Sys} {c : Choice} (hc : OneW c) (hb : BaseU M s [] 0) (hs : sysStep M s c = some s') : BaseU M s' [] 0 :=
  baseU_step hb (fun hf => .inl (by cases hf <;> exact hc)) hs

theorem good_step {M : Nat} (hM : 1 ≤ M) {s s' : Sys} {v : View} (c : Choice) (hc : OneW c) (hg : Good M s v)
    (hs : sysStep M s c = some s') : ∃ v', Good M s' v' := by
  obtain ⟨hu, hb⟩ := hg.toU
  suffices h : ∃ v', GoodU M False s' [] 0 v' from h.elim fun v' h' => ⟨v', h'.good (baseU_step0 hc hb hs)⟩
  cases step_iff.1 hs with
  | submit => exact goodU_submit hb hu
  | retryOut hr => exact ⟨v, goodU_retryOut hu _ _ hr⟩
  | dispatch hd => exact ⟨v, goodU_dispatch hu _ _ hd⟩
  | moveLeader x => exact ⟨v, goodU_moveLeader hu x⟩
  | ppRecv lks hq =>
    obtain ⟨olds', l', v', hg', _, _, h4⟩ := goodU_ppRecv (lks := lks) hb hu
      (fun w hw => .inl ((hc _ hw).elim (fun e => nomatch e) fun e => Option.some.inj e)) hq
    rcases h4 with ⟨rfl, rfl⟩ | ⟨hf, _⟩
    · exact ⟨v', hg'⟩
    · cases hf
  | worker hf =>
    cases hf with
    | recv ov => obtain rfl := hc; exact goodU_bpRecv hb hu (.inl rfl) hs
    | handover => obtain rfl := hc; exact goodU_handover hb hu (.inl rfl) hs
    | deliver still => obtain rfl := hc; exact goodU_deliver hM hb hu (.inl rfl) hs
  | broker => obtain rfl := hc; exact goodU_broker hb hu (.inl rfl) hs
  | closeW => exact hc.elim

end Lemmas.C02sys
