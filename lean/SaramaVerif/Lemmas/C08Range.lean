import SaramaVerif.Model.BalanceRange
import SaramaVerif.Lemmas.C08Assoc
/-
  Arithmetic of the relational range spec and the slice algebra.
-/
namespace Model.Balance

theorem rangeBoundaryB_iff (n m : Nat) (r : Nat → Nat) : rangeBoundaryB n m r = true ↔ RangeBoundary n m r := by
  simp only [rangeBoundaryB, RangeBoundary, Bool.and_eq_true, beq_iff_eq, List.all_eq_true, List.mem_range,
    decide_eq_true_eq, Nat.lt_add_one_iff, and_assoc]

theorem le_of_mul_le_half {m a b : Nat} (hm : 0 < m) (h : 2 * (m * a) ≤ 2 * (m * b) + m) : a ≤ b :=
  Nat.le_of_not_lt fun hlt => by
    have := Nat.mul_le_mul_left m hlt
    rw [Nat.mul_add_one] at this
    omega

/-- when `m` divides `n` the closed half-unit tolerance pins every bound to the exact point -/
theorem RangeBoundary.exact {q m : Nat} {r : Nat → Nat} (hb : RangeBoundary (m * q) m r) {i : Nat} (hi : i ≤ m)
    (hm : 0 < m) : r i = i * q := by
  have h := hb.2.2 i hi
  rw [Nat.mul_left_comm i m q] at h
  exact Nat.le_antisymm (le_of_mul_le_half hm h.1) (le_of_mul_le_half hm h.2)

/-- `m·r(i+1) − m·r(i)` differs from `n` by less than `m`.  The two tolerances give this with `≤`; equality on
    either side would make `n` a multiple of `m`, and then the bounds are exact and the difference is `n` itself. -/
theorem RangeBoundary.step {n m : Nat} {r : Nat → Nat} (hb : RangeBoundary n m r) {i : Nat} (hi : i < m) :
    m * r (i + 1) < m * r i + n + m ∧ m * r i + n < m * r (i + 1) + m := by
  have hm : 0 < m := Nat.zero_lt_of_lt hi
  have ne : m * r (i + 1) ≠ m * r i + n + m ∧ m * r i + n ≠ m * r (i + 1) + m := by
    have key : m ∣ m * r i + n → m * r (i + 1) = m * r i + n := fun h => by
      obtain ⟨q, hq⟩ := (Nat.dvd_add_right (Nat.dvd_mul_right ..)).mp h
      subst hq
      rw [hb.exact hi hm, hb.exact (Nat.le_of_lt hi) hm, Nat.add_one_mul, Nat.mul_add]
    have hB := Nat.dvd_mul_right m (r (i + 1))
    exact ⟨fun e => Nat.ne_of_gt hm (Nat.add_left_cancel
        (e.symm.trans (key ((Nat.dvd_add_left (Nat.dvd_refl m)).mp (e ▸ hB))))),
      fun e => Nat.ne_of_lt hm (Nat.add_left_cancel ((key (e ▸ Nat.dvd_add hB (Nat.dvd_refl m))).trans e))⟩
  have a := hb.2.2 i (Nat.le_of_lt hi)
  have b := hb.2.2 (i + 1) hi
  rw [Nat.add_one_mul i n] at b
  have le : m * r (i + 1) ≤ m * r i + n + m ∧ m * r i + n ≤ m * r (i + 1) + m := by omega
  exact ⟨Nat.lt_of_le_of_ne le.1 ne.1, Nat.lt_of_le_of_ne le.2 ne.2⟩

theorem RangeBoundary.step_le {n m : Nat} {r : Nat → Nat} (hb : RangeBoundary n m r) {i : Nat} (hi : i < m) :
    r i ≤ r (i + 1) :=
  Nat.le_of_lt_succ (Nat.lt_of_mul_lt_mul_left (a := m)
    (Nat.lt_of_le_of_lt (Nat.le_add_right _ n) (hb.step hi).2))

theorem RangeBoundary.mono {n m : Nat} {r : Nat → Nat} (hb : RangeBoundary n m r) {i j : Nat} (hij : i ≤ j)
    (hj : j ≤ m) : r i ≤ r j := by
  induction hij with
  | refl => exact Nat.le_refl _
  | step _ ih => exact Nat.le_trans (ih (Nat.le_of_succ_le hj)) (hb.step_le hj)

theorem RangeBoundary.le_n {n m : Nat} {r : Nat → Nat} (hb : RangeBoundary n m r) {i : Nat} (hi : i ≤ m) :
    r i ≤ n :=
  hb.2.1 ▸ hb.mono hi (Nat.le_refl m)

/-- size of a slice is within less than one member-share of n/m: |n − d·m| < m  (⇔ d = ⌊n/m⌋ or ⌈n/m⌉) -/
theorem RangeBoundary.size_bounds {n m : Nat} {r : Nat → Nat} (hb : RangeBoundary n m r) {i : Nat} (hi : i < m) :
    (r (i + 1) - r i) * m < n + m ∧ n < (r (i + 1) - r i) * m + m := by
  have ⟨h1, h2⟩ := hb.step hi
  -- with `r (i + 1) = r i + d` the claim is linear in `m * r i` and `m * d`
  obtain ⟨d, hd⟩ := Nat.exists_eq_add_of_le (hb.step_le hi)
  rw [hd, Nat.mul_add] at h1 h2
  rw [hd, Nat.add_sub_cancel_left, Nat.mul_comm]
  omega

theorem RangeBoundary.size_diff {n m : Nat} {r : Nat → Nat} (hb : RangeBoundary n m r) {i j : Nat} (hi : i < m)
    (hj : j < m) : r (i + 1) - r i ≤ r (j + 1) - r j + 1 := by
  have h : (r (i + 1) - r i) * m < (r (j + 1) - r j + 2) * m := by
    rw [Nat.add_mul, Nat.two_mul, ← Nat.add_assoc]
    exact Nat.lt_trans (hb.size_bounds hi).1 (Nat.add_lt_add_right (hb.size_bounds hj).2 m)
  exact Nat.le_of_lt_succ (Nat.lt_of_mul_lt_mul_right h)

theorem take_append_slice {r : Nat → Nat} (ps : List Int) {i : Nat} (h : r i ≤ r (i + 1)) :
    ps.take (r i) ++ slice r ps i = ps.take (r (i + 1)) := by
  rw [slice, ← List.take_add, Nat.add_sub_cancel' h]

theorem mem_slice {r : Nat → Nat} {ps : List Int} {i : Nat} {p : Int} (h : p ∈ slice r ps i) : p ∈ ps :=
  List.mem_of_mem_drop (List.mem_of_mem_take h)

theorem rangeCoreFrom_induct {Inv : Plan → Prop} (r : Nat → Nat) (t : Topic) (ps : List Int) (ms : List Member)
    (step : ∀ m, m ∈ ms → ∀ j plan, Inv plan → Inv (plan.add m t (slice r ps j))) (i : Nat) (plan : Plan)
    (h : Inv plan) : Inv (rangeCoreFrom r t ps i ms plan) := by
  induction ms generalizing i plan with
  | nil => exact h
  | cons m ms ih =>
    exact ih (fun m' hm' => step m' (List.mem_cons_of_mem _ hm')) _ _ (step m List.mem_cons_self i plan h)

theorem rangePlan_induct {Inv : Plan → Prop} (r : Topic → Nat → Nat) (ts : Topics) (mbt : AL Member)
    (step : ∀ e, e ∈ mbt → ∀ m, m ∈ e.2 → ∀ j plan, Inv plan →
      Inv (plan.add m e.1 (slice (r e.1) (partsOf ts e.1) j))) (plan : Plan) (h : Inv plan) :
    Inv (rangePlan r ts mbt plan) := by
  induction mbt generalizing plan with
  | nil => exact h
  | cons e rest ih =>
    exact ih (fun e he => step e (List.mem_cons_of_mem _ he)) _
      (rangeCoreFrom_induct (r e.1) e.1 _ e.2 (step e List.mem_cons_self) 0 plan h)

/-- what the `coreFn` loop adds to the plan, counted per topic partition: the slices i … i+|ms| glued together,
    written as the difference of two prefixes of the partition list -/
theorem countAll_rangeCoreFrom (r : Nat → Nat) (t : Topic) (ps : List Int) (x : TP) (ms : List Member) (i : Nat)
    (plan : Plan) (hr : ∀ j, j < i + ms.length → r j ≤ r (j + 1)) :
    AL.countAll (rangeCoreFrom r t ps i ms plan) x + ((ps.take (r i)).map (fun q => ((t, q) : TP))).count x =
      AL.countAll plan x + ((ps.take (r (i + ms.length))).map (fun q => ((t, q) : TP))).count x := by
  induction ms generalizing i plan with
  | nil => rfl
  | cons m ms ih =>
    have ih := ih (i + 1) (plan.add m t (slice r ps i)) (fun j hj => hr j (Nat.add_right_comm i 1 _ ▸ hj))
    rw [← take_append_slice ps (hr i (Nat.lt_add_of_pos_right (Nat.succ_pos _))), List.map_append,
      List.count_append, countAll_add, Nat.add_right_comm i 1] at ih
    exact Nat.add_right_cancel ((Nat.add_assoc ..).trans (ih.trans (Nat.add_right_comm ..)))

theorem countAll_rangeCore {n : Nat} (r : Nat → Nat) (plan : Plan) (ms : List Member) (t : Topic) (ps : List Int)
    (hn : ps.length = n) (hb : RangeBoundary n ms.length r) (t' : Topic) (p : Int) :
    AL.countAll (rangeCore r plan ms t ps) (t', p) =
      AL.countAll plan (t', p) + (if t' = t then ps.count p else 0) := by
  have := countAll_rangeCoreFrom r t ps (t', p) ms 0 plan (fun j hj => hb.step_le (Nat.zero_add ms.length ▸ hj))
  rw [Nat.zero_add, hb.1, hb.2.1, ← hn, List.take_length, count_map_pair t t' p ps] at this
  exact this

theorem countAll_rangePlan (r : Topic → Nat → Nat) (ts : Topics) (t' : Topic) (p : Int) :
    ∀ (mbt : AL Member) (plan : Plan), (AL.keys mbt).Nodup →
      (∀ e, e ∈ mbt → RangeBoundary (partsOf ts e.1).length e.2.length (r e.1)) →
      AL.countAll (rangePlan r ts mbt plan) (t', p) =
        AL.countAll plan (t', p) + (if t' ∈ AL.keys mbt then (partsOf ts t').count p else 0) := by
  intro mbt
  induction mbt with
  | nil => exact fun _ _ _ => rfl
  | cons e rest ih =>
    intro plan hnd hr
    obtain ⟨t, ms⟩ := e
    have ⟨(hn : t ∉ AL.keys rest), hnd'⟩ := List.nodup_cons.mp hnd
    refine (ih _ hnd' fun e he => hr e (List.mem_cons_of_mem _ he)).trans ?_
    rw [countAll_rangeCore (r t) plan ms t (partsOf ts t) rfl (hr (t, ms) List.mem_cons_self), Nat.add_assoc]
    refine congrArg _ ?_
    by_cases h : t' = t
    · subst h
      rw [if_pos rfl, if_neg hn, if_pos (c := t' ∈ AL.keys ((t', ms) :: rest)) List.mem_cons_self]
      rfl
    · rw [if_neg h, Nat.zero_add]
      exact ite_congr (propext (List.mem_cons.trans (or_iff_right h)).symm) (fun _ => rfl) (fun _ => rfl)

theorem planAll_rangePlan {P : Member → TP → Prop} (r : Topic → Nat → Nat) (ts : Topics) :
    ∀ (mbt : AL Member) (plan : Plan), PlanAll P plan →
      (∀ e, e ∈ mbt → ∀ m, m ∈ e.2 → ∀ p, p ∈ partsOf ts e.1 → P m (e.1, p)) →
      PlanAll P (rangePlan r ts mbt plan) :=
  fun mbt plan h hp => rangePlan_induct (Inv := PlanAll P) r ts mbt
    (fun e he m hm _ _ h => planAll_add h m e.1 _ fun p hp' => hp e he m hm p (mem_slice hp')) plan h

theorem planKeys_rangePlan {Q : Member → Prop} (r : Topic → Nat → Nat) (ts : Topics) :
    ∀ (mbt : AL Member) (plan : Plan), PlanKeys Q plan → (∀ e, e ∈ mbt → ∀ m, m ∈ e.2 → Q m) →
      PlanKeys Q (rangePlan r ts mbt plan) :=
  fun mbt plan h hq => rangePlan_induct (Inv := PlanKeys Q) r ts mbt
    (fun e he m hm _ _ h => planKeys_add h m e.1 _ (hq e he m hm)) plan h

end Model.Balance
