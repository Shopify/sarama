/-
  C02 composition, progress: what a step of the system leaves in place.  `plain_step` is the shared frame of the
  choices that run no component (`plain`: a submission, a token passed along a channel of the way back, the broker
  preparing an answer, a leader move, the closing of a worker; every other constructor of `Step` is the partition
  producer's or runs a worker); a chaser that a worker bounces comes back one level up (`bpRecv_fin`).
-/
import SaramaVerif.Lemmas.C02sysBP

namespace Lemmas.C02sys
open Model Model.Pipeline Model.BrokerProd
open Props.C02bp (RecvCase recv_case)

theorem bpRecv_fin {M : Nat} {b : St} {t : Tok} {ov : Bool} (hk : t.kind = .fin) (hm : t.retries < M)
    (hd : (step M b (.recv t ov)).2 ≠ [.disabled]) :
    ∃ f ∈ actRet (step M b (.recv t ov)).2, f.kind = .fin ∧ f.retries = t.retries + 1 := by
  obtain ⟨r, a, hr, c⟩ : ∃ r a, step M b (.recv t ov) = r ∧ RecvCase M b t ov r a := ⟨_, _, rfl, recv_case ..⟩
  rw [hr] at hd ⊢
  have bounced : ∃ f ∈ actRet [.refuse t.id, retryMsg M t], f.kind = .fin ∧ f.retries = t.retries + 1 :=
    ⟨⟨t.id, t.part, t.retries + 1, .fin⟩, by simp [retryMsg, Nat.not_le.2 hm, Tok.isFin, hk, actRet], rfl, rfl⟩
  cases c with
  | busy => exact absurd rfl hd
  | bounce | reopen => exact bounced
  | syn _ h | hold _ h | add _ h => rw [hk] at h; cases h

def plain : Choice → Bool
  | .ppRecv _ | .bpRecv _ _ | .handover _ | .deliver _ _ => false
  | _ => true

theorem plain_step {M : Nat} {s s' : Sys} {c : Choice} (hc : plain c = true) (h : Step M s c s') :
    s'.pp = s.pp ∧ s'.succ = s.succ ∧ s'.errs = s.errs ∧
    (∀ k, (s'.wk k).inq = (s.wk k).inq ∧ insideB (s'.wk k).bp = insideB (s.wk k).bp) ∧
    (∀ x ∈ s.pq ++ s.dq ++ s.ret, x ∈ s'.pq ++ s'.dq ++ s'.ret) := by
  have setw : ∀ (w : Nat) (v : Worker), v.inq = (s.wk w).inq → insideB v.bp = insideB (s.wk w).bp →
      ∀ k, (setW s.wk w v k).inq = (s.wk k).inq ∧ insideB (setW s.wk w v k).bp = insideB (s.wk k).bp :=
    fun w v h1 h2 => forall_setW (P := fun k x => x.inq = (s.wk k).inq ∧ insideB x.bp = insideB (s.wk k).bp) ⟨h1, h2⟩
      (fun _ _ => ⟨rfl, rfl⟩)
  -- all of them but `submit` leave the concatenation of the three channels as it is
  have same : ∀ {s' : Sys}, s'.pq ++ s'.dq ++ s'.ret = s.pq ++ s.dq ++ s.ret →
      ∀ x ∈ s.pq ++ s.dq ++ s.ret, x ∈ s'.pq ++ s'.dq ++ s'.ret := fun e => e ▸ fun _ => id
  cases h with
  | ppRecv => cases hc
  | worker hf => cases hf <;> cases hc
  | submit =>
    exact ⟨rfl, rfl, rfl, fun _ => ⟨rfl, rfl⟩, fun x hx =>
      (((List.Sublist.refl s.pq).append (List.sublist_append_left s.dq _)).append (.refl s.ret)).subset hx⟩
  | retryOut hr => exact ⟨rfl, rfl, rfl, fun _ => ⟨rfl, rfl⟩, same (by simp [hr])⟩
  | dispatch hr => exact ⟨rfl, rfl, rfl, fun _ => ⟨rfl, rfl⟩, same (by simp [hr])⟩
  | @broker w => exact ⟨rfl, rfl, rfl, setw w _ rfl rfl, same rfl⟩
  | moveLeader => exact ⟨rfl, rfl, rfl, fun _ => ⟨rfl, rfl⟩, same rfl⟩
  | @closeW w => exact ⟨rfl, rfl, rfl, setw w _ rfl rfl, same rfl⟩

end Lemmas.C02sys
