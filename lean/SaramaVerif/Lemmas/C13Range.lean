import SaramaVerif.Lemmas.C08Range
/-
  What each member holds after the range plan: exactly its slice.
-/
namespace Model.Balance

theorem heldOf_add_other {plan : Plan} {m m' : Member} {t t' : Topic} (ps : List Int) (h : m' = m → t' ≠ t) :
    heldOf (plan.add m' t' ps) m t = heldOf plan m t := by
  rw [heldOf_add, if_neg fun hc => h hc.1 hc.2, List.append_nil]

theorem heldOf_rangeCoreFrom_other (r : Nat → Nat) (t t' : Topic) (ps : List Int) (m : Member) (ms : List Member)
    (h : t' = t → m ∉ ms) (i : Nat) (plan : Plan) :
    heldOf (rangeCoreFrom r t' ps i ms plan) m t = heldOf plan m t :=
  rangeCoreFrom_induct (Inv := fun p => heldOf p m t = heldOf plan m t) r t' ps ms
    (fun _ hm' _ _ hp => Eq.trans (heldOf_add_other _ fun hm ht => h ht (hm ▸ hm')) hp) i plan rfl

theorem heldOf_rangeCoreFrom_mem (r : Nat → Nat) (t : Topic) (ps : List Int) (m : Member) :
    ∀ (ms : List Member) (i k : Nat) (plan : Plan), ms.Nodup → ms[k]? = some m →
      heldOf (rangeCoreFrom r t ps i ms plan) m t = heldOf plan m t ++ slice r ps (i + k) := by
  intro ms
  induction ms with
  | nil => exact fun _ _ _ _ hk => nomatch hk
  | cons m' ms ih =>
    intro i k plan hnd hk
    have ⟨hn, hnd⟩ := List.nodup_cons.mp hnd
    cases k with
    | zero =>
      cases hk
      refine (heldOf_rangeCoreFrom_other r t t ps m ms (fun _ => hn) (i + 1) _).trans ?_
      rw [heldOf_add, if_pos ⟨rfl, rfl⟩]
      rfl
    | succ k =>
      refine (ih (i + 1) k _ hnd hk).trans ?_
      rw [Nat.add_right_comm]
      exact congrArg (· ++ _) (heldOf_add_other _ fun hm _ => hn (hm ▸ List.mem_of_getElem? hk))

theorem heldOf_rangePlan (r : Topic → Nat → Nat) (ts : Topics) (t : Topic) (m : Member) (ms : List Member) (k : Nat)
    (hms : ms.Nodup) (hk : ms[k]? = some m) :
    ∀ (mbt : AL Member) (plan : Plan), (AL.keys mbt).Nodup → (t, ms) ∈ mbt →
      heldOf (rangePlan r ts mbt plan) m t = heldOf plan m t ++ slice (r t) (partsOf ts t) k := by
  intro mbt
  induction mbt with
  | nil => exact fun _ _ h => nomatch h
  | cons e rest ih =>
    intro plan hnd hmem
    have ⟨(hn : e.1 ∉ AL.keys rest), hnd⟩ := List.nodup_cons.mp hnd
    rcases List.mem_cons.mp hmem with rfl | hmem
    · -- the remaining entries are about other topics
      refine (rangePlan_induct (Inv := fun p => heldOf p m t = heldOf _ m t) r ts rest
        (fun _ he _ _ _ _ hp => Eq.trans (heldOf_add_other _ fun _ ht => hn (List.mem_map.mpr ⟨_, he, ht⟩)) hp)
        _ rfl).trans ?_
      exact (heldOf_rangeCoreFrom_mem (r t) t _ m ms 0 k plan hms hk).trans (by rw [Nat.zero_add])
    · refine (ih _ hnd hmem).trans (congrArg (· ++ _) ?_)
      exact heldOf_rangeCoreFrom_other (r e.1) t e.1 _ m e.2
        (fun he => absurd (List.mem_map_of_mem (f := (·.1)) hmem) (he ▸ hn)) 0 plan

theorem slice_length {n m : Nat} {r : Nat → Nat} (hb : RangeBoundary n m r) {ps : List Int} (hn : ps.length = n)
    {i : Nat} (hi : i < m) : (slice r ps i).length = r (i + 1) - r i := by
  rw [slice, List.length_take, List.length_drop, hn]
  exact Nat.min_eq_left (Nat.sub_le_sub_right (hb.le_n hi) _)

theorem slice_isRun {n m : Nat} {r : Nat → Nat} (hb : RangeBoundary n m r) {ps : List Int} (hn : ps.length = n)
    {i : Nat} (hi : i < m) : isRun ps (slice r ps i) = true := by
  rw [isRun, List.any_eq_true, slice_length hb hn hi, hn]
  refine ⟨r i, List.mem_range.mpr (Nat.lt_sub_of_add_lt ?_), beq_self_eq_true _⟩
  rw [Nat.add_sub_cancel' (hb.step_le hi)]
  exact Nat.lt_succ_of_le (hb.le_n hi)

end Model.Balance
