import SaramaVerif.Lemmas.C03Core
/-
  From the loop of parseResponse to the segment walk, and the single-response theorem over a log with
  keep-annotated units (shared by C03 and C11: `Lemmas/C03Hist` takes for the annotation the ground truth of the
  isolation level, `annot` of Model/Txn.lean).
  Two chains of segments are in play: one segment per log unit (a legacy block, a batch: `annSegs`), on which the
  ground truth is stated, and one per RecordsSet entry (`entrySegs`), which is what the loop of parseResponse walks;
  `unit_to_entry` passes from the first to the second by merging the blocks of a legacy set (`SegsWF.merge`).
-/
namespace Lemmas.C03
open Model.ConsumerParse

/-- the keep decision parseResponse takes for each entry (legacy sets are always delivered; a control batch
    never; a batch of a producer currently in the aborted set not under read-committed) -/
def keeps (cfg : Cfg) : List Entry → List (Int × Int) → List Int → List Bool
  | [], _, _ => []
  | .legacy _ :: es, rem, abs => true :: keeps cfg es rem abs
  | .batch b :: es, rem, abs =>
      (!b.control && !(decide (cfg.readCommitted ∧ b.txn ∧ b.pid ∈ (consumeAborted (batchLast b) rem abs).2))) ::
        keeps cfg es (consumeAborted (batchLast b) rem abs).1
          (if b.control then absAfter b (consumeAborted (batchLast b) rem abs).2
           else (consumeAborted (batchLast b) rem abs).2)

def entryRecs (tsw : Bool) : Entry → List SRec
  | .legacy blks => blks.flatMap (blockRecs tsw)
  | .batch b => batchRecs b

/-- an empty legacy set gets 0, a value nothing reads: the lemmas about `entryHi` have `blks ≠ []` -/
def entryHi : Entry → Int
  | .legacy blks => (blks.getLast?.map (·.off)).getD 0
  | .batch b => batchLast b

def entryKeep : Entry → Bool → Bool
  | .legacy _, _ => true
  | .batch _, k => k

def entrySegs (tsw : Bool) : List Entry → List Bool → List Seg
  | e :: es, k :: ks => ⟨entryRecs tsw e, entryHi e, entryKeep e k⟩ :: entrySegs tsw es ks
  | _, _ => []

theorem keeps_length (cfg : Cfg) (es : List Entry) : ∀ rem abs, (keeps cfg es rem abs).length = es.length := by
  induction es with
  | nil => exact fun _ _ => rfl
  | cons e es ih => exact fun rem abs => by cases e <;> exact congrArg (· + 1) (ih _ _)

theorem parse_eq_walk (cfg : Cfg) (es : List Entry) : ∀ (o : Int) (rem : List (Int × Int)) (abs : List Int),
    (∀ e ∈ es, entryBadCtl e = false) →
    parseEntries cfg es o rem abs =
      ((segWalk o (entrySegs cfg.tsFromWrapper es (keeps cfg es rem abs))).1,
       (segWalk o (entrySegs cfg.tsFromWrapper es (keeps cfg es rem abs))).2, Verdict.ok) := by
  induction es with
  | nil => exact fun _ _ _ _ => rfl
  | cons e es ih =>
    intro o rem abs hb
    have ih := fun o' rem' abs' => ih o' rem' abs' fun e he => hb e (List.mem_cons_of_mem _ he)
    cases e with
    | legacy blks =>
      rw [parseEntries, ih]
      rfl
    | batch b =>
      have hbad : (b.control && Ctl.bad b) = false := hb (.batch b) List.mem_cons_self
      rw [parseEntries, batchStep, keeps]
      by_cases hc : b.control = true
      · have hnb : Ctl.bad b = false := by rw [hc] at hbad; exact hbad
        rw [if_pos hc, if_pos hc, hnb, if_neg Bool.false_ne_true, ih, hc]
        rfl
      · rw [if_neg hc, if_neg hc, Bool.eq_false_iff.2 hc]
        by_cases ha : cfg.readCommitted = true ∧ b.txn = true ∧ b.pid ∈ (consumeAborted (batchLast b) rem abs).2
        · rw [if_pos ha, ih, decide_eq_true ha]
          rfl
        · rw [if_neg ha, ih, decide_eq_false ha]
          rfl

theorem prepend_snd (pre : List SRec) (r : PResult) : (prepend pre r).2 = r.2 := by
  unfold prepend
  split <;> rfl

theorem parseEntries_snd (cfg : Cfg) (rc : Bool) (es : List Entry) :
    ∀ (o : Int) (rem rem' : List (Int × Int)) (abs abs' : List Int),
      (parseEntries { cfg with readCommitted := rc } es o rem abs).2 = (parseEntries cfg es o rem' abs').2 := by
  induction es with
  | nil => exact fun _ _ _ _ _ => rfl
  | cons e es ih =>
    intro o rem rem' abs abs'
    cases e with
    | legacy blks =>
      rw [parseEntries, parseEntries, prepend_snd, prepend_snd]
      exact ih ..
    | batch b =>
      -- whether the batch is handed over or not, the rest of the loop starts behind it
      have hdata : ∀ (c : Prop) [Decidable c] (x : PResult), (if c then x else prepend (parseRecords b o).1 x).2 = x.2 :=
        fun c _ x => by
          split
          · rfl
          · exact prepend_snd ..
      rw [parseEntries, parseEntries, batchStep, batchStep]
      by_cases hc : b.control = true
      · rw [if_pos hc, if_pos hc]
        by_cases hb : Ctl.bad b = true
        · rw [if_pos hb, if_pos hb]
        · rw [if_neg hb, if_neg hb]; exact ih ..
      · rw [if_neg hc, if_neg hc, hdata, hdata]; exact ih ..

theorem parseBlock_snd (cfg : Cfg) (rc : Bool) (st : PState) (es : List Entry) (pt : Bool) (ab ab' : List (Int × Int)) :
    (parseBlock { cfg with readCommitted := rc } st (.data es pt ab)).2 = (parseBlock cfg st (.data es pt ab')).2 := by
  by_cases hn : nRecs es = 0
  · rw [parseBlock, parseBlock, if_pos hn, if_pos hn]
  · rw [parseBlock, parseBlock, if_neg hn, if_neg hn]
    exact congrArg (fun r : Int × Verdict => ((⟨r.1, cfg.fetchDefault⟩ : PState), r.2)) (parseEntries_snd ..)

def unitSeg (tsw : Bool) (p : LUnit × Bool) : Seg := ⟨unitRecs tsw p.1, unitHi p.1, p.2⟩

def annUnits : List Entry → List Bool → List (LUnit × Bool)
  | .legacy blks :: es, _ :: ks => blks.map (fun b => (LUnit.blk b, true)) ++ annUnits es ks
  | .batch b :: es, k :: ks => (LUnit.bat b, k) :: annUnits es ks
  | _, _ => []

def annSegs (tsw : Bool) (al : List (LUnit × Bool)) : List Seg := al.map (unitSeg tsw)

theorem annSegs_append (tsw : Bool) (a b : List (LUnit × Bool)) :
    annSegs tsw (a ++ b) = annSegs tsw a ++ annSegs tsw b :=
  List.map_append

theorem segsWF_ann (tsw : Bool) (AL : List (LUnit × Bool)) : ∀ (b : Int), LogWF tsw b (AL.map Prod.fst) →
    SegsWF b (annSegs tsw AL) := by
  induction AL with
  | nil => exact fun _ _ => trivial
  | cons _ _ ih => exact fun _ ⟨h1, h2, h3, h4⟩ => ⟨h1, h2, h3, ih _ h4⟩

def blkSegs (tsw : Bool) (blks : List LBlock) : List Seg := blks.map fun x => unitSeg tsw (LUnit.blk x, true)

theorem annSegs_blks (tsw : Bool) (blks : List LBlock) :
    annSegs tsw (blks.map fun x => (LUnit.blk x, true)) = blkSegs tsw blks :=
  List.map_map

theorem segVis_blks (tsw : Bool) (blks : List LBlock) (rest : List Seg) :
    segVis (blkSegs tsw blks ++ rest) = blks.flatMap (blockRecs tsw) ++ segVis rest := by
  rw [segVis_append]
  exact congrArg (· ++ _) (List.flatMap_map ..)

theorem lastHi_blks (tsw : Bool) : ∀ (blks : List LBlock) (b : Int), blks ≠ [] →
    lastHi b (blkSegs tsw blks) = (blks.getLast?.map (·.off)).getD 0
  | [x], _, _ => rfl
  | x :: y :: ys, _, _ => (lastHi_blks tsw (y :: ys) x.off (List.cons_ne_nil _ _)).trans
      (by rw [List.getLast?_cons_cons])

theorem SegsWF.merge (k : Bool) (ss rest : List Seg) : ∀ (b : Int), ss ≠ [] → SegsWF b (ss ++ rest) →
    SegsWF b (⟨segAll ss, lastHi b ss, k⟩ :: rest) := by
  induction ss with
  | nil => exact fun _ h => absurd rfl h
  | cons x xs ih =>
    intro b _ ⟨h1, h2, h3, h4⟩
    cases xs with
    | nil =>
      have e : segAll [x] = x.recs := List.append_nil _
      rw [e]
      exact ⟨h1, h2, h3, h4⟩
    | cons y ys =>
      have ⟨i1, i2, i3, i4⟩ := ih x.hi (List.cons_ne_nil _ _) h4
      refine ⟨Asc.append h1 h2 (Int.le_of_lt h3) i1, fun r hr => ?_, Int.lt_trans h3 i3, i4⟩
      rcases List.mem_append.1 hr with hr | hr
      · exact Int.le_trans (h2 r hr) (Int.le_of_lt i3)
      · exact i2 r hr

theorem unit_to_entry (tsw : Bool) (rest : List Seg) (es : List Entry) : ∀ (ks : List Bool) (b : Int),
    (∀ blks, Entry.legacy blks ∈ es → blks ≠ []) →
    SegsWF b (annSegs tsw (annUnits es ks) ++ rest) →
    SegsWF b (entrySegs tsw es ks ++ rest) ∧
    segVis (annSegs tsw (annUnits es ks) ++ rest) = segVis (entrySegs tsw es ks ++ rest) ∧
    ∀ o, (∀ p, (annUnits es ks).head? = some p → o ≤ unitHi p.1) →
      ∀ s, (entrySegs tsw es ks).head? = some s → o ≤ s.hi := by
  induction es with
  | nil => exact fun _ _ _ h => ⟨h, rfl, fun _ _ _ h => nomatch h⟩
  | cons e es ih =>
    intro ks b hne h
    have hne' : ∀ blks, Entry.legacy blks ∈ es → blks ≠ [] := fun bl hbl => hne bl (List.mem_cons_of_mem _ hbl)
    cases ks with
    | nil => cases e <;> exact ⟨h, rfl, fun _ _ _ h => nomatch h⟩
    | cons k ks =>
      cases e with
      | legacy blks =>
        have hb : blks ≠ [] := hne blks List.mem_cons_self
        have e1 : annSegs tsw (annUnits (.legacy blks :: es) (k :: ks)) ++ rest =
            blkSegs tsw blks ++ (annSegs tsw (annUnits es ks) ++ rest) := by
          rw [← List.append_assoc, ← annSegs_blks, ← annSegs_append]; rfl
        rw [e1] at h ⊢
        have ⟨i1, i2, _⟩ := ih ks _ hne' h.append_right
        have hrep := h.replace_tail i1
        have m1 := SegsWF.merge true (blkSegs tsw blks) _ b (fun e => hb (List.map_eq_nil_iff.1 e)) hrep
        rw [lastHi_blks tsw blks b hb] at m1
        have ea : segAll (blkSegs tsw blks) = blks.flatMap (blockRecs tsw) := List.flatMap_map ..
        rw [ea] at m1
        refine ⟨m1, by rw [segVis_blks, i2]; rfl, fun o ho s hs => ?_⟩
        cases Option.some.inj hs
        obtain ⟨x, xs, rfl⟩ := List.exists_cons_of_ne_nil hb
        have := (SegsWF.le_lastHi hrep.append_left).2 _ (List.mem_cons_self (a := unitSeg tsw (LUnit.blk x, true)))
        rw [lastHi_blks tsw (x :: xs) b hb] at this
        exact Int.le_trans (ho (LUnit.blk x, true) rfl) this
      | batch bt =>
        obtain ⟨h1, h2, h3, h4⟩ := h
        have ⟨i1, i2, _⟩ := ih ks _ hne' h4
        refine ⟨⟨h1, h2, h3, i1⟩, ?_, fun o ho s hs => Option.some.inj hs ▸ ho (LUnit.bat bt, k) rfl⟩
        exact congrArg ((if k then batchRecs bt else []) ++ ·) i2

theorem entrySegs_ne_nil (tsw : Bool) : ∀ {es : List Entry} {ks : List Bool}, ks.length = es.length → es ≠ [] →
    entrySegs tsw es ks ≠ []
  | _ :: _, _ :: _, _, _ => nofun

theorem entrySegs_mem (tsw : Bool) : ∀ {es : List Entry} {ks : List Bool}, ks.length = es.length → ∀ e ∈ es,
    ∃ s ∈ entrySegs tsw es ks, s.recs = entryRecs tsw e
  | [], _, _, _, h => nomatch h
  | _ :: _, [], hl, _, _ => nomatch hl
  | e0 :: es, k :: ks, hl, e, he => by
      rcases List.mem_cons.1 he with rfl | he
      · exact ⟨_, List.mem_cons_self, rfl⟩
      · obtain ⟨s, hs, hr⟩ := entrySegs_mem tsw (es := es) (ks := ks) (Nat.succ.inj hl) e he
        exact ⟨s, List.mem_cons_of_mem _ hs, hr⟩

theorem annUnits_fst {es : List Entry} : ∀ {ks : List Bool}, ks.length = es.length →
    (annUnits es ks).map Prod.fst = es.flatMap entryUnits := by
  induction es with
  | nil => exact fun _ => rfl
  | cons e es ih =>
    intro ks h
    cases ks with
    | nil => cases h
    | cons k ks =>
      have ih := ih (Nat.succ.inj h)
      cases e with
      | legacy blks => rw [annUnits, List.map_append, List.map_map, ih]; rfl
      | batch b => exact congrArg (LUnit.bat b :: ·) ih

/-- One response over a log with keep-annotated units: the log is `pre ++ run ++ post`, the run is the content of
    the entries `es`, kept by `ks`.  The walk hands over exactly the kept records of the LOG with `o ≤ offset < next`. -/
theorem resp_core (tsw : Bool) (es : List Entry) (ks : List Bool) (pre post : List (LUnit × Bool)) (b0 o : Int)
    (hlen : ks.length = es.length)
    (hwf : SegsWF b0 (annSegs tsw (pre ++ annUnits es ks ++ post)))
    (hpre : ∀ p ∈ pre, unitHi p.1 < o)
    (hhead : ∀ p, (annUnits es ks).head? = some p → o ≤ unitHi p.1)
    (hne : ∀ blks, Entry.legacy blks ∈ es → blks ≠ [])
    (hes : es ≠ []) :
    (segWalk o (entrySegs tsw es ks)).1 =
      window o (segWalk o (entrySegs tsw es ks)).2 (segVis (annSegs tsw (pre ++ annUnits es ks ++ post))) ∧
    o < (segWalk o (entrySegs tsw es ks)).2 ∧
    (∀ s ∈ entrySegs tsw es ks, ∀ r ∈ s.recs, r.off < (segWalk o (entrySegs tsw es ks)).2) := by
  rw [List.append_assoc, annSegs_append, annSegs_append] at hwf ⊢
  have ⟨e1, e2, hhd⟩ := unit_to_entry tsw (annSegs tsw post) es ks _ hne hwf.append_right
  have hnn := entrySegs_ne_nil tsw hlen hes
  have ⟨w1, w2, _, w3, w4⟩ := walk_spec e1.append_left (hhd o hhead)
  refine ⟨?_, w2 hnn, w4⟩
  rw [segVis_append, e2, segVis_append, window_append, window_append, w1]
  -- the log before the run lies below the asked offset, the log after it beyond the new offset
  have hp : window o (segWalk o (entrySegs tsw es ks)).2 (segVis (annSegs tsw pre)) = [] := by
    refine window_nil fun r hr => .inl ?_
    obtain ⟨s, hs, hrs⟩ := segVis_mem hr
    have hle := (hwf.append_left.mem hs).2 r hrs
    obtain ⟨p, hp, rfl⟩ := List.mem_map.1 hs
    exact Int.lt_of_le_of_lt hle.2 (hpre p hp)
  have hq : window o (segWalk o (entrySegs tsw es ks)).2 (segVis (annSegs tsw post)) = [] := by
    refine window_nil fun r hr => .inr ?_
    obtain ⟨s, hs, hrs⟩ := segVis_mem hr
    have := ((e1.append_right.mem hs).2 r hrs).1
    obtain ⟨s0, rest0, hE⟩ := List.exists_cons_of_ne_nil hnn
    have h0 : o ≤ s0.hi := hhd o hhead s0 (by rw [hE]; rfl)
    have hl := (SegsWF.le_lastHi e1.append_left).2 s0 (by rw [hE]; exact List.mem_cons_self)
    exact Int.le_trans w3 (Int.max_le.mpr ⟨Int.le_trans (Int.le_trans h0 hl) (Int.le_of_lt this),
      Int.add_one_le_of_lt this⟩)
  rw [hp, hq, List.nil_append, List.append_nil]

theorem resp_parseBlock (cfg : Cfg) (st : PState) (es es' : List Entry) (pt : Bool) (ab : List (Int × Int))
    (ks : List Bool) (pre post : List (LUnit × Bool)) (b0 : Int)
    (hn : nRecs es ≠ 0) (hd : decodeView es = es') (hes : es' ≠ [])
    (hbad : ∀ e ∈ es', entryBadCtl e = false) (hk : keeps cfg es' (sortAborted ab) [] = ks)
    (hwf : SegsWF b0 (annSegs cfg.tsFromWrapper (pre ++ annUnits es' ks ++ post)))
    (hpre : ∀ u ∈ pre.map Prod.fst, unitHi u < st.offset)
    (hrun : ∀ u ∈ es'.flatMap entryUnits, st.offset ≤ unitHi u)
    (hne : ∀ blks, Entry.legacy blks ∈ es' → blks ≠ []) :
    (parseBlock cfg st (.data es pt ab)).1 = window st.offset (parseBlock cfg st (.data es pt ab)).2.1.offset
        (segVis (annSegs cfg.tsFromWrapper (pre ++ annUnits es' ks ++ post))) ∧
    st.offset < (parseBlock cfg st (.data es pt ab)).2.1.offset ∧
    (parseBlock cfg st (.data es pt ab)).2.2 = .ok ∧
    (parseBlock cfg st (.data es pt ab)).2.1.fetchSize = cfg.fetchDefault ∧
    (∀ e ∈ es', ∀ r ∈ entryRecs cfg.tsFromWrapper e, r.off < (parseBlock cfg st (.data es pt ab)).2.1.offset) := by
  have hlen : ks.length = es'.length := hk ▸ keeps_length ..
  have hpb : parseBlock cfg st (.data es pt ab) = ((segWalk st.offset (entrySegs cfg.tsFromWrapper es' ks)).1,
      ⟨(segWalk st.offset (entrySegs cfg.tsFromWrapper es' ks)).2, cfg.fetchDefault⟩, Verdict.ok) := by
    rw [parseBlock, if_neg hn, hd, parse_eq_walk cfg es' _ _ _ hbad, hk]
  rw [hpb]
  have ⟨c1, c2, c3⟩ := resp_core cfg.tsFromWrapper es' ks pre post b0 st.offset hlen hwf
    (fun p hp => hpre p.1 (List.mem_map_of_mem hp))
    (fun p hp => hrun p.1 (annUnits_fst hlen ▸ List.mem_map_of_mem (List.mem_of_mem_head? hp))) hne hes
  refine ⟨c1, c2, rfl, rfl, fun e he r hr => ?_⟩
  obtain ⟨s, hs, hrs⟩ := entrySegs_mem cfg.tsFromWrapper hlen e he
  exact c3 s hs r (hrs ▸ hr)

end Lemmas.C03
