import SaramaVerif.Lemmas.C14Inv
/-
  C14: invariants about the request log of the wire, the correlation ids and the
  promise log (what `Broker.send` does under the connection lock).
-/
namespace Lemmas.C14
open Model.BrokerConn

/-- the invariant of the send side, over the parts of the state it reads (a step that leaves them alone keeps it by
    computation) -/
structure WireInv (wire : List (Promise × Bool)) (enq written : List Promise) (nextCid cid0 : Int) : Prop where
  wire_enq : (wire.filter (·.2)).map (·.1) = enq ++ written
  cid_next : nextCid = cid0 + wire.length
  cid_lt : ∀ w ∈ wire, w.1.cid < nextCid
  cid_sorted : wire.Pairwise (fun a b => a.1.cid < b.1.cid)
  cid_exact : wire.map (·.1.cid) = (List.range wire.length).map (fun (i : Nat) => cid0 + (i : Int))

abbrev InvA (s : State) : Prop := WireInv s.wire s.enq (holderWritten s) s.nextCid s.cid0

theorem invA_init (cfg : Cfg) (c0 : Int) : InvA (init cfg c0) := by
  refine ⟨by simp [init, holderWritten], by simp [init], by simp [init], by simp [init], by simp [init]⟩

/-- The right side is written `s.enq ++ []` because that is `WireInv.wire_enq` of a state whose holder has written
    nothing, up to computation: the result is used as that field as it stands. -/
theorem InvA.wire_idle {s : State} (I : InvA s) (h : ∀ p, s.holder ≠ .written p) :
    (s.wire.filter (·.2)).map (·.1) = s.enq ++ [] := by
  have h1 := I.wire_enq
  unfold holderWritten at h1
  split at h1
  · exact absurd ‹_› (h _)
  · exact h1

theorem cid_write {s : State} (I : InvA s) (p : Promise) (hp : p.cid = s.nextCid) (b : Bool) :
    s.nextCid + 1 = s.cid0 + (s.wire ++ [(p, b)]).length ∧
    (∀ w ∈ s.wire ++ [(p, b)], w.1.cid < s.nextCid + 1) ∧
    (s.wire ++ [(p, b)]).Pairwise (fun a b => a.1.cid < b.1.cid) ∧
    (s.wire ++ [(p, b)]).map (·.1.cid) =
      (List.range (s.wire ++ [(p, b)]).length).map (fun (i : Nat) => s.cid0 + (i : Int)) := by
  refine ⟨?_, ?_, ?_, ?_⟩
  · have := I.cid_next
    simp only [List.length_append, List.length_singleton]; omega
  · intro w hw
    rcases List.mem_append.mp hw with hw | hw
    · have := I.cid_lt w hw; omega
    · rw [List.mem_singleton.mp hw, hp]; omega
  · refine List.pairwise_append.mpr ⟨I.cid_sorted, List.pairwise_singleton _ _, fun a ha b hb => ?_⟩
    rw [List.mem_singleton.mp hb, hp]
    exact I.cid_lt a ha
  · simp only [List.map_append, List.length_append, List.length_singleton, List.range_succ, I.cid_exact, I.cid_next, List.map_cons,
      List.map_nil, hp]

theorem invA_step {s s' : State} {e : Event} (h : step s e = .ok s') (I : InvA s) : InvA s' := by
  -- whoever takes or gives back the lock without having written: nothing is between write and enqueue
  have idle {hd : Holder} (hh : s.holder = hd) (hw : ∀ p, hd ≠ .written p) := I.wire_idle fun p hp => hw p (hh.symm.trans hp)
  cases step_sound h with
  | sendBegin _ _ _ hh | writeFail _ _ _ hh | closeBegin hh | closeEnd hh =>
    exact { I with wire_enq := idle hh nofun }
  | write c hv hh | writeOneWay c hv hh =>
    obtain ⟨h2, h3, h4, h5⟩ := cid_write I ⟨c, s.nextCid, hv⟩ rfl _
    refine { wire_enq := ?_, cid_next := h2, cid_lt := h3, cid_sorted := h4, cid_exact := h5 }
    simp [holderWritten, List.filter_append, idle hh nofun]
  | enqueue c p hh =>
    have h1 := I.wire_enq
    rw [holderWritten, hh] at h1
    exact { I with wire_enq := h1.trans (List.append_nil _).symm }
  | _ => exact I

end Lemmas.C14
