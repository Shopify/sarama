import SaramaVerif.Lemmas.Run
/-
  Acceptor models: `step : σ → ε → Except _ σ` written as a chain of guards, each rejecting with an error, followed by one
  update, and `run` folding `step` over an event list up to the first rejection.
  * An accepted step passed every guard. As rewriting rules (`ite_error_eq_ok` ..) for `simp only .. at h`; as elimination
    rules (`ok_of_guard`, `ok_of_ite`) that name the guards one by one by unification alone
    (`refine ok_of_guard fun h1 => ok_of_guard fun h2 h => ?_`), leaving the state term as it is; `accepted` peels a
    whole chain.
  * `Folds`: what a step preserves holds along every accepted run.
-/
namespace Lemmas.Acceptor
open Lemmas.Run

theorem ite_error_eq_ok {ρ σ : Type} {c : Prop} [Decidable c] {m : ρ} {x : Except ρ σ} {s : σ} :
    (if c then Except.error m else x) = .ok s ↔ ¬ c ∧ x = .ok s := by
  split <;> simp [*]

theorem ite_else_error_eq_ok {ρ σ : Type} {c : Prop} [Decidable c] {m : ρ} {x : Except ρ σ} {s : σ} :
    (if c then x else Except.error m) = .ok s ↔ c ∧ x = .ok s := by
  split <;> simp [*]

theorem ite_ok_eq_ok {ρ σ : Type} {c : Prop} [Decidable c] {a : σ} {x : Except ρ σ} {s : σ} :
    (if c then Except.ok a else x) = .ok s ↔ (c ∧ a = s) ∨ (¬ c ∧ x = .ok s) := by
  split <;> simp [*]

theorem ok_of_ite {ρ σ : Type} {c : Prop} [Decidable c] {a b : Except ρ σ} {s : σ} {P : Prop}
    (ha : c → a = .ok s → P) (hb : ¬ c → b = .ok s → P) : (if c then a else b) = .ok s → P :=
  iteInduction (motive := fun x : Except ρ σ => x = .ok s → P) ha hb

theorem ok_of_guard {ρ σ : Type} {c : Prop} [Decidable c] {m : ρ} {x : Except ρ σ} {s : σ} {P : Prop}
    (h : ¬ c → x = .ok s → P) : (if c then Except.error m else x) = .ok s → P :=
  ok_of_ite nofun h

/-- On a goal `step s e = .ok s' → P s'` whose `step s e` has been unfolded to its guard chain (`unfold step`, event `e`
    a constructor): the negated guards become hypotheses and `s'` becomes the updated state. Only for plain chains; a
    branch that is a `match`, or has two accepting arms, is taken apart by hand. -/
macro "accepted" : tactic =>
  `(tactic| ((repeat (apply ok_of_guard; intro _)); intro h; cases h))

variable {σ ε ρ : Type} {step : σ → ε → Except ρ σ} {run : σ → List ε → Except ρ σ}

abbrev Folds (step : σ → ε → Except ρ σ) (run : σ → List ε → Except ρ σ) : Prop :=
  Runs (fun s e s' => step s e = .ok s') (fun s es s' => run s es = .ok s')

/-- `Runs.inv_on` and `Runs.inv` with the step hypothesis in the shape `step s e = .ok s' → P s → P s'`, which a proof
    enters by unfolding `step` and peeling its guards. -/
theorem Folds.inv_on (hr : Folds step run) (Q : ε → Prop) (P : σ → Prop)
    (hstep : ∀ s s' e, Q e → step s e = .ok s' → P s → P s')
    (es : List ε) (s s' : σ) (h : run s es = .ok s') (hq : ∀ e ∈ es, Q e) : P s → P s' :=
  Runs.inv_on hr Q P (fun s e s' hq hp hs => hstep s s' e hq hs hp) h hq

theorem Folds.inv (hr : Folds step run) (P : σ → Prop) (hstep : ∀ s s' e, step s e = .ok s' → P s → P s')
    (es : List ε) (s s' : σ) (h : run s es = .ok s') : P s → P s' :=
  Runs.inv hr P (fun s e s' hp hs => hstep s s' e hs hp) h

end Lemmas.Acceptor
