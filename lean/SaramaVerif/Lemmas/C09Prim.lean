import SaramaVerif.Model.CodecPrim
/-
  The wire primitives of C09: every getter inverts its putter on `put v ++ rest`, every `prep` size is the
  length of what the putter writes, zig-zag is the bit formula of the protocol (`zigzag_bits`), and what
  `putUVarint` writes is the canonical group string of its value, of bounded length (`uvarintF_rec`).
-/
namespace Lemmas.C09
open Model.Codec

theorem be_length (n x : Nat) : (be n x).length = n := by
  induction n generalizing x with
  | zero => rfl
  | succ n ih => simp only [be, List.length_append, ih, List.length_cons, List.length_nil]

theorem fromBE_snoc (l : Bytes) (b : UInt8) : fromBE (l ++ [b]) = fromBE l * 256 + b.toNat := by
  simp only [fromBE, List.foldl_append, List.foldl_cons, List.foldl_nil]

theorem fromBE_be (n x : Nat) : fromBE (be n x) = x % 256 ^ n := by
  induction n generalizing x with
  | zero => exact (Nat.mod_one x).symm
  | succ n ih =>
    rw [be, fromBE_snoc, ih, UInt8.toNat_ofNat', Nat.mod_mod_of_dvd x (Nat.dvd_refl 256), Nat.pow_succ,
      Nat.mul_comm (256 ^ n) 256, Nat.mod_mul, Nat.add_comm, Nat.mul_comm]

theorem getUInt_be (n x : Nat) (rest : Bytes) (h : x < 256 ^ n) : getUInt n (be n x ++ rest) = some (x, rest) := by
  have hl : (be n x ++ rest).length = n + rest.length := by rw [List.length_append, be_length]
  rw [getUInt, if_neg (by rw [hl]; exact Nat.not_lt.mpr (Nat.le_add_right _ _)), List.take_left' (be_length n x),
    List.drop_left' (be_length n x), fromBE_be, Nat.mod_eq_of_lt h]

theorem getInt_eq (n : Nat) (bs : Bytes) :
    getInt n bs = (getUInt n bs).map fun ur => (toS n ur.1, ur.2) := by
  unfold getInt getUInt; split <;> rfl

theorem putInt_length (n : Nat) (x : Int) : (putInt n x).length = n := be_length _ _

theorem toU_lt (n : Nat) (x : Int) : toU n x < 256 ^ n := by
  have hp : (0 : Int) < ((256 ^ n : Nat) : Int) := Int.natCast_pos.mpr (Nat.pow_pos (by decide))
  exact (Int.toNat_lt (Int.emod_nonneg x (Int.ne_of_gt hp))).mpr (Int.emod_lt_of_pos x hp)

theorem toU_of_nonneg (n : Nat) (x : Int) (h0 : 0 ≤ x) (h : x < (256 ^ n : Nat)) : (toU n x : Int) = x := by
  rw [toU, Int.emod_eq_of_lt h0 h, Int.toNat_of_nonneg h0]

theorem toU_of_neg (n : Nat) (x : Int) (h0 : x < 0) (h : -((256 ^ n : Nat) : Int) ≤ x) :
    (toU n x : Int) = x + (256 ^ n : Nat) := by
  have h1 : 0 ≤ x + ((256 ^ n : Nat) : Int) := by omega
  rw [toU, ← Int.add_emod_right, Int.emod_eq_of_lt h1 (by omega), Int.toNat_of_nonneg h1]

theorem two_mul_half_pow (n : Nat) (hn : 0 < n) : 2 * (256 ^ n / 2) = 256 ^ n := by
  cases n with
  | zero => omega
  | succ k => exact Nat.mul_div_cancel' (Nat.dvd_mul_left_of_dvd (by decide) _)

theorem toS_toU (n : Nat) (x : Int) (hn : 0 < n) (h : InInt n x) : toS n (toU n x) = x := by
  have hP := two_mul_half_pow n hn
  unfold InInt at h
  unfold toS
  by_cases hx : x < 0
  · have e := toU_of_neg n x hx (by omega)
    rw [if_neg (by omega), e, Int.add_sub_cancel]
  · have e := toU_of_nonneg n x (Int.not_lt.mp hx) (by omega)
    rw [if_pos (by omega), e]

theorem getInt_putInt (n : Nat) (x : Int) (rest : Bytes) (hn : 0 < n) (h : InInt n x) :
    getInt n (putInt n x ++ rest) = some (x, rest) := by
  rw [getInt_eq, putInt, getUInt_be n _ rest (toU_lt n x), Option.map_some, toS_toU n x hn h]

theorem toS_range (n : Nat) (u : Nat) (hn : 0 < n) (hu : u < 256 ^ n) : InInt n (toS n u) := by
  have hP := two_mul_half_pow n hn
  unfold InInt toS
  split <;> omega

theorem contByte_toNat (x : Nat) : (UInt8.ofNat (x % 128 + 128)).toNat = x % 128 + 128 :=
  UInt8.toNat_ofNat_of_lt' (Nat.add_lt_add_right (Nat.mod_lt x (by decide)) 128)

/-- Induction along how `PutUvarint` builds its output for a value that fits the fuel: a final group below 128, or
    a group with the continuation bit in front of the groups of `x / 128`. -/
theorem uvarintF_rec {P : Nat → Nat → Bytes → Prop}
    (last : ∀ f x, x < 128 → x < 2 * 128 ^ f → P f x [UInt8.ofNat x])
    (more : ∀ f x l, 128 ≤ x → P f (x / 128) l → P (f + 1) x (UInt8.ofNat (x % 128 + 128) :: l)) :
    ∀ f x, x < 2 * 128 ^ f → P f x (uvarintF (f + 1) x) := by
  intro f
  induction f with
  | zero =>
    intro x hx
    rw [uvarintF, if_pos (by omega)]
    exact last 0 x (by omega) hx
  | succ f ih =>
    intro x hx
    rw [uvarintF]
    split
    · exact last _ x ‹_› hx
    · exact more f x _ (by omega) (ih _ (Nat.div_lt_of_lt_mul (by rw [Nat.pow_succ] at hx; omega)))

theorem uvarintDec_uvarintF : ∀ f x, x < 2 * 128 ^ f → ∀ (i m acc : Nat) (rest : Bytes), i + f = 9 →
    uvarintDec i m acc (uvarintF (f + 1) x ++ rest) = some (acc + x * m, rest) := by
  refine uvarintF_rec (P := fun f x l => ∀ (i m acc : Nat) (rest : Bytes), i + f = 9 →
    uvarintDec i m acc (l ++ rest) = some (acc + x * m, rest)) ?_ ?_
  · intro f x h128 hx i m acc rest hi
    rw [List.singleton_append, uvarintDec, UInt8.toNat_ofNat_of_lt' (Nat.lt_trans h128 (by decide)), if_neg (by omega),
      if_pos h128, if_neg]
    rintro ⟨rfl, h⟩
    have : f = 0 := by omega
    subst this; omega
  · intro f x l h128 ih i m acc rest hi
    have e : x % 128 * m + x / 128 * (m * 128) = x * m := by
      rw [← Nat.mul_assoc, Nat.mul_right_comm, ← Nat.add_mul, Nat.add_comm, Nat.mul_comm _ 128, Nat.div_add_mod]
    rw [List.cons_append, uvarintDec, contByte_toNat, if_neg (by omega), if_neg (Nat.not_lt.mpr (Nat.le_add_left ..)),
      ih _ _ _ _ (by omega), Nat.add_sub_cancel, Nat.add_assoc, e]

theorem getUVarint_putUVarint (x : Nat) (rest : Bytes) (h : x < 2 ^ 64) :
    getUVarint (putUVarint x ++ rest) = some (x, rest) := by
  rw [getUVarint, putUVarint, uvarintDec_uvarintF 9 x h 0 1 0 rest rfl, Nat.zero_add, Nat.mul_one]

theorem zigzag_natCast (n : Nat) : zigzag (n : Int) = 2 * n :=
  (if_pos (Int.natCast_nonneg n)).trans (Int.toNat_natCast (2 * n))

theorem zigzag_negSucc (n : Nat) : zigzag (Int.negSucc n) = 2 * n + 1 := by
  rw [zigzag, if_neg (Int.negSucc_not_nonneg n).mp, Int.negSucc_eq]; omega

theorem zigzag_lt (x : Int) (h : InInt 8 x) : zigzag x < 2 ^ 64 := by
  unfold InInt at h
  cases x with
  | ofNat n => rw [Int.ofNat_eq_natCast] at h ⊢; rw [zigzag_natCast]; omega
  | negSucc n => rw [zigzag_negSucc]; omega

theorem unzigzag_zigzag (x : Int) : unzigzag (zigzag x) = x := by
  cases x with
  | ofNat n =>
    rw [Int.ofNat_eq_natCast, zigzag_natCast, unzigzag, if_pos (Nat.mul_mod_right 2 n),
      Nat.mul_div_cancel_left n (by decide)]
  | negSucc n =>
    rw [zigzag_negSucc, unzigzag, Nat.mul_add_mod, if_neg (by decide), Nat.mul_add_div (by decide), Int.negSucc_eq]
    omega

theorem getVarint_putVarint (x : Int) (rest : Bytes) (h : InInt 8 x) :
    getVarint (putVarint x ++ rest) = some (x, rest) := by
  rw [getVarint, putVarint, getUVarint_putUVarint _ rest (zigzag_lt x h)]
  exact congrArg (fun v => some (v, rest)) (unzigzag_zigzag x)

theorem getBool_putBool (b : Bool) (rest : Bytes) : getBool (putBool b ++ rest) = some (b, rest) := by
  rw [getBool, putBool, getInt_putInt 1 _ rest (by decide) (by cases b <;> decide)]
  cases b <;> rfl

theorem getArrayLength_put (n : Int) (rest : Bytes) (h : InInt 4 n) (hr : n ≤ rest.length) (hm : n ≤ 131070)
    (hneg : -1 ≤ n) : getArrayLength (putArrayLength n ++ rest) = some (n, rest) := by
  rw [getArrayLength, putArrayLength, getInt_putInt 4 n rest (by decide) h]
  exact (if_neg (Int.not_lt.mpr hr)).trans (if_neg (by omega))

theorem getCompactArrayLength_put (n : Nat) (rest : Bytes) (h : n + 1 < 2 ^ 64) (hr : n ≤ rest.length) :
    getCompactArrayLength (putCompactArrayLength n ++ rest) = some (n, rest) := by
  rw [getCompactArrayLength, putCompactArrayLength, getUVarint_putUVarint _ rest h]
  exact if_neg (Nat.not_lt.mpr hr)

theorem getEmptyTagged_put (rest : Bytes) : getEmptyTagged (putEmptyTagged ++ rest) = some ((), rest) := by
  rw [getEmptyTagged, putEmptyTagged, getUVarint_putUVarint 0 rest (by decide)]
  rfl

theorem getRaw_append (b rest : Bytes) : getRaw b.length (b ++ rest) = some (b, rest) := by
  rw [getRaw, if_neg (Int.not_lt.mpr (Int.natCast_nonneg _)), Int.toNat_natCast,
    if_neg (Nat.not_lt.mpr (by rw [List.length_append]; exact Nat.le_add_right ..)), List.take_left, List.drop_left]

theorem inInt_len (n k : Nat) (h : k < 256 ^ n / 2) : InInt n (k : Int) :=
  ⟨by omega, Int.ofNat_lt.mpr h⟩

theorem natCast_ne_neg_one (k : Nat) : (k : Int) ≠ -1 := by omega

theorem getBytes_putBytes (v : Option Bytes) (rest : Bytes) (h : ∀ b, v = some b → b.length < 2 ^ 31) :
    getBytes (putBytes v ++ rest) = some (v, rest) := by
  cases v with
  | none =>
    rw [getBytes, putBytes, getInt_putInt 4 _ rest (by decide) (by decide)]
    rfl
  | some b =>
    rw [getBytes, putBytes, List.append_assoc, getInt_putInt 4 _ _ (by decide) (inInt_len 4 _ (h b rfl))]
    exact (if_neg (natCast_ne_neg_one _)).trans (by rw [getRaw_append])

theorem getVarintBytes_put (v : Option Bytes) (rest : Bytes) (h : ∀ b, v = some b → b.length < 2 ^ 63) :
    getVarintBytes (putVarintBytes v ++ rest) = some (v, rest) := by
  cases v with
  | none =>
    rw [getVarintBytes, putVarintBytes, getVarint_putVarint _ rest (by decide)]
    rfl
  | some b =>
    rw [getVarintBytes, putVarintBytes, List.append_assoc, getVarint_putVarint _ _ (inInt_len 8 _ (h b rfl))]
    exact (if_neg (natCast_ne_neg_one _)).trans (by rw [getRaw_append])

theorem getCompactBytes_put (b rest : Bytes) (h : b.length + 1 < 2 ^ 64) :
    getCompactBytes (putCompactBytes b ++ rest) = some (b, rest) := by
  rw [getCompactBytes, putCompactBytes, List.append_assoc, getUVarint_putUVarint _ _ h]
  show getRaw (((b.length + 1 : Nat) : Int) - 1) (b ++ rest) = _
  rw [show ((b.length + 1 : Nat) : Int) - 1 = b.length by omega, getRaw_append]

theorem getStringLength_put (n : Int) (rest : Bytes) (h : InInt 2 n) (hneg : -1 ≤ n) (hr : n ≤ rest.length) :
    getStringLength (putInt 2 n ++ rest) = some (n, rest) := by
  rw [getStringLength, getInt_putInt 2 _ _ (by decide) h]
  exact (if_neg (Int.not_lt.mpr hneg)).trans (if_neg (Int.not_lt.mpr hr))

theorem getStringLength_len (s rest : Bytes) (h : s.length < 2 ^ 15) :
    getStringLength (putInt 2 s.length ++ (s ++ rest)) = some ((s.length : Int), s ++ rest) :=
  getStringLength_put _ _ (inInt_len 2 _ h) (by omega) (by rw [List.length_append]; omega)

theorem take_drop_natCast (s rest : Bytes) :
    ((s ++ rest).take (s.length : Int).toNat, (s ++ rest).drop (s.length : Int).toNat) = (s, rest) := by
  rw [Int.toNat_natCast, List.take_left, List.drop_left]

theorem getString_putString (s rest : Bytes) (h : s.length < 2 ^ 15) :
    getString (putString s ++ rest) = some (s, rest) := by
  rw [getString, putString, List.append_assoc, getStringLength_len s rest h]
  exact (if_neg (natCast_ne_neg_one _)).trans (congrArg some (take_drop_natCast s rest))

theorem getNullableString_put (v : Option Bytes) (rest : Bytes) (h : ∀ s, v = some s → s.length < 2 ^ 15) :
    getNullableString (putNullableString v ++ rest) = some (v, rest) := by
  cases v with
  | none =>
    rw [getNullableString, putNullableString, getStringLength_put (-1) rest (by decide) (by decide) (by omega)]
    rfl
  | some s =>
    rw [getNullableString, putNullableString, putString, List.append_assoc, getStringLength_len s rest (h s rfl)]
    exact (if_neg (natCast_ne_neg_one _)).trans
      (congrArg (fun p : Bytes × Bytes => some (some p.1, p.2)) (take_drop_natCast s rest))

/-- the compact string getters after the uvarint `len + 1` has been read -/
theorem compact_slice (s rest : Bytes) {α : Type} (f : Bytes → α) (z : Option (α × Bytes)) :
    (if s.length + 1 = 0 then z else if s.length + 1 - 1 > (s ++ rest).length then none
      else some (f ((s ++ rest).take (s.length + 1 - 1)), (s ++ rest).drop (s.length + 1 - 1))) = some (f s, rest) := by
  rw [if_neg (Nat.succ_ne_zero _), Nat.add_sub_cancel, List.length_append,
    if_neg (Nat.not_lt.mpr (Nat.le_add_right ..)), List.take_left, List.drop_left]

theorem getCompactString_put (s rest : Bytes) (h : s.length + 1 < 2 ^ 64) :
    getCompactString (putCompactString s ++ rest) = some (s, rest) := by
  rw [getCompactString, putCompactString, putCompactArrayLength, List.append_assoc, getUVarint_putUVarint _ _ h]
  exact compact_slice s rest id none

theorem getCompactNullableString_put (v : Option Bytes) (rest : Bytes) (h : ∀ s, v = some s → s.length + 1 < 2 ^ 64) :
    getCompactNullableString (putNullableCompactString v ++ rest) = some (v, rest) := by
  cases v with
  | none =>
    rw [getCompactNullableString, putNullableCompactString, show putInt 1 0 = putUVarint 0 by decide,
      getUVarint_putUVarint 0 rest (by decide)]
    rfl
  | some s =>
    rw [getCompactNullableString, putNullableCompactString, putCompactString, putCompactArrayLength,
      List.append_assoc, getUVarint_putUVarint _ _ (h s rfl)]
    exact compact_slice s rest some _

/-- `G` reads `k` items with the getter `g`, one after the other: the shape of `getInts`, `getStrings`, `decMany`,
    `decRecords`. -/
theorem getMany_flatten {α : Type} (G : Nat → Bytes → Option (List α × Bytes)) (g : Bytes → Option (α × Bytes))
    (put : α → Bytes) (h0 : ∀ bs, G 0 bs = some ([], bs))
    (hs : ∀ k bs x r xs r', g bs = some (x, r) → G k r = some (xs, r') → G (k + 1) bs = some (x :: xs, r'))
    (xs : List α) (rest : Bytes) (h : ∀ x ∈ xs, ∀ r, g (put x ++ r) = some (x, r)) :
    G xs.length ((xs.map put).flatten ++ rest) = some (xs, rest) := by
  induction xs with
  | nil => exact h0 rest
  | cons x xs ih =>
    rw [List.map_cons, List.flatten_cons, List.append_assoc]
    exact hs _ _ _ _ _ _ (h x List.mem_cons_self _) (ih fun y hy => h y (List.mem_cons_of_mem _ hy))

theorem length_flatten_map {α : Type} (g : α → Bytes) (s : α → Nat) (vs : List α) (h : ∀ v, s v = (g v).length) :
    ((vs.map g).flatten).length = (vs.map s).sum := by
  induction vs with
  | nil => rfl
  | cons v vs ih => rw [List.map_cons, List.flatten_cons, List.length_append, ih, List.map_cons, List.sum_cons, h]

theorem length_le_flatten_map {α : Type} (g : α → Bytes) (k : Nat) (vs : List α) (h : ∀ v, k ≤ (g v).length) :
    k * vs.length ≤ ((vs.map g).flatten).length := by
  induction vs with
  | nil => exact Nat.le_refl 0
  | cons v vs ih =>
    rw [List.map_cons, List.flatten_cons, List.length_append, List.length_cons, Nat.mul_succ, Nat.add_comm]
    exact Nat.add_le_add (h v) ih

theorem putInts_length (n : Nat) (xs : List Int) : (putInts n xs).length = n * xs.length := by
  rw [putInts, length_flatten_map _ (fun _ => n) xs fun x => (putInt_length n x).symm, List.map_const',
    List.sum_replicate_nat, Nat.mul_comm]

theorem getInts_putInts (n : Nat) (hn : 0 < n) (xs : List Int) (rest : Bytes) (h : ∀ x ∈ xs, InInt n x) :
    getInts n xs.length (putInts n xs ++ rest) = some (xs, rest) :=
  getMany_flatten (getInts n) (getInt n) (putInt n) (fun _ => rfl)
    (fun _ _ _ _ _ _ h1 h2 => by simp only [getInts, h1, h2]) xs rest fun x hx r => getInt_putInt n x r hn (h x hx)

/-- the array getters read their count unsigned -/
theorem getUInt_putArrayLength (k : Nat) (rest : Bytes) (h : k < 2 ^ 31) :
    getUInt 4 (putArrayLength k ++ rest) = some (k, rest) := by
  have e : toU 4 (k : Int) = k := Int.ofNat_inj.mp (toU_of_nonneg 4 k (Int.natCast_nonneg k) (by omega))
  rw [putArrayLength, putInt, e, getUInt_be 4 k rest (by omega)]

theorem getIntArray_put (n : Nat) (hn : 0 < n) (xs : List Int) (rest : Bytes) (hl : xs.length < 2 ^ 31)
    (h : ∀ x ∈ xs, InInt n x) : getIntArray n (putIntArray n xs ++ rest) = some (xs, rest) := by
  rw [getIntArray, putIntArray, List.append_assoc, getUInt_putArrayLength _ _ hl]
  refine (if_neg (Nat.not_lt.mpr ?_)).trans (getInts_putInts n hn xs rest h)
  rw [List.length_append, putInts_length]; exact Nat.le_add_right ..

theorem getCompactInt32Array_put (xs : List Int) (rest : Bytes) (hl : xs.length + 1 < 2 ^ 64)
    (h : ∀ x ∈ xs, InInt 4 x) :
    getCompactInt32Array (putCompactInt32Array xs ++ rest) = some (some xs, rest) := by
  rw [getCompactInt32Array, putCompactInt32Array, List.append_assoc, getUVarint_putUVarint _ _ hl]
  refine (if_neg (Nat.succ_ne_zero _)).trans ?_
  rw [Nat.add_sub_cancel, getInts_putInts 4 (by decide) xs rest h]

theorem getCompactInt32Array_putNullable (v : Option (List Int)) (rest : Bytes)
    (h : ∀ xs, v = some xs → xs.length + 1 < 2 ^ 64 ∧ ∀ x ∈ xs, InInt 4 x) :
    getCompactInt32Array (putNullableCompactInt32Array v ++ rest) = some (v, rest) := by
  cases v with
  | none =>
    rw [putNullableCompactInt32Array, getCompactInt32Array, getUVarint_putUVarint 0 rest (by decide)]
    rfl
  | some xs => exact getCompactInt32Array_put xs rest (h xs rfl).1 (h xs rfl).2

theorem getStrings_putStrings (ss : List Bytes) (rest : Bytes) (h : ∀ s ∈ ss, s.length < 2 ^ 15) :
    getStrings ss.length (putStrings ss ++ rest) = some (ss, rest) :=
  getMany_flatten getStrings getString putString (fun _ => rfl)
    (fun _ _ _ _ _ _ h1 h2 => by simp only [getStrings, h1, h2]) ss rest fun s hs r => getString_putString s r (h s hs)

theorem prepString_eq (s : Bytes) : prepString s = (putString s).length := by
  rw [putString, List.length_append, putInt_length, prepString]

theorem putStrings_length (ss : List Bytes) : (putStrings ss).length = (ss.map prepString).sum :=
  length_flatten_map putString prepString ss prepString_eq

theorem getStringArray_put (ss : List Bytes) (rest : Bytes) (hl : ss.length < 2 ^ 31)
    (h : ∀ s ∈ ss, s.length < 2 ^ 15) : getStringArray (putStringArray ss ++ rest) = some (ss, rest) := by
  rw [getStringArray, putStringArray, List.append_assoc, getUInt_putArrayLength _ _ hl]
  refine (if_neg (Nat.not_lt.mpr ?_)).trans (getStrings_putStrings ss rest h)
  -- every string takes at least its two length bytes
  have hlen := length_le_flatten_map putString 2 ss fun s =>
    (prepString_eq s).symm ▸ Nat.le_add_right 2 s.length
  rw [List.length_append, putStrings]; omega

theorem prepBytes_eq (v : Option Bytes) : prepBytes v = (putBytes v).length := by
  cases v with
  | none => exact (putInt_length 4 _).symm
  | some b => rw [putBytes, List.length_append, putInt_length, prepBytes]
theorem prepVarintBytes_eq (v : Option Bytes) : prepVarintBytes v = (putVarintBytes v).length := by
  cases v with
  | none => rfl
  | some b => rw [putVarintBytes, List.length_append, prepVarintBytes, prepVarint]
theorem prepCompactBytes_eq (b : Bytes) : prepCompactBytes b = (putCompactBytes b).length := by
  rw [putCompactBytes, List.length_append, prepCompactBytes, prepUVarint]
theorem prepNullableString_eq (v : Option Bytes) : prepNullableString v = (putNullableString v).length := by
  cases v with
  | none => exact (putInt_length 2 _).symm
  | some s => exact prepString_eq s
theorem prepCompactString_eq (s : Bytes) : prepCompactString s = (putCompactString s).length := by
  rw [putCompactString, List.length_append, prepCompactString, prepUVarint, putCompactArrayLength]
theorem prepNullableCompactString_eq (v : Option Bytes) :
    prepNullableCompactString v = (putNullableCompactString v).length := by
  cases v with
  | none => decide
  | some s => exact prepCompactString_eq s
theorem prepIntArray_eq (n : Nat) (xs : List Int) : prepIntArray n xs = (putIntArray n xs).length := by
  rw [putIntArray, List.length_append, putArrayLength, putInt_length, putInts_length, prepIntArray]
theorem prepCompactInt32Array_eq (xs : List Int) : prepCompactInt32Array xs = (putCompactInt32Array xs).length := by
  rw [putCompactInt32Array, List.length_append, putInts_length, prepCompactInt32Array, prepUVarint]
theorem prepNullableCompactInt32Array_eq (v : Option (List Int)) :
    prepNullableCompactInt32Array v = (putNullableCompactInt32Array v).length := by
  cases v with
  | none => rfl
  | some xs => exact prepCompactInt32Array_eq xs
theorem prepStringArray_eq (ss : List Bytes) : prepStringArray ss = (putStringArray ss).length := by
  rw [putStringArray, List.length_append, putArrayLength, putInt_length, putStrings_length, prepStringArray]

theorem prepVarLen_exact (stale : Int) (body : Nat) : prepVarLen stale body = ((prepVarint body + body : Nat) : Int) := by
  unfold prepVarLen; omega

theorem crcBit_lt (poly c : Nat) (hp : poly < 2 ^ 32) (hc : c < 2 ^ 32) : crcBit poly c < 2 ^ 32 := by
  unfold crcBit
  split
  · exact Nat.xor_lt_two_pow (Nat.lt_of_le_of_lt (Nat.div_le_self c 2) hc) hp
  · exact Nat.lt_of_le_of_lt (Nat.div_le_self c 2) hc

theorem crcByte_lt (poly c : Nat) (b : UInt8) (hp : poly < 2 ^ 32) (hc : c < 2 ^ 32) : crcByte poly c b < 2 ^ 32 := by
  have h0 := Nat.xor_lt_two_pow hc (Nat.lt_trans (UInt8.toNat_lt b) (by decide))
  exact crcBit_lt _ _ hp (crcBit_lt _ _ hp (crcBit_lt _ _ hp (crcBit_lt _ _ hp (crcBit_lt _ _ hp
    (crcBit_lt _ _ hp (crcBit_lt _ _ hp (crcBit_lt _ _ hp h0)))))))

theorem crc32_lt (p : Poly) (bs : Bytes) : crc32 p bs < 2 ^ 32 := by
  have hp : p.value < 2 ^ 32 := by cases p <;> decide
  exact Nat.xor_lt_two_pow (List.foldlRecOn bs (crcByte p.value) (motive := (· < 2 ^ 32)) (by decide)
    fun c hc b _ => crcByte_lt _ c b hp hc) (by decide)

theorem sub_sub_eq {a b c d : Nat} (h : a = d + (b + c)) : a - b - c = d := by
  rw [Nat.sub_sub, h, Nat.add_sub_cancel]

theorem ofNat_small (w n : Nat) (h : n < 2 ^ w) :
    (BitVec.ofNat (w + 1) n).toNat = n ∧ (BitVec.ofNat (w + 1) n).msb = false ∧
      BitVec.ofNat (w + 1) n >>> w = 0#(w + 1) := by
  have hp : 2 ^ (w + 1) = 2 * 2 ^ w := Nat.pow_succ'
  have hn : (BitVec.ofNat (w + 1) n).toNat = n := by rw [BitVec.toNat_ofNat]; exact Nat.mod_eq_of_lt (by omega)
  refine ⟨hn, BitVec.msb_eq_false_iff_two_mul_lt.mpr (by rw [hn]; omega), BitVec.eq_of_toNat_eq ?_⟩
  rw [BitVec.toNat_ushiftRight, hn, Nat.shiftRight_eq_div_pow, Nat.div_eq_of_lt h]; rfl

theorem zigzag_word_natCast (w n : Nat) (h : n < 2 ^ w) :
    ((BitVec.ofNat (w + 1) n <<< 1) ^^^ (BitVec.ofNat (w + 1) n).sshiftRight w).toNat = 2 * n := by
  have hp : 2 ^ (w + 1) = 2 * 2 ^ w := Nat.pow_succ'
  obtain ⟨hn, hm, hz⟩ := ofNat_small w n h
  rw [BitVec.sshiftRight_eq_of_msb_false hm, hz, BitVec.xor_zero, BitVec.toNat_shiftLeft, hn, Nat.shiftLeft_eq,
    Nat.mod_eq_of_lt (by omega)]
  omega

/-- zig-zag of `-(n+1)`, whose `w + 1`-bit form is `~~~n`: the sign word is all ones, so the result is `~(~n << 1)` -/
theorem zigzag_word_negSucc (w n : Nat) (h : n < 2 ^ w) :
    (((~~~BitVec.ofNat (w + 1) n) <<< 1) ^^^ (~~~BitVec.ofNat (w + 1) n).sshiftRight w).toNat = 2 * n + 1 := by
  obtain ⟨hn, hm, hz⟩ := ofNat_small w n h
  have hm' : (~~~BitVec.ofNat (w + 1) n).msb = true := by rw [BitVec.msb_not, hm]; rfl
  rw [BitVec.sshiftRight_eq_of_msb_true hm', BitVec.not_not, hz, BitVec.not_zero, BitVec.xor_allOnes, BitVec.toNat_not,
    BitVec.toNat_shiftLeft, BitVec.toNat_not, hn, Nat.shiftLeft_eq, Nat.pow_succ', Nat.pow_one]
  -- with `2^w = n + 1 + m` the complement of `n` is `2^w + m`, and no subtraction is left for `omega` to split on
  generalize 2 ^ w = P at h ⊢
  obtain ⟨m, rfl⟩ : ∃ m, P = n + 1 + m := ⟨_, (Nat.add_sub_cancel' h).symm⟩
  have e : 2 * (n + 1 + m) - 1 - n = n + 1 + m + m := sub_sub_eq (by omega)
  rw [e, Nat.add_mul, Nat.mul_comm _ 2, Nat.add_mod_left, Nat.mod_eq_of_lt (by omega)]
  exact sub_sub_eq (by omega)

/-- zig-zag as Kafka/protobuf prescribe it, at any width `w + 1`: `(x << 1) ^ (x >> w)` on two's complement -/
theorem zigzag_bits (w : Nat) (x : Int) (hlo : -((2 ^ w : Nat) : Int) ≤ x) (hhi : x < ((2 ^ w : Nat) : Int)) :
    zigzag x = ((BitVec.ofInt (w + 1) x <<< 1) ^^^ (BitVec.ofInt (w + 1) x).sshiftRight w).toNat := by
  cases x with
  | ofNat n =>
    rw [Int.ofNat_eq_natCast, BitVec.ofInt_natCast, zigzag_word_natCast w n (Int.ofNat_lt.mp hhi), zigzag_natCast]
  | negSucc n =>
    rw [BitVec.ofInt_negSucc_eq_not_ofNat, zigzag_word_negSucc w n (by omega), zigzag_negSucc]

theorem uvarintF_val : ∀ f x, x < 2 * 128 ^ f → uvarintVal (uvarintF (f + 1) x) = x := by
  refine uvarintF_rec (P := fun _ x l => uvarintVal l = x) ?_ ?_
  · intro f x h128 _
    rw [uvarintVal, uvarintVal, UInt8.toNat_ofNat_of_lt' (Nat.lt_trans h128 (by decide)), Nat.mod_eq_of_lt h128]; rfl
  · intro f x l h128 ih
    rw [uvarintVal, ih, contByte_toNat, Nat.add_mod_right, Nat.mod_mod, Nat.add_comm, Nat.div_add_mod]

/-- shape of the group string: continuation bit on every byte but the last, none on the last, no
    superfluous trailing zero group (minimal length) -/
inductive Canonical : Bytes → Prop
  | last (b : UInt8) (h : b.toNat < 128) : Canonical [b]
  | more (b : UInt8) (rest : Bytes) (h : 128 ≤ b.toNat) (hr : Canonical rest) (hnz : rest ≠ [0]) : Canonical (b :: rest)

theorem ofNat_ne_zero (x : Nat) (h0 : 0 < x) (h : x < 256) : UInt8.ofNat x ≠ 0 := by
  intro e
  have := congrArg UInt8.toNat e
  rw [UInt8.toNat_ofNat_of_lt' h] at this
  exact Nat.ne_of_gt h0 this

/-- with the induction the encoding of a positive value carries that it does not start with a zero byte,
    so that it is never the superfluous group `[0]` -/
theorem uvarintF_canonical : ∀ f x, x < 2 * 128 ^ f → Canonical (uvarintF (f + 1) x) := by
  have key := uvarintF_rec (P := fun _ x l => Canonical l ∧ (0 < x → ∀ t, l ≠ 0 :: t)) ?_ ?_
  · exact fun f x hx => (key f x hx).1
  · intro f x h128 _
    have h256 := Nat.lt_trans h128 (by decide : 128 < 256)
    exact ⟨.last _ (by rw [UInt8.toNat_ofNat_of_lt' h256]; exact h128),
      fun hx t h => ofNat_ne_zero x hx h256 (List.cons.inj h).1⟩
  · intro f x l h128 ih
    exact ⟨.more _ _ (by rw [contByte_toNat]; exact Nat.le_add_left ..) ih.1 (ih.2 (Nat.div_pos h128 (by decide)) []),
      fun _ t h => ofNat_ne_zero _ (Nat.add_pos_right _ (by decide))
        (Nat.add_lt_add_right (Nat.mod_lt x (by decide)) 128) (List.cons.inj h).1⟩

theorem uvarintF_length_le (f : Nat) : ∀ x, (uvarintF f x).length ≤ f + 1 := by
  induction f with
  | zero => exact fun x => Nat.le_refl 1
  | succ f ih =>
    intro x
    rw [uvarintF]; split
    · exact Nat.le_add_left 1 _
    · exact Nat.succ_le_succ (ih _)

theorem uvarintF_length_bound : ∀ f x, x < 2 * 128 ^ f → (uvarintF (f + 1) x).length ≤ f + 1 :=
  uvarintF_rec (P := fun f _ l => l.length ≤ f + 1) (fun f _ _ _ => Nat.le_add_left 1 f)
    (fun _ _ _ _ ih => Nat.succ_le_succ ih)

theorem putUVarint_length_pos (x : Nat) : 1 ≤ (putUVarint x).length := by
  rw [putUVarint, uvarintF]; split <;> exact Nat.le_add_left 1 _

end Lemmas.C09
