import SaramaVerif.Model.Txn
import SaramaVerif.Lemmas.AssocFind
/-
  C11: ground truth of a transactional log in relational form, the agreement between a faithful
  aborted-transaction index and the ground truth (`index_agrees`), and a faithful index for every log and every
  fetch (`brokerIndex`), so that the hypothesis of `read_committed_exact` is satisfiable for all inputs.
-/
namespace Lemmas.C11
open Model.ConsumerParse Model.Txn

/-- the units of the log in the order of their last offsets: all that the index arguments use of `LogWF` -/
def HiSorted (L : List LUnit) : Prop := L.Pairwise (fun a b => unitHi a < unitHi b)

/-- relational ground truth: the control batch of `p` with the least last offset above `h` is an abort marker -/
def NextAbort (L : List LUnit) (p h : Int) : Prop :=
  ∃ mk, LUnit.bat mk ∈ L ∧ isAbortMarker p mk ∧ h < batchLast mk ∧
    ∀ c, LUnit.bat c ∈ L → isMarker p c → h < batchLast c → batchLast mk ≤ batchLast c

theorem hiSorted_split {A S : List LUnit} {u : LUnit} (hs : HiSorted (A ++ u :: S)) :
    (∀ a ∈ A, unitHi a < unitHi u) ∧ (∀ v ∈ S, unitHi u < unitHi v) ∧ HiSorted S :=
  have ⟨_, hus, hA⟩ := List.pairwise_append.1 hs
  ⟨fun a ha => hA a ha u List.mem_cons_self, (List.pairwise_cons.1 hus).1, (List.pairwise_cons.1 hus).2⟩

theorem nextMarker_iff (p : Int) (S : List LUnit) : HiSorted S →
    (nextMarker p S = some Ctl.abort ↔
      ∃ mk, LUnit.bat mk ∈ S ∧ isAbortMarker p mk ∧ ∀ c, LUnit.bat c ∈ S → isMarker p c → batchLast mk ≤ batchLast c) := by
  induction S with
  | nil => exact fun _ => ⟨nofun, fun ⟨_, h, _⟩ => nomatch h⟩
  | cons u S' ih =>
    intro hs
    have ih := ih (List.Pairwise.of_cons hs)
    cases u with
    | blk x => simp only [nextMarker, ih, List.mem_cons, reduceCtorEq, false_or]
    | bat b =>
      have hlt : ∀ u ∈ S', batchLast b < unitHi u := (List.pairwise_cons.1 hs).1
      rw [nextMarker]
      by_cases hm : b.control = true ∧ b.pid = p
      · -- `b` is the first control batch of `p`, and ends below all later ones
        rw [if_pos hm, Option.some.injEq]
        constructor
        · intro hc
          refine ⟨b, List.mem_cons_self, ⟨hm.1, hm.2, hc⟩, fun c hc' _ => ?_⟩
          rcases List.mem_cons.1 hc' with h | h
          · cases h; exact Int.le_refl _
          · exact Int.le_of_lt (hlt (.bat c) h)
        · rintro ⟨mk, hmk, hab, hmin⟩
          rcases List.mem_cons.1 hmk with h | h
          · cases h; exact hab.2.2
          · exact absurd (hmin b List.mem_cons_self hm) (Int.not_le.2 (hlt (.bat mk) h))
      · rw [if_neg hm, ih]
        constructor
        · rintro ⟨mk, hmk, hab, hmin⟩
          refine ⟨mk, List.mem_cons_of_mem _ hmk, hab, fun c hc hcm => ?_⟩
          rcases List.mem_cons.1 hc with h | h
          · cases h; exact absurd hcm hm
          · exact hmin c h hcm
        · rintro ⟨mk, hmk, hab, hmin⟩
          rcases List.mem_cons.1 hmk with h | h
          · cases h; exact absurd ⟨hab.1, hab.2.1⟩ hm
          · exact ⟨mk, h, hab, fun c hc hcm => hmin c (List.mem_cons_of_mem _ hc) hcm⟩

theorem nextMarker_nextAbort (p : Int) (A S : List LUnit) (b : Batch) (hs : HiSorted (A ++ LUnit.bat b :: S)) :
    nextMarker p S = some Ctl.abort ↔ NextAbort (A ++ LUnit.bat b :: S) p (batchLast b) := by
  have ⟨hA, hS, hsS⟩ := hiSorted_split hs
  have hin : ∀ c, LUnit.bat c ∈ A ++ LUnit.bat b :: S → batchLast b < batchLast c → LUnit.bat c ∈ S := fun c hc hlt =>
    (List.mem_append.1 hc).elim (fun h => absurd (hA (.bat c) h) (Int.lt_asymm hlt)) fun h =>
      (List.mem_cons.1 h).elim (fun e => by cases e; exact absurd hlt (Int.lt_irrefl _)) id
  rw [nextMarker_iff p S hsS]
  constructor
  · rintro ⟨mk, hmk, hmab, hmin⟩
    exact ⟨mk, List.mem_append_right _ (List.mem_cons_of_mem _ hmk), hmab, hS (.bat mk) hmk,
      fun c hc hcm hlt => hmin c (hin c hc hlt) hcm⟩
  · rintro ⟨mk, hmk, hmab, hlt, hmin⟩
    exact ⟨mk, hin mk hmk hlt, hmab, fun c hc hcm =>
      hmin c (List.mem_append_right _ (List.mem_cons_of_mem _ hc)) hcm (hS (.bat c) hc)⟩

theorem exists_min {α : Type} (key : α → Int) (P : α → Prop) : ∀ (l : List α), (∃ x ∈ l, P x) →
    ∃ x ∈ l, P x ∧ ∀ y ∈ l, P y → key x ≤ key y
  | a :: as, ⟨x, hx, hp⟩ => by
      by_cases hrest : ∃ y ∈ as, P y
      · obtain ⟨m, hm, hpm, hmin⟩ := exists_min key P as hrest
        by_cases hle : P a ∧ key a ≤ key m
        · exact ⟨a, List.mem_cons_self, hle.1, fun y hy hpy => (List.mem_cons.1 hy).elim (· ▸ Int.le_refl _)
            fun hy => Int.le_trans hle.2 (hmin y hy hpy)⟩
        · refine ⟨m, List.mem_cons_of_mem _ hm, hpm, fun y hy hpy => (List.mem_cons.1 hy).elim (fun e => ?_)
            fun hy => hmin y hy hpy⟩
          subst e
          exact Int.le_of_lt (Int.not_le.mp fun h => hle ⟨hpy, h⟩)
      · have : x = a := (List.mem_cons.1 hx).resolve_right fun h => hrest ⟨x, h, hp⟩
        subst this
        exact ⟨x, List.mem_cons_self, hp, fun y hy hpy => (List.mem_cons.1 hy).elim (· ▸ Int.le_refl _)
          fun hy => absurd ⟨y, hy, hpy⟩ hrest⟩

def NoMarker (L : List LUnit) (p lo hi : Int) : Prop :=
  ∀ c, LUnit.bat c ∈ L → isMarker p c → ¬ (lo < batchLast c ∧ batchLast c < hi)

/-- a control batch and a data batch do not overlap: this is where `BaseWF` comes in -/
theorem marker_apart {L : List LUnit} (hs : HiSorted L) (hbase : BaseWF L) {c d : Batch} (hc : LUnit.bat c ∈ L)
    (hd : LUnit.bat d ∈ L) (h1 : c.control = true) (h2 : d.control = false) :
    batchLast c < d.base ∨ batchLast d < batchLast c := by
  have hne : batchLast c ≠ batchLast d := fun he => by
    cases Lemmas.Assoc.key_inj_of_sorted (key := unitHi) Int.lt_irrefl (List.pairwise_map.mpr hs) hc hd he
    exact Bool.noConfusion (h1.symm.trans h2)
  by_cases h : batchLast c < batchLast d
  · exact .inl (hbase.2 c d hc hd h)
  · exact .inr (Int.lt_iff_le_and_ne.mpr ⟨Int.not_lt.mp h, Ne.symm hne⟩)

/-- the first data batch of the transaction a data batch `b` of `p` belongs to: the earliest data batch of `p`
    without a control batch of `p` between it and `b` -/
theorem txn_first {L : List LUnit} (hs : HiSorted L) (hbase : BaseWF L) {p : Int} {b : Batch} (hb : LUnit.bat b ∈ L)
    (hbd : isTxnData p b) :
    ∃ d, LUnit.bat d ∈ L ∧ isTxnData p d ∧ batchLast d ≤ batchLast b ∧ NoMarker L p (batchLast d) (batchLast b) ∧
      ∀ d', LUnit.bat d' ∈ L → isTxnData p d' → batchLast d' < batchLast d →
        ∃ c, LUnit.bat c ∈ L ∧ isMarker p c ∧ batchLast d' < batchLast c ∧ batchLast c < batchLast d := by
  let Q : LUnit → Prop := fun u => ∃ d, u = LUnit.bat d ∧ isTxnData p d ∧ batchLast d ≤ batchLast b ∧
    NoMarker L p (batchLast d) (batchLast b)
  obtain ⟨u, hu, ⟨d, rfl, hdd, hdb, hdclean⟩, hmin⟩ :=
    exists_min unitHi Q L ⟨_, hb, b, rfl, hbd, Int.le_refl _, fun c _ _ h => Int.lt_asymm h.1 h.2⟩
  refine ⟨d, hu, hdd, hdb, hdclean, fun d' hd' hdd' hlt => Classical.byContradiction fun hno => ?_⟩
  -- otherwise d' is an earlier such batch
  refine absurd hlt (Int.not_lt.mpr (hmin _ hd' ⟨d', rfl, hdd', Int.le_trans (Int.le_of_lt hlt) hdb,
    fun c hc hcm ⟨h1, h2⟩ => ?_⟩))
  rcases marker_apart hs hbase hc hu hcm.1 hdd.1 with h | h
  · exact hno ⟨c, hc, hcm, h1, Int.lt_of_lt_of_le h (hbase.1 d hu)⟩
  · exact hdclean c hc hcm ⟨h, h2⟩

/-- A faithful index agrees with the ground truth: for a transactional data batch `b` of producer `p` in the
    fetched run (`Pb` = the batches of the run before it): some listed transaction of `p` begins at or below
    `b`'s last offset without an abort marker of `p` in the run at or above its first offset before `b`
    ⟺ the next control batch of `p` after `b` in the log is an abort marker. -/
theorem index_agrees (L : List LUnit) (o hiEnd : Int) (idx : List (Int × Int)) (p : Int) (b : Batch)
    (Pb : Batch → Prop)
    (hs : HiSorted L) (hbase : BaseWF L) (hidx : FaithfulIndex L o hiEnd idx)
    (hb : LUnit.bat b ∈ L) (hbd : isTxnData p b) (hbo : o ≤ batchLast b) (hbe : batchLast b ≤ hiEnd)
    (hPin : ∀ c, Pb c → LUnit.bat c ∈ L ∧ batchLast c < batchLast b)
    (hrun : ∀ c, LUnit.bat c ∈ L → o ≤ batchLast c → batchLast c < batchLast b → Pb c) :
    (∃ f, (p, f) ∈ idx ∧ f ≤ batchLast b ∧ ∀ c, Pb c → isAbortMarker p c → batchLast c < f) ↔
    NextAbort L p (batchLast b) := by
  have hble := hbase.1 b hb
  constructor
  · rintro ⟨f, hf, hfb, hclean⟩
    obtain ⟨m, ⟨d, mk, hd, hmk, hdd, rfl, hmab, rfl, hdm, hnom, _⟩, hom⟩ := hidx.2 p f hf (Int.le_trans hfb hbe)
    have hdle := hbase.1 d hd
    -- the abort marker lies after b: before b it would be in the run, at or above the transaction's first offset
    have hbm : batchLast b < batchLast mk := by
      rcases marker_apart hs hbase hmk hb hmab.1 hbd.1 with h | h
      · exact absurd (Int.lt_trans (Int.lt_of_le_of_lt hdle hdm)
          (hclean mk (hrun mk hmk hom (Int.lt_of_lt_of_le h hble)) hmab)) (Int.lt_irrefl _)
      · exact h
    refine ⟨mk, hmk, hmab, hbm, fun c hc hcm hlt => Int.not_lt.mp fun hcm' => ?_⟩
    -- otherwise c lies strictly between d and the marker
    rcases marker_apart hs hbase hc hd hcm.1 hdd.1 with h | h
    · exact absurd (Int.lt_trans (Int.lt_of_le_of_lt hfb hlt) h) (Int.lt_irrefl _)
    · exact hnom c hc hcm ⟨h, hcm'⟩
  · rintro ⟨mk, hmk, hmab, hbm, hmin⟩
    obtain ⟨d, hd, hdd, hdb, hdclean, hfirst⟩ := txn_first hs hbase hb hbd
    have hdle := hbase.1 d hd
    -- the transaction of b, from its first data batch to the marker, is an aborted transaction of the log
    have habt : AbortedTxn L p d.base (batchLast mk) :=
      ⟨d, mk, hd, hmk, hdd, rfl, hmab, rfl, Int.lt_of_le_of_lt hdb hbm, fun c hc hcm ⟨h1, h2⟩ => by
        rcases marker_apart hs hbase hc hb hcm.1 hbd.1 with h | h
        · exact hdclean c hc hcm ⟨h1, Int.lt_of_lt_of_le h hble⟩
        · exact absurd h2 (Int.not_lt.mpr (hmin c hc hcm h)), hfirst⟩
    refine ⟨d.base, hidx.1 p d.base (batchLast mk) habt (Int.le_trans hbo (Int.le_of_lt hbm))
      (Int.le_trans hdle (Int.le_trans hdb hbe)), Int.le_trans hdle hdb, fun c hPc hcab => ?_⟩
    obtain ⟨hc, hcb⟩ := hPin c hPc
    rcases marker_apart hs hbase hc hd hcab.1 hdd.1 with h | h
    · exact h
    · exact absurd ⟨h, hcb⟩ (hdclean c hc ⟨hcab.1, hcab.2.1⟩)

theorem mem_batches {b : Batch} {L : List LUnit} : b ∈ batches L ↔ LUnit.bat b ∈ L := by
  rw [batches, List.mem_filterMap]
  constructor
  · rintro ⟨u, hu, h⟩
    cases u with
    | blk _ => cases h
    | bat x => cases h; exact hu
  · exact fun h => ⟨_, h, rfl⟩

theorem baseWF_of_batches {L : List LUnit} (h1 : ∀ b ∈ batches L, b.base ≤ batchLast b)
    (h2 : ∀ a ∈ batches L, ∀ b ∈ batches L, batchLast a < batchLast b → batchLast a < b.base) : BaseWF L :=
  ⟨fun b hb => h1 b (mem_batches.2 hb), fun a b ha hb => h2 a (mem_batches.2 ha) b (mem_batches.2 hb)⟩

theorem abortedTxn_iff (L : List LUnit) (p f m : Int) :
    AbortedTxn L p f m ↔ ∃ d ∈ batches L, ∃ mk ∈ batches L, abortedPair L p d mk ∧ d.base = f ∧ batchLast mk = m := by
  -- the same clauses, membership in `batches L` for membership of the unit in `L`
  simp only [AbortedTxn, abortedPair, mem_batches]
  constructor
  · rintro ⟨d, mk, hd, hmk, hdd, rfl, hmab, rfl, hlt, hclean, hfirst⟩
    exact ⟨d, hd, mk, hmk, ⟨hdd, hmab, hlt, hclean, hfirst⟩, rfl, rfl⟩
  · rintro ⟨d, hd, mk, hmk, ⟨hdd, hmab, hlt, hclean, hfirst⟩, rfl, rfl⟩
    exact ⟨d, mk, hd, hmk, hdd, rfl, hmab, rfl, hlt, hclean, hfirst⟩

theorem brokerIndex_faithful (L : List LUnit) (o hiEnd : Int) : FaithfulIndex L o hiEnd (brokerIndex L o hiEnd) := by
  constructor
  · intro p f m hab hom hfe
    obtain ⟨d, hd, mk, hmk, hpair, hdf, hmm⟩ := (abortedTxn_iff L p f m).1 hab
    have hp : d.pid = p := hpair.1.2.2
    unfold brokerIndex
    refine List.mem_flatMap.2 ⟨d, hd, List.mem_filterMap.2 ⟨mk, hmk, ?_⟩⟩
    have : abortedPair L d.pid d mk ∧ o ≤ batchLast mk ∧ d.base ≤ hiEnd := ⟨by rw [hp]; exact hpair, hmm ▸ hom, hdf ▸ hfe⟩
    rw [if_pos this, hp, hdf]
  · intro p f hin hfe
    unfold brokerIndex at hin
    obtain ⟨d, hd, hin⟩ := List.mem_flatMap.1 hin
    obtain ⟨mk, hmk, hsome⟩ := List.mem_filterMap.1 hin
    split at hsome
    · rename_i hc
      simp only [Option.some.injEq, Prod.mk.injEq] at hsome
      obtain ⟨hp, hf⟩ := hsome
      refine ⟨batchLast mk, (abortedTxn_iff L p f _).2 ⟨d, hd, mk, hmk, by rw [← hp]; exact hc.1, hf, rfl⟩, hc.2.1⟩
    · cases hsome

end Lemmas.C11
