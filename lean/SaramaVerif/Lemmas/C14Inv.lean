import SaramaVerif.Model.BrokerConn
import SaramaVerif.Lemmas.Acceptor
/-
  C14: the accepted transitions of the broker-connection model as a relation, one rule per accepting branch of `step`
  (its hypotheses are the guards passed, its last index the state reached). Every case analysis over the events is a
  `cases` on `step_sound h`: the rules a proof does not name leave the part of the state it reads alone.
-/
namespace Lemmas.C14
open Model.BrokerConn Lemmas.Acceptor

inductive Step (s : State) : Event → State → Prop
  | sendBeginNil (c hv ex) : s.holder = .free → s.connNil = true →
      Step s (.sendBegin c hv ex) { s with early := s.early ++ [(c, some .notConnected)] }
  | sendBegin (c hv ex) : s.holder = .free → s.connNil = false → Step s (.sendBegin c hv ex) { s with holder := .sending c hv ex }
  | write (c hv) : s.holder = .sending c hv true → (s.cfg.reserve = true → s.queue.length + curCount s < s.cfg.maxOpen) →
      Step s (.write c) { s with wire := s.wire ++ [(⟨c, s.nextCid, hv⟩, true)], nextCid := s.nextCid + 1,
                                 holder := .written ⟨c, s.nextCid, hv⟩ }
  | writeOneWay (c hv) : s.holder = .sending c hv false →
      Step s (.write c) { s with wire := s.wire ++ [(⟨c, s.nextCid, hv⟩, false)], nextCid := s.nextCid + 1,
                                 holder := .free, early := s.early ++ [(c, none)] }
  | writeFail (c hv ex) : s.holder = .sending c hv ex →
      Step s (.writeFail c) { s with holder := .free, early := s.early ++ [(c, some .sendFailed)] }
  | enqueue (c p) : s.holder = .written p → p.call = c →
      (s.queue.length + 1 < s.cfg.maxOpen ∨ (s.queue = [] ∧ s.cur = none)) →
      Step s (.enqueue c) { s with queue := s.queue ++ [p], enq := s.enq ++ [p], holder := .free }
  | recvDeqDead (p rest e) : s.recvExited = false → s.cur = none → s.queue = p :: rest → s.dead = some e →
      Step s .recvDeq { s with queue := rest, done := s.done ++ [⟨p, .failed e, []⟩] }
  | recvDeq (p rest) : s.recvExited = false → s.cur = none → s.queue = p :: rest → s.dead = none →
      Step s .recvDeq { s with queue := rest, cur := some (p, .header) }
  | recvHeaderFail (p e) : s.cur = some (p, .header) → headerLength p.hv ≤ s.inbuf.length →
      (decodeHeader s.cfg.maxResp p.hv (s.inbuf.take (headerLength p.hv)) = .bad e ∨
        (e = .cidMismatch ∧ ∃ len cid, decodeHeader s.cfg.maxResp p.hv (s.inbuf.take (headerLength p.hv)) = .ok len cid ∧ cid ≠ p.cid)) →
      Step s .recvHeader { s with inbuf := s.inbuf.drop (headerLength p.hv),
                                  consumed := s.consumed ++ s.inbuf.take (headerLength p.hv), cur := none, dead := some e,
                                  done := s.done ++ [⟨p, .failed e, s.inbuf.take (headerLength p.hv)⟩] }
  | recvHeader (p len) : s.cur = some (p, .header) → headerLength p.hv ≤ s.inbuf.length →
      decodeHeader s.cfg.maxResp p.hv (s.inbuf.take (headerLength p.hv)) = .ok len p.cid →
      Step s .recvHeader { s with inbuf := s.inbuf.drop (headerLength p.hv),
                                  consumed := s.consumed ++ s.inbuf.take (headerLength p.hv),
                                  cur := some (p, .body (s.inbuf.take (headerLength p.hv)) (bodyLength len (headerLength p.hv))) }
  | recvBody (p hdr need) : s.cur = some (p, .body hdr need) → need ≤ s.inbuf.length →
      Step s .recvBody { s with inbuf := s.inbuf.drop need, consumed := s.consumed ++ s.inbuf.take need, cur := none,
                                done := s.done ++ [⟨p, .delivered (s.inbuf.take need), hdr⟩] }
  | recvEOF (p ph) : s.cur = some (p, ph) → s.eof = true → s.inbuf.length < needOf p ph →
      Step s .recvEOF { s with cur := none, dead := some .io, done := s.done ++ [⟨p, .failed .io, hdrOf ph⟩] }
  | recvTimeout (p ph) : s.cur = some (p, ph) → s.inbuf.length < needOf p ph →
      Step s .recvTimeout { s with cur := none, dead := some .timeout, done := s.done ++ [⟨p, .failed .timeout, hdrOf ph⟩] }
  | srvBytes (bs) : s.eof = false → Step s (.srvBytes bs) { s with inbuf := s.inbuf ++ bs, sent := s.sent ++ bs }
  | srvClose : s.eof = false → Step s .srvClose { s with eof := true }
  | closeBegin : s.holder = .free → s.connNil = false → Step s .closeBegin { s with holder := .closing, chanClosed := true }
  | recvExit : s.recvExited = false → s.chanClosed = true → s.cur = none → s.queue = [] →
      Step s .recvExit { s with recvExited := true }
  | closeEnd : s.holder = .closing → s.recvExited = true → Step s .closeEnd { s with holder := .free, connNil := true }

theorem step_sound {s s' : State} {e : Event} (h : step s e = .ok s') : Step s e s' := by
  cases e
  case sendBegin c hv ex =>
    change stepSendBegin s c hv ex = _ at h; unfold stepSendBegin at h
    split at h
    · split at h <;> cases h
      · exact .sendBeginNil _ _ _ ‹_› ‹_›
      · exact .sendBegin _ _ _ ‹_› (eq_false_of_ne_true ‹_›)
    · cases h
  case write c =>
    change stepWrite s c = _ at h; unfold stepWrite at h
    split at h
    · rename_i c' hv ex hh
      simp only [ite_error_eq_ok, Decidable.not_not] at h
      obtain ⟨rfl, h⟩ := h
      cases ex with
      | true =>
        simp only [↓reduceIte, ite_error_eq_ok, Except.ok.injEq] at h
        obtain ⟨hg, rfl⟩ := h
        exact .write _ _ hh fun hr => Decidable.not_not.mp fun hn => hg ⟨hr, hn⟩
      | false =>
        simp only [Bool.false_eq_true, ↓reduceIte, Except.ok.injEq] at h
        subst h; exact .writeOneWay _ _ hh
    · cases h
  case writeFail c =>
    change stepWriteFail s c = _ at h; unfold stepWriteFail at h
    split at h
    · simp only [ite_error_eq_ok, Decidable.not_not, Except.ok.injEq] at h
      obtain ⟨rfl, rfl⟩ := h
      exact .writeFail _ _ _ ‹_›
    · cases h
  case enqueue c =>
    change stepEnqueue s c = _ at h; unfold stepEnqueue at h
    split at h
    · simp only [ite_error_eq_ok, ite_else_error_eq_ok, Decidable.not_not, Except.ok.injEq] at h
      obtain ⟨hc, hg, rfl⟩ := h
      exact .enqueue _ _ ‹_› hc hg
    · cases h
  case recvDeq =>
    change stepRecvDeq s = _ at h; unfold stepRecvDeq at h
    rw [ite_error_eq_ok] at h
    obtain ⟨hx, h⟩ := h
    split at h
    · cases h
    · split at h
      · cases h
      · split at h <;> cases h
        · exact .recvDeqDead _ _ _ (Bool.eq_false_iff.mpr hx) ‹_› ‹_› ‹_›
        · exact .recvDeq _ _ (Bool.eq_false_iff.mpr hx) ‹_› ‹_› ‹_›
  case recvHeader =>
    change stepRecvHeader s = _ at h; unfold stepRecvHeader at h
    split at h
    · rename_i p hp
      rw [ite_error_eq_ok] at h
      obtain ⟨hlen, h⟩ := h
      have hlen := Nat.le_of_not_lt hlen
      split at h
      · cases h
        exact .recvHeaderFail _ _ hp hlen (.inl ‹_›)
      · rename_i len cid hdec
        simp only [ite_ok_eq_ok, Except.ok.injEq, Decidable.not_not] at h
        rcases h with ⟨hne, rfl⟩ | ⟨rfl, rfl⟩
        · exact .recvHeaderFail _ _ hp hlen (.inr ⟨rfl, len, cid, hdec, hne⟩)
        · exact .recvHeader _ _ hp hlen hdec
    · cases h
  case recvBody =>
    change stepRecvBody s = _ at h; unfold stepRecvBody at h
    split at h
    · rw [ite_error_eq_ok, Except.ok.injEq] at h
      obtain ⟨hl, rfl⟩ := h
      exact .recvBody _ _ _ ‹_› (Nat.le_of_not_lt hl)
    · cases h
  case recvEOF =>
    change stepRecvEOF s = _ at h; unfold stepRecvEOF at h
    split at h
    · simp only [ite_error_eq_ok, Decidable.not_not, Except.ok.injEq] at h
      obtain ⟨he, hl, rfl⟩ := h
      exact .recvEOF _ _ ‹_› he (Nat.lt_of_not_le hl)
    · cases h
  case recvTimeout =>
    change stepRecvTimeout s = _ at h; unfold stepRecvTimeout at h
    split at h
    · simp only [ite_error_eq_ok, Except.ok.injEq] at h
      obtain ⟨hl, rfl⟩ := h
      exact .recvTimeout _ _ ‹_› (Nat.lt_of_not_le hl)
    · cases h
  case srvBytes bs =>
    rw [step, stepSrvBytes, ite_error_eq_ok, Except.ok.injEq] at h
    obtain ⟨he, rfl⟩ := h
    exact .srvBytes _ (Bool.eq_false_iff.mpr he)
  case srvClose =>
    rw [step, stepSrvClose, ite_error_eq_ok, Except.ok.injEq] at h
    obtain ⟨he, rfl⟩ := h
    exact .srvClose (Bool.eq_false_iff.mpr he)
  case closeBegin =>
    change stepCloseBegin s = _ at h; unfold stepCloseBegin at h
    split at h
    · simp only [ite_error_eq_ok, Except.ok.injEq] at h
      obtain ⟨hn, rfl⟩ := h
      exact .closeBegin ‹_› (Bool.eq_false_iff.mpr hn)
    · cases h
  case recvExit =>
    change stepRecvExit s = _ at h; unfold stepRecvExit at h
    rw [ite_error_eq_ok, ite_error_eq_ok] at h
    obtain ⟨h1, h2, h⟩ := h
    split at h
    · cases h
    · split at h <;> cases h
      exact .recvExit (Bool.eq_false_iff.mpr h1) (Decidable.not_not.mp h2) ‹_› ‹_›
  case closeEnd =>
    change stepCloseEnd s = _ at h; unfold stepCloseEnd at h
    split at h
    · simp only [ite_else_error_eq_ok, Except.ok.injEq] at h
      obtain ⟨hx, rfl⟩ := h
      exact .closeEnd ‹_› hx
    · cases h

end Lemmas.C14
