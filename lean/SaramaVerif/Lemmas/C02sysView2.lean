/-
  C02 composition, abstract layer (continued): the transitions that bounce tokens, raise the high watermark,
  flush the retry buffers, and the failure of a produce set.
-/
import SaramaVerif.Lemmas.C02sysView

namespace Lemmas.C02sys
open Model Model.Pipeline

theorem VInv.emitBad {v : View} (h : VInv v) (M : Nat) (x : Tok) (rest : List Tok) (hav : v.av = x :: rest)
    (hx : isData x = true) (hl : x.retries = v.pp.hwm) (hg : v.good = false) :
    VStep v ⟨v.pp, [], rest ++ bumpF M [x], false⟩ := by
  have hD : ∀ d ∈ bumpF M [x], d = bump x := fun d hd => by
    obtain ⟨t, ht, _, rfl⟩ := mem_bumpF hd; rw [List.mem_singleton.1 ht]
  refine ⟨(h.shrink (.tail hav)).inv.appendBad (bumpF M [x]) ?_ (desc_bumpF (List.pairwise_singleton _ _)) ?_ ?_,
    fun _ ha => live_of (fun _ hy => nomatch hy)
      (fun y hy => (List.mem_append.1 (data_append rest _ ▸ hy)).elim (fun hy => .av (data_tail hav hy))
        (fun hy => hD y (mem_data.1 hy).1 ▸ show LiveId v x.id from .head hav hx))
      (fun k _ hy => .buf k hy) ha⟩
  · intro d hd; rw [hD d hd]
    exact ⟨bump_data hx, hl ▸ Nat.lt_succ_self _⟩
  · intro a _ ha d hd; rw [hD d hd, bump_retries, hl]
    exact ha
  · intro k
    show (v.buf k ++ (data rest ++ bumpF M [x])).Pairwise R
    have hk := h.ord k
    rw [h.gbad hg, hav, data_cons_data _ hx, List.nil_append] at hk
    rw [← List.append_assoc]
    refine List.pairwise_append.2 ⟨hk.sublist ((List.Sublist.refl _).append (List.sublist_cons_self _ _)),
      pairwise_bumpF (List.pairwise_singleton _ _), fun a ha d hd => ?_⟩
    rw [hD d hd]
    rcases List.mem_append.1 ha with ha | ha
    · have := head_vs_buf h hav hx (Nat.le_of_eq hl.symm) ha
      exact (R_of_lt this.1 (Nat.le_of_lt this.2)).bump_swap
    · exact (head_vs_rest h hav hx ha).bump_swap

/-- newHighWatermark: the chaser goes (virtually, with its next level) to the end of the arrival stream.  The new
    flag `g'` is free: the worker holds nothing (`gbad`) and the token that raises the watermark caps the arrival
    stream (`rise_cap`), so the two clauses of `VInv` that mention `good` hold for either value. -/
def riseV (v : View) (l : Nat) (g' : Bool) : View :=
  ⟨{ v.pp with hwm := l, expect := PartProd.setExp v.pp.expect l true }, v.gw, v.av ++ [finTok l], g'⟩

theorem finTok_kind (l : Nat) : (finTok l).kind = .fin := rfl
theorem finTok_notData (l : Nat) : isData (finTok l) = false := rfl
theorem finTok_isFin (l : Nat) : isFin (finTok l) = true := rfl

theorem rise_bad {v : View} (h : VInv v) {x : Tok} {rest : List Tok} (hav : v.av = x :: rest)
    (hx : isData x = true) (hl : v.pp.hwm < x.retries) : v.good = false := by
  cases hg : v.good with
  | false => rfl
  | true =>
    have := h.cap hg x (by rw [hav, data_cons_data _ hx]; exact List.mem_cons_self ..)
    omega

theorem rise_cap {v : View} (h : VInv v) {x : Tok} {rest : List Tok} (hav : v.av = x :: rest)
    (hx : isData x = true) (hl : v.pp.hwm < x.retries) : ∀ y ∈ data v.av, y.retries ≤ x.retries := by
  intro y hy
  by_cases hy' : v.pp.hwm < y.retries
  · have h0 := h.hi
    rw [hav, data_cons_data _ hx, List.filter_cons] at h0
    have : decide (v.pp.hwm < x.retries) = true := by simpa using hl
    rw [this] at h0
    rw [hav, data_cons_data _ hx] at hy
    rcases List.mem_cons.1 hy with rfl | hy
    · exact Nat.le_refl _
    · exact (List.pairwise_cons.1 h0).1 y (List.mem_filter.2 ⟨hy, by simpa using hy'⟩)
  · omega

theorem VInv.rise {v : View} (h : VInv v) (x : Tok) (rest : List Tok) (hav : v.av = x :: rest)
    (hx : isData x = true) (hl : v.pp.hwm < x.retries) (g' : Bool) : VStep v (riseV v x.retries g') := by
  have hgw : v.gw = [] := h.gbad (rise_bad h hav hx hl)
  have hcap := rise_cap h hav hx hl
  have hd : data (v.av ++ [finTok x.retries]) = data v.av := by
    rw [data_append, data_cons_not _ (finTok_notData _)]; exact List.append_nil _
  have no : ∀ {p : Tok → Prop}, ∀ g ∈ v.gw, p g := fun g hg => by rw [hgw] at hg; cases hg
  -- a chaser that is still expected lies below the new level
  have hfin : ∀ f ∈ v.av, f.kind = .fin → f.retries < x.retries := fun f hf hk =>
    Nat.lt_of_le_of_lt (h.fin1 f hf hk).2.1 hl
  refine ⟨⟨fun k => ?_, h.bufx, no, no, h.gdesc, h.gdata, fun _ => hgw, ?_, ?_, ?_, ?_, ?_, ?_, ?_⟩,
    fun _ ha => live_of (fun _ hy => .gw hy) (fun _ hy => .av (hd ▸ hy)) (fun k _ hy => .buf k hy) ha⟩
  · show (v.gw ++ v.buf k ++ data (v.av ++ [finTok x.retries])).Pairwise R
    rw [hd]; exact h.ord k
  · show Desc ((data (v.av ++ [finTok x.retries])).filter (fun t => decide (x.retries < t.retries)))
    rw [hd, List.filter_eq_nil_iff.2 (fun y hy => by rw [decide_eq_true_eq]; exact Nat.not_lt.2 (hcap y hy))]
    exact List.Pairwise.nil
  · intro _ y hy
    change y ∈ data (v.av ++ [finTok x.retries]) at hy
    rw [hd] at hy; exact hcap y hy
  · refine List.pairwise_append.2 ⟨h.beh.imp_of_mem (fun {a b} ha _ hab hka hkb => ?_), List.pairwise_singleton _ _,
      fun a _ b hb _ hk => ?_⟩
    · exact (hab hka hkb).imp_right (Or.imp_right (fun ⟨k, k1, k2, k3⟩ =>
        ⟨k, k1, (setExp_ne _ (Nat.ne_of_lt (Nat.lt_trans k1 (hfin a ha hka)))).trans k2, k3⟩))
    · rw [List.mem_singleton.1 hb, finTok_kind] at hk; cases hk
  · intro f hf hk
    rcases List.mem_append.1 hf with hf | hf
    · have h1 := h.fin1 f hf hk
      have hlt := hfin f hf hk
      exact ⟨h1.1, Nat.le_of_lt hlt, (setExp_ne _ (Nat.ne_of_lt hlt)).trans h1.2.2⟩
    · rw [List.mem_singleton.1 hf]
      exact ⟨Nat.lt_of_le_of_lt (Nat.zero_le _) hl, Nat.le_refl _, if_pos rfl⟩
  · show (finLevels (v.av ++ [finTok x.retries])).Nodup
    rw [finLevels, List.filter_append, List.map_append]
    refine List.nodup_append.2 ⟨h.fin2, List.pairwise_singleton _ _, fun a ha b hb => ?_⟩
    obtain ⟨f, hf, rfl⟩ := List.mem_map.1 ha
    obtain ⟨hf, hk⟩ := List.mem_filter.1 hf
    rw [List.mem_singleton.1 hb]
    exact Nat.ne_of_lt (hfin f hf (by simpa [isFin] using hk))
  · intro y hy
    rcases List.mem_append.1 hy with hy | hy
    · exact h.nosyn y hy
    · rw [List.mem_singleton.1 hy]; exact nofun
  · exact ⟨fun l hl' => h.pinv.above l (Nat.le_trans (Nat.le_of_lt hl) hl'), h.pinv.typed⟩

theorem VInv.fail {v : View} (h : VInv v) (M : Nat) (hg : v.good = true) :
    VStep v ⟨v.pp, [], v.av ++ bumpF M v.gw, false⟩ := by
  refine ⟨h.appendBad (bumpF M v.gw) ?_ (desc_bumpF h.gdesc) ?_ ?_,
    fun _ ha => live_of (fun _ hy => nomatch hy)
      (fun _ hy => (mem_data_bumpF hy).elim .av (fun ⟨z, hz, e⟩ => e ▸ show LiveId v z.id from .gw hz)) (fun k _ hy => .buf k hy) ha⟩
  · intro d hd; obtain ⟨g, hg', _, rfl⟩ := mem_bumpF hd
    exact ⟨bump_data (by rw [isData, h.gdata g hg']; rfl), Nat.lt_succ_of_le (h.ghw g hg')⟩
  · intro a ha hlt; exact absurd (h.cap hg a ha) (Nat.not_le.2 hlt)
  · intro k
    have hk := h.ord k
    rw [List.append_assoc, List.pairwise_append] at hk
    rw [← List.append_assoc]
    refine List.pairwise_append.2 ⟨hk.2.1, pairwise_bumpF hk.1, fun y hy d hd => ?_⟩
    obtain ⟨g, hg', _, rfl⟩ := mem_bumpF hd
    exact (hk.2.2 g hg' y hy).bump_swap

/-- holds once the chaser of the current level has been consumed (`finDrop_Z`) -/
def ZV (v : View) : Prop := ∀ y ∈ data v.av, y.retries = 0 ∨ v.pp.hwm < y.retries ∨
  ∃ k, k < v.pp.hwm ∧ v.pp.expect k = true ∧ y.retries ≤ k

theorem ZV.split {v : View} (hz : ZV v) {j : Nat} (hj : v.pp.hwm = j + 1) :
    ∀ y ∈ data v.av, y.retries ≤ j ∨ j + 1 < y.retries := by
  intro y hy
  rcases hz y hy with h | h | ⟨k, k1, _, k3⟩
  · left; omega
  · right; omega
  · left; omega

def downPP (pp : PartProd.St) (j : Nat) : PartProd.St :=
  { pp with hwm := j, bufs := PartProd.setBuf pp.bufs j [] }

theorem down_buf (v : View) (j : Nat) (gw av : List Tok) (g : Bool) (k : Nat) :
    View.buf ⟨downPP v.pp j, gw, av, g⟩ k = if k = j then [] else v.buf k := by
  by_cases hk : k = j <;> simp [View.buf, downPP, PartProd.setBuf, hk]

theorem down_mem {v : View} {j : Nat} {gw av : List Tok} {g : Bool} {k : Nat} {a : Tok}
    (ha : a ∈ View.buf ⟨downPP v.pp j, gw, av, g⟩ k) : a ∈ v.buf k ∧ k ≠ j := by
  rw [down_buf] at ha
  by_cases hk : k = j
  · rw [if_pos hk] at ha; cases ha
  · rw [if_neg hk] at ha; exact ⟨ha, hk⟩

theorem down_pinv {v : View} (h : VInv v) {j : Nat} (hj : v.pp.hwm = j + 1) : Props.C02.PPInv (downPP v.pp j) := by
  refine ⟨fun l hl => ?_, fun l t ht => ?_⟩
  · show PartProd.setBuf v.pp.bufs j [] l = []
    rw [PartProd.setBuf]
    by_cases hk : l = j
    · exact if_pos hk
    · rw [if_neg hk]; exact h.pinv.above l (hj ▸ Nat.lt_of_le_of_ne hl (Ne.symm hk))
  · exact h.pinv.typed l t (mem_setBuf_nil ht)

/-- go down one level, without the buffer of that level (`flushGood` / `flushBad` put it back: into `gw`, or
    bounced into `av`) -/
theorem VInv.down0 {v : View} (h : VInv v) (hz : ZV v) {j : Nat} (hj : v.pp.hwm = j + 1)
    (he : v.pp.expect (j + 1) = false) : VInv ⟨downPP v.pp j, v.gw, v.av, v.good⟩ := by
  refine ⟨fun k => ?_, fun k k' a b ha hb => h.bufx k k' a b (down_mem ha).1 (down_mem hb).1,
    fun g hg x hx => h.low g hg x (hx.imp_right fun ⟨k, hx⟩ => ⟨k, (down_mem hx).1⟩),
    fun g hg => Nat.le_of_succ_le (hj ▸ h.ghw g hg : j + 1 ≤ g.retries), h.gdesc, h.gdata, h.gbad, ?_, ?_, h.beh, ?_, h.fin2, h.nosyn,
    down_pinv h hj⟩
  · show (v.gw ++ View.buf ⟨downPP v.pp j, v.gw, v.av, v.good⟩ k ++ data v.av).Pairwise R
    rw [down_buf]
    by_cases hk : k = j
    · rw [if_pos hk]
      exact (h.ord k).sublist (((List.Sublist.refl _).append (List.nil_sublist _)).append (List.Sublist.refl _))
    · rw [if_neg hk]; exact h.ord k
  · show Desc ((data v.av).filter (fun t => decide (j < t.retries)))
    -- nothing in the arrival stream sits at level `j + 1`
    have : (data v.av).filter (fun t => decide (j < t.retries)) =
        (data v.av).filter (fun t => decide (v.pp.hwm < t.retries)) :=
      List.filter_congr (fun y hy => by
        rw [hj, decide_eq_decide]
        rcases hz.split hj y hy with h0 | h1 <;> omega)
    rw [this]; exact h.hi
  · intro hg y hy
    have := h.cap hg y hy
    rcases hz.split hj y hy with h0 | h1
    · exact h0
    · omega
  · intro f hf hk
    have := h.fin1 f hf hk
    refine ⟨this.1, ?_, this.2.2⟩
    show f.retries ≤ j
    have hne : f.retries ≠ j + 1 := fun e => by rw [e, he] at this; exact absurd this.2.2 nofun
    omega

theorem VInv.flushGood {v : View} (h : VInv v) (hz : ZV v) {j : Nat} (hj : v.pp.hwm = j + 1)
    (he : v.pp.expect (j + 1) = false) (hg : v.good = true) :
    VInv ⟨downPP v.pp j, v.gw ++ v.buf j, v.av, v.good⟩ := by
  have h0 := h.down0 hz hj he
  have hlv : ∀ {b}, b ∈ v.buf j → b.retries = j := fun hb => (buf_typed h hb).1
  have hlvl0 : ∀ y ∈ data v.av, y.retries ≤ j := h0.cap hg
  -- a token of buffer `j` comes before everything in the arrival stream and in the other buffers
  have hbj : ∀ b ∈ v.buf j, ∀ x, (x ∈ data v.av ∨ ∃ k, k ≠ j ∧ x ∈ v.buf k) → b.id < x.id ∧ x.retries ≤ b.retries := by
    intro b hb x hx
    rw [hlv hb]
    rcases hx with hx | ⟨k, hkj, hx⟩
    · have hk := h.ord j
      rw [List.pairwise_append] at hk
      exact ⟨(hk.2.2 b (List.mem_append_right _ hb) x hx).1 (hlv hb ▸ hlvl0 x hx), hlvl0 x hx⟩
    · have hk' := buf_lt h hx
      have hlt : k < j := by omega
      exact ⟨h.bufx k j x b hx hb hlt, (buf_typed h hx).1 ▸ Nat.le_of_lt hlt⟩
  refine ⟨fun k => ?_, h0.bufx,
    List.forall_mem_append.2 ⟨h0.low, fun g hg' x hx =>
      (hbj g hg' x (hx.imp_right fun ⟨k, hx⟩ => ⟨k, (down_mem hx).2, (down_mem hx).1⟩)).1⟩,
    List.forall_mem_append.2 ⟨h0.ghw, fun g hg' => Nat.le_of_eq (hlv hg').symm⟩, ?_,
    List.forall_mem_append.2 ⟨h.gdata, fun g hg' => (buf_typed h hg').2⟩, fun hb => absurd (hb.symm.trans hg) nofun,
    h0.hi, h0.cap, h0.beh, h0.fin1, h0.fin2, h0.nosyn, h0.pinv⟩
  · show (v.gw ++ v.buf j ++ View.buf ⟨downPP v.pp j, v.gw, v.av, v.good⟩ k ++ data v.av).Pairwise R
    rw [down_buf]
    by_cases hkj : k = j
    · rw [if_pos hkj, List.append_nil]; exact h.ord j
    · rw [if_neg hkj]
      have hk := h.ord k
      have hjj := h.ord j
      rw [List.append_assoc, List.pairwise_append] at hk hjj
      rw [List.append_assoc, List.pairwise_append]
      refine ⟨(List.pairwise_append.2 hjj).sublist
        ((List.Sublist.refl _).append (List.sublist_append_left _ _)), hk.2.1, ?_⟩
      intro a ha b hb
      rcases List.mem_append.1 ha with ha | ha
      · exact hk.2.2 a ha b hb
      · have := hbj a ha b ((List.mem_append.1 hb).symm.imp_right fun hb => ⟨k, hkj, hb⟩)
        exact R_of_lt this.1 this.2
  · refine List.pairwise_append.2 ⟨h.gdesc, List.pairwise_of_forall_mem_list (fun a ha b hb => ?_),
      fun a ha b hb => ?_⟩
    · rw [hlv ha, hlv hb]; exact Nat.le_refl _
    · rw [hlv hb]; exact Nat.le_of_succ_le (hj ▸ h.ghw a ha : j + 1 ≤ a.retries)

theorem VInv.flushBad {v : View} (h : VInv v) (hz : ZV v) (M : Nat) {j : Nat} (hj : v.pp.hwm = j + 1)
    (he : v.pp.expect (j + 1) = false) (hg : v.good = false) :
    VInv ⟨downPP v.pp j, [], v.av ++ bumpF M (v.buf j), false⟩ := by
  have h0 := h.down0 hz hj he
  have hgw : v.gw = [] := h.gbad hg
  have hlv : ∀ {b}, b ∈ v.buf j → b.retries = j := fun hb => (buf_typed h hb).1
  have hkj := h.ord j
  rw [hgw, List.nil_append, List.pairwise_append] at hkj
  refine h0.appendBad (bumpF M (v.buf j)) ?_ (desc_bumpF (List.pairwise_of_forall_mem_list (fun a ha b hb => ?_))) ?_ ?_
  · intro d hd; obtain ⟨b, hb, _, rfl⟩ := mem_bumpF hd
    refine ⟨bump_data (by rw [isData, (buf_typed h hb).2]; rfl), ?_⟩
    show j < (bump b).retries
    rw [bump_retries, hlv hb]; exact Nat.lt_succ_self _
  · rw [hlv ha, hlv hb]; exact Nat.le_refl _
  · intro a ha hlt d hd
    obtain ⟨b, hb, _, rfl⟩ := mem_bumpF hd
    have h1 : j < a.retries := hlt
    rw [bump_retries, hlv hb]
    rcases hz.split hj a ha with h2 | h2 <;> omega
  · intro k
    show (View.buf ⟨downPP v.pp j, v.gw, v.av, v.good⟩ k ++ (data v.av ++ bumpF M (v.buf j))).Pairwise R
    rw [← List.append_assoc]
    refine List.pairwise_append.2 ⟨?_, pairwise_bumpF hkj.1, fun y hy d hd => ?_⟩
    · have := h0.ord k; rwa [hgw, List.nil_append] at this
    · obtain ⟨b, hb, _, rfl⟩ := mem_bumpF hd
      rcases List.mem_append.1 hy with hy | hy
      · obtain ⟨hy1, hy2⟩ := down_mem hy
        have hk' := buf_lt h hy1
        have hlt : k < j := by omega
        exact (R_of_lt (h.bufx k j y b hy1 hb hlt)
          (by rw [(buf_typed h hy1).1, hlv hb]; exact Nat.le_of_lt hlt)).bump_swap
      · exact (hkj.2.2 b hb y hy).bump_swap

/-- one level of flushRetryBuffers in the view -/
def stepV (M : Nat) (v : View) (j : Nat) : View :=
  ⟨downPP v.pp j, v.gw ++ (if v.good then v.buf j else []),
   v.av ++ (if v.good then [] else bumpF M (v.buf j)), v.good⟩

theorem live_stepV {v : View} (M : Nat) (j : Nat) {i : Int} (h : LiveId (stepV M v j) i) : LiveId v i := by
  refine live_of (fun x hx => ?_) (fun x hx => ?_) (fun k _ hx => .buf k (down_mem hx).1) h
  · rcases List.mem_append.1 hx with hx | hx
    · exact .gw hx
    · split at hx
      · exact .buf j hx
      · cases hx
  · change x ∈ data (v.av ++ _) at hx
    rw [data_append] at hx
    rcases List.mem_append.1 hx with hx | hx
    · exact .av hx
    · split at hx
      · cases hx
      · obtain ⟨z, hz, _, rfl⟩ := mem_bumpF (mem_data.1 hx).1
        exact (LiveId.buf j hz : LiveId v z.id)

theorem VInv.flushOne {v : View} (h : VInv v) (hz : ZV v) (M : Nat) {j : Nat} (hj : v.pp.hwm = j + 1)
    (he : v.pp.expect (j + 1) = false) :
    VStep v (stepV M v j) ∧ (v.pp.expect j = false → ZV (stepV M v j)) := by
  have hold : v.pp.expect j = false → ∀ y ∈ data v.av, y.retries = 0 ∨ j < y.retries ∨
      ∃ k, k < j ∧ v.pp.expect k = true ∧ y.retries ≤ k := by
    intro hej y hy
    rcases hz y hy with h1 | h1 | ⟨k, k1, k2, k3⟩
    · exact Or.inl h1
    · right; left; omega
    · have : k ≠ j := fun e => by rw [e, hej] at k2; cases k2
      exact Or.inr (Or.inr ⟨k, by omega, k2, k3⟩)
  cases hg : v.good with
  | true =>
    have := h.flushGood hz hj he hg
    refine ⟨⟨by simpa [stepV, hg] using this, fun _ => live_stepV M j⟩, ?_⟩
    intro hej y hy
    have hy' : y ∈ data v.av := by simpa [stepV, hg] using hy
    exact hold hej y hy'
  | false =>
    have := h.flushBad hz M hj he hg
    have hgw : v.gw = [] := h.gbad hg
    refine ⟨⟨by simpa [stepV, hg, hgw] using this, fun _ => live_stepV M j⟩, ?_⟩
    intro hej y hy
    have hy' : y ∈ data (v.av ++ bumpF M (v.buf j)) := by simpa [stepV, hg] using hy
    rcases mem_data_bumpF hy' with hy' | ⟨b, hb, rfl⟩
    · exact hold hej y hy'
    · exact Or.inr (Or.inl (Nat.lt_succ_of_le (Nat.le_of_eq (buf_typed h hb).1.symm)))

def emTok : PartProd.Action → Option Tok
  | .emit id l f => some (mkTok id l f)
  | _ => none

def emToks (as : List PartProd.Action) : List Tok := as.filterMap emTok

theorem emToks_append (a b : List PartProd.Action) : emToks (a ++ b) = emToks a ++ emToks b := by
  simp [emToks]

theorem emToks_buf (l : List PartProd.Tok) :
    emToks (l.map (fun t => PartProd.Action.emit t.id t.retries t.fin)) = l.map ofPP := by
  induction l with
  | nil => rfl
  | cons t ts ih =>
    simp only [emToks, List.map_cons, List.filterMap_cons, emTok] at ih ⊢
    rw [ih]; rfl

/-- the whole of flushRetryBuffers in the view -/
def flushV (M : Nat) (v : View) : View :=
  ⟨{ hwm := (PartProd.flush v.pp.hwm v.pp.bufs v.pp.expect).1,
     bufs := (PartProd.flush v.pp.hwm v.pp.bufs v.pp.expect).2.1, expect := v.pp.expect },
   v.gw ++ (if v.good then emToks (PartProd.flush v.pp.hwm v.pp.bufs v.pp.expect).2.2 else []),
   v.av ++ (if v.good then [] else bumpF M (emToks (PartProd.flush v.pp.hwm v.pp.bufs v.pp.expect).2.2)),
   v.good⟩

theorem flushV_stop (M : Nat) (v : View) (j : Nat) (hj : v.pp.hwm = j + 1)
    (hs : v.pp.expect j = true ∨ j = 0) : flushV M v = stepV M v j := by
  simp only [flushV, hj, flush_stop j v.pp.bufs v.pp.expect hs, emToks_buf, stepV, downPP, View.buf]

theorem flushV_cont (M : Nat) (v : View) (j : Nat) (hj : v.pp.hwm = j + 1)
    (he : v.pp.expect j = false) (h0 : j ≠ 0) : flushV M v = flushV M (stepV M v j) := by
  have hf := flush_cont j v.pp.bufs v.pp.expect he h0
  cases hg : v.good <;>
    simp [flushV, hj, hf, emToks_append, emToks_buf, stepV, downPP, View.buf, hg, bumpF_append, List.append_assoc]

theorem VInv.flushAll (M : Nat) : ∀ (n : Nat) {v : View}, VInv v → ZV v → v.pp.hwm = n + 1 →
    v.pp.expect (n + 1) = false → VStep v (flushV M v) := by
  intro n
  induction n with
  | zero =>
    intro v h hz hj he
    rw [flushV_stop M v 0 hj (Or.inr rfl)]
    exact (h.flushOne hz M hj he).1
  | succ n ih =>
    intro v h hz hj he
    have h1 := h.flushOne hz M hj he
    by_cases hs : v.pp.expect (n + 1) = true
    · rw [flushV_stop M v (n + 1) hj (Or.inl hs)]; exact h1.1
    · have hs' : v.pp.expect (n + 1) = false := by simpa using hs
      rw [flushV_cont M v (n + 1) hj hs' (by omega)]
      exact h1.1.trans (ih h1.1.inv (h1.2 hs') rfl hs')

end Lemmas.C02sys
