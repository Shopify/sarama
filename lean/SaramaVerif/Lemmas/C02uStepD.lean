/-
  C02 composition, the invariant `GoodU`: the answer of the broker reaches the worker `l` the partition producer is
  (or was last) bound to.  `deliver_vstep` is the step on the view for every phase of `l` (`WRep`): the set leaves the
  worker (`VInv.shrink`), or everything it holds is bounced and jumps over the lanes of the old workers (`VInv.fail`,
  `VInv.moveBlock`), or it refuses the partition already.  `goodU_deliver`: the answer reaches a worker in either role
  (an old one: `goodU_deliver_old`, Lemmas/C02uStepW.lean).
-/
import SaramaVerif.Lemmas.C02uStepW

namespace Lemmas.C02sys
open Model Model.Pipeline

variable {M : Nat} {K : Prop} {s s' : Sys} {olds : List Nat} {l : Nat} {v : View}

/-- **the answer reaches the worker the partition producer is (or was last) bound to, on the view**: the phase of the
    worker and the view change together.  `F` = pp.input ++ p.input ++ retries, `L` = the lanes of the old workers; the
    worker `me`, with bridge state `b0` and holding `I`, becomes `b'` and bounces `X` (`DeliverOutcome`); `sc`, `e` are
    the successes and errors afterwards. -/
theorem deliver_vstep {me : Nat} {pp : PartProd.St} {F L : List Tok} {cur : Option Nat} {inq : List Tok}
    {b0 b' : BrokerProd.St} {I gw tl : List Tok} {g : Bool} {vd : Pipeline.Verdict} {base : Nat} {sent X : List Tok}
    {sc : List (Int × Nat)} {e : List Int}
    (hw : WRep M me cur inq b0.closing (b0.cr 0) I gw tl g) (hv : VInv ⟨pp, gw, F ++ (L ++ tl), g⟩)
    (hL : ∀ y ∈ data L, y.retries ≤ pp.hwm) (hfq : ∀ t ∈ inq, t.kind = .fin → t.retries < M)
    (hl : LogCore s.log s.succ s.next ⟨pp, gw, F ++ (L ++ tl), g⟩)
    (hb : (∀ p ∈ s.succ, p.2 < base) ∧ (vd = .ok → base + sent.length ≤ s.log.length)) (hbd : Bd K L tl)
    (hcase : DeliverOutcome M s b0 I vd base sent b' X sc e) :
    ∃ gw' tl' g', WRep M me cur inq b'.closing (b'.cr 0) (insideB b') gw' tl' g' ∧
      VStep ⟨pp, gw, F ++ (L ++ tl), g⟩ ⟨pp, gw', F ++ bumpF M X ++ (L ++ tl'), g'⟩ ∧
      LogCore s.log sc s.next ⟨pp, gw', F ++ bumpF M X ++ (L ++ tl'), g'⟩ ∧
      (cur = none → F ++ bumpF M X ++ (L ++ tl') = F ++ (L ++ tl)) ∧ Bd K L tl' := by
  have hsub : ∀ a ∈ L ++ tl, a ∈ (⟨pp, gw, F ++ (L ++ tl), g⟩ : View).av := fun a ha => List.mem_append_right _ ha
  cases hn : (b0.closing || b0.cr 0) with
  | true =>
    -- the worker refuses the partition anyway: it holds nothing, and whatever the answer, nothing leaves it
    obtain rfl : I = [] := hw.ins_nil hn
    obtain ⟨rfl, hi, rfl, a2, hcl⟩ : X = [] ∧ insideB b' = [] ∧ sc = s.succ ∧ b'.cr 0 = b0.cr 0 ∧
        (b'.closing = true ∨ b'.closing = b0.closing) := by
      rcases hcase with ⟨rfl, a1, a2, hi, hout⟩ | ⟨rfl, hi, rfl, _, hmode⟩
      · obtain ⟨rfl, hi'⟩ := List.append_eq_nil_iff.1 hi.symm
        exact ⟨rfl, hi', hout.elim (fun h => h.2.1.trans (List.append_nil _)) (·.1), congrFun a2 0, .inr a1⟩
      · obtain ⟨c, r⟩ := hmode.resolve_right fun h => h.2.2 rfl
        exact ⟨rfl, hi, rfl, congrFun r 0, .inl c⟩
    rw [hi, a2, bumpF_nil, List.append_nil]
    rcases hw.refused hn hcl hfq with hw' | ⟨rfl, hw'⟩
    · exact ⟨_, _, _, hw', .refl hv, hl, fun _ => rfl, hbd⟩
    · have hf := hv.fail M rfl
      have e1 : F ++ (L ++ tl) ++ bumpF M gw = F ++ (L ++ (tl ++ bumpF M gw)) := by simp
      have hN := rb_bumped hv (N := bumpF M gw) fun c hc => by
        obtain ⟨y, hy, _, rfl⟩ := mem_bumpF hc; exact ⟨y, hy, rfl⟩
      refine ⟨_, _, _, hw', e1 ▸ hf, hl.mono (e1 ▸ hf).live, fun hc => ?_,
        hbd.app hN.1 fun a ha c hc => hN.2 a (hsub a ha) c hc⟩
      rw [hw.gw_nil hc, bumpF_nil, List.append_nil]
  | false =>
    rcases hcase with ⟨rfl, a1, a2, hi, hout⟩ | ⟨rfl, hi, rfl, rfl, hmode⟩
    · -- the set leaves the worker
      rw [hi] at hw
      obtain ⟨G, rfl, rfl, rfl, hw'⟩ := hw.shrink hn
      have hsh := hv.shrink (shrink_front (v := ⟨pp, sent ++ (insideB b' ++ G), F ++ (L ++ []), true⟩) rfl)
      rw [a1, a2]
      simp only [List.append_nil] at hv hl hsh
      have hlc : LogCore s.log sc s.next ⟨pp, insideB b' ++ G, F ++ L, true⟩ := by
        rcases hout with ⟨rfl, rfl, rfl⟩ | ⟨rfl, rfl⟩
        · exact hl.ack hv rfl base hb.1 (hb.2 rfl)
        · exact hl.mono hsh.live
      refine ⟨insideB b' ++ G, [], true, hw', ?_, ?_, fun _ => ?_, hbd⟩ <;>
        simp only [bumpF_nil, List.append_nil]
      · exact hsh
      · exact hlc
    · -- the set fails: everything inside (`X`) jumps over the lanes into the retries queue
      obtain ⟨rfl, rfl, tl', htl, hw'⟩ := hw.fail hn
        (hmode.imp (·.1) fun h => ⟨h.1.trans (Bool.or_eq_false_iff.1 hn).1, h.2⟩)
      have hf := hv.fail M rfl
      obtain ⟨G, hgw⟩ := WRep.held (sent := X) (rest := []) (by rw [List.append_nil]; exact hw)
      rw [List.nil_append] at hgw
      have hmb := hf.inv.moveBlock (bumpF M X) F L tl'
        (by show F ++ (L ++ []) ++ bumpF M gw = _; rw [htl]; simp)
        (fun x hx => by
          obtain ⟨y, hy, _, rfl⟩ := mem_bumpF hx
          have hyg : y ∈ gw := hgw ▸ List.mem_append_left _ hy
          refine ⟨fun _ z hz => ?_, fun hk => by rw [show (bump y).kind = .data from hv.gdata y hyg] at hk; cases hk⟩
          have h1 : z.retries ≤ pp.hwm := hL z hz
          have h2 : pp.hwm ≤ y.retries := hv.ghw y hyg
          show z.retries ≠ y.retries + 1
          omega)
        hL
      have hst := hf.trans hmb
      have hN := rb_bumped hv (N := tl') fun c hc => by
        obtain ⟨y, hy, _, rfl⟩ := mem_bumpF (htl ▸ List.mem_append_right _ hc : c ∈ bumpF M gw)
        exact ⟨y, hy, rfl⟩
      rw [hi]
      refine ⟨_, _, _, hw', ?_, hl.mono ?_, fun hc => ?_,
        hbd.app hN.1 fun a ha c hc => hN.2 a (hsub a ha) c hc⟩
      · simpa only [List.append_assoc, List.append_nil] using hst
      · intro a ha; exact hst.live a (by simpa only [List.append_assoc, List.append_nil] using ha)
      · have hg0 := hw.gw_nil hc
        rw [hgw] at hg0
        obtain ⟨rfl, rfl⟩ := List.append_eq_nil_iff.1 hg0
        have : tl' = [] := by simpa [hgw, bumpF_nil] using htl.symm
        rw [this, bumpF_nil, List.append_nil]

theorem goodU_deliver_l (hM : 1 ≤ M) {still : Bool} (hb : BaseU M s olds l) (h : GoodU M K s olds l v)
    (hs : sysStep M s (.deliver l still) = some s') : ∃ v', GoodU M K s' olds l v' := by
  obtain ⟨vd, base, sent, b', X, sc, e, hpend, hsets, rfl, _, hcase⟩ := deliver_casesW hM (hb.pinv l (.inl rfl))
    (fun x hx => hb.p0w l (.inl rfl) x (List.mem_append_right _ hx)) hs
  have hle := h.lanes_le_hwm
  obtain ⟨gw, tl, g, hwr, rfl, hbd⟩ := h.rep
  obtain ⟨gw', tl', g', hw', hst, hl', hcap, hbd'⟩ := deliver_vstep hwr h.vinv (fun y hy => hle y (mem_data.1 hy).1)
    (h.conc.finq l (.inl rfl)) h.log.toLogCore (h.log.pend vd base sent hpend hsets) hbd hcase
  have hf := stepW_workSw M s l ⟨(s.wk l).inq, b', none⟩ X sc e
  have hx : (workSw M s l ⟨(s.wk l).inq, b', none⟩ X sc e).wk l = ⟨(s.wk l).inq, b', none⟩ := setW_same ..
  have hlanes : lanes M (workSw M s l ⟨(s.wk l).inq, b', none⟩ X sc e) olds = lanes M s olds :=
    stepW_lanes hf h.conc.lNo
  refine ⟨_, ⟨gw', tl', g', by rw [insW, hx]; exact hw', ?_, hlanes ▸ hbd'⟩, hst.inv,
    h.conc.step hf hx (List.suffix_refl _) (.inl rfl) (fun hc x hx => h.conc.capN hc x (hcap hc ▸ hx)),
    ⟨hl', fun _ _ _ hp => by rw [hx] at hp; cases hp⟩⟩
  rw [hlanes]; simp only [workSw, List.append_assoc]

theorem goodU_deliver {w : Nat} (hM : 1 ≤ M) {still : Bool} (hb : BaseU M s olds l) (h : GoodU M K s olds l v)
    (hw : w = l ∨ w ∈ olds) (hs : sysStep M s (.deliver w still) = some s') : ∃ v', GoodU M K s' olds l v' :=
  hw.elim (fun e => goodU_deliver_l hM hb h (e ▸ hs)) (fun ho => goodU_deliver_old hM hb h ho hs)

end Lemmas.C02sys
