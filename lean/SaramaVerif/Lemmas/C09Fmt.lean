import SaramaVerif.Model.CodecFmt
import SaramaVerif.Lemmas.C09Prim
/-
  The schema interpreters of Model/CodecFmt.lean: `size` is the length of `enc` (`size_eq_enc_length`) and `dec`
  inverts `enc` on well-typed values (`dec_enc`).  Both are inductions on the schema that rest on the same two facts
  per primitive (`sizeP_eq`, `decP_encP`) and per count convention (`prepCount_eq`, `getCount_putCount_*`).
-/
namespace Lemmas.C09
open Model.Codec

theorem intsOf_length (vs : List Val) : (intsOf vs).length = vs.length := List.length_map _
theorem bytesOf_length (vs : List Val) : (bytesOf vs).length = vs.length := List.length_map _

theorem allInt_spec (n : Nat) (vs : List Val) (h : allInt n vs = true) :
    (intsOf vs).map Val.int = vs ∧ ∀ x ∈ intsOf vs, InInt n x := by
  induction vs with
  | nil => exact ⟨rfl, fun _ hx => nomatch hx⟩
  | cons v vs ih =>
    cases v with
    | int i =>
      have h' := Bool.and_eq_true_iff.mp h
      have := ih h'.2
      exact ⟨congrArg (Val.int i :: ·) this.1, List.forall_mem_cons.mpr ⟨of_decide_eq_true h'.1, this.2⟩⟩
    | _ => exact Bool.noConfusion h

theorem allStr_spec (vs : List Val) (h : allStr vs = true) :
    (bytesOf vs).map Val.bytes = vs ∧ ∀ s ∈ bytesOf vs, s.length < 2 ^ 15 := by
  induction vs with
  | nil => exact ⟨rfl, fun _ hx => nomatch hx⟩
  | cons v vs ih =>
    cases v with
    | bytes b =>
      have h' := Bool.and_eq_true_iff.mp h
      have := ih h'.2
      exact ⟨congrArg (Val.bytes b :: ·) this.1, List.forall_mem_cons.mpr ⟨of_decide_eq_true h'.1, this.2⟩⟩
    | _ => exact Bool.noConfusion h

theorem prepUVarint_zero : prepUVarint 0 = putEmptyTagged.length := by decide

/-- no typing hypothesis: on an ill-typed value neither encoder pass writes anything -/
theorem sizeP_eq (p : Prim) (v : Val) : sizeP p v = (encP p v).length := by
  fun_cases sizeP p v
  -- The cases are the equations of `sizeP` (and of `encP`, `wtP`) in order: 1–4 i8 i16 i32 i64, 5 varint, 6 uvarint,
  -- 7 bool, 8–9 bytes (nil, present), 10–11 vbytes, 12 cbytes, 13 str, 14–15 nstr, 16 cstr, 17–18 ncstr, 19 i32arr,
  -- 20 i64arr, 21 ci32arr, 22–23 nci32arr, 24 strarr, 25 tagged, 26 raw, 27 every ill-typed pair.
  case case1 | case2 | case3 | case4 | case7 => exact (putInt_length _ _).symm
  case case8 => exact prepBytes_eq none
  case case9 b => exact prepBytes_eq (some b)
  case case11 b => exact prepVarintBytes_eq (some b)
  case case12 b => exact prepCompactBytes_eq b
  case case13 s => exact prepString_eq s
  case case14 => exact prepNullableString_eq none
  case case15 s => exact prepNullableString_eq (some s)
  case case16 s => exact prepCompactString_eq s
  case case17 => exact prepNullableCompactString_eq none
  case case18 s => exact prepNullableCompactString_eq (some s)
  case case19 vs | case20 vs => exact prepIntArray_eq _ _
  case case21 vs => exact prepCompactInt32Array_eq _
  case case23 vs => exact prepNullableCompactInt32Array_eq (some _)
  case case24 vs => exact prepStringArray_eq _
  -- `sizeP` and `encP` have the same patterns: what falls through the one falls through the other
  case case27 => rw [encP.eq_27]; rfl; all_goals assumption
  -- varint, uvarint, tagged, raw and the null forms of vbytes and nci32arr: by definition
  all_goals rfl

theorem mapFst_some {α β γ : Type} (f : α → γ) {g : Option (α × β)} {a : α} {b : β} (e : g = some (a, b)) :
    mapFst f g = some (f a, b) := by rw [e]; rfl

theorem forall_eq_some {α : Type} {P : α → Prop} {a : α} (h : P a) : ∀ b, some a = some b → P b :=
  fun _ e => Option.some.inj e ▸ h
theorem forall_eq_none {α : Type} {P : α → Prop} : ∀ b, (none : Option α) = some b → P b := fun _ e => nomatch e

theorem decP_encP (p : Prim) (v : Val) (rest : Bytes) (h : wtP p v = true) :
    decP p (encP p v ++ rest) = some (v, rest) := by
  have intArray (n : Nat) (hn : 0 < n) (vs : List Val) (hl : vs.length < 2 ^ 31) (hv : allInt n vs = true) :
      mapFst (fun xs => Val.list (xs.map Val.int)) (getIntArray n (putIntArray n (intsOf vs) ++ rest)) =
        some (.list vs, rest) := by
    have hs := allInt_spec n vs hv
    exact (mapFst_some _ (getIntArray_put n hn _ rest (intsOf_length vs ▸ hl) hs.2)).trans (by rw [hs.1])
  revert h
  fun_cases wtP p v <;> intro h
  -- The cases are the equations of `wtP` in order, numbered as in `sizeP_eq`.  `(e :)`: the round trip
  -- of the getter/putter pair is stated first and then matched with `decP`/`encP` by unfolding; left to unify
  -- against the goal, Lean unfolds the putters instead.
  case case1 x => exact (mapFst_some Val.int (getInt_putInt 1 x rest (by decide) (of_decide_eq_true h)) :)
  case case2 x => exact (mapFst_some Val.int (getInt_putInt 2 x rest (by decide) (of_decide_eq_true h)) :)
  case case3 x => exact (mapFst_some Val.int (getInt_putInt 4 x rest (by decide) (of_decide_eq_true h)) :)
  case case4 x => exact (mapFst_some Val.int (getInt_putInt 8 x rest (by decide) (of_decide_eq_true h)) :)
  case case5 x => exact (mapFst_some Val.int (getVarint_putVarint x rest (of_decide_eq_true h)) :)
  case case6 x =>
    have h := of_decide_eq_true h
    refine (mapFst_some (fun n : Nat => Val.int n)
      (getUVarint_putUVarint x.toNat rest ((Int.toNat_lt h.1).mpr h.2)) :).trans ?_
    rw [Int.toNat_of_nonneg h.1]
  case case7 x =>
    refine (mapFst_some (fun b : Bool => Val.int (if b then 1 else 0)) (getBool_putBool (x != 0) rest) :).trans ?_
    rcases of_decide_eq_true h with rfl | rfl <;> rfl
  case case8 => exact (mapFst_some optBytesVal (getBytes_putBytes none rest forall_eq_none) :)
  case case9 b =>
    exact (mapFst_some optBytesVal (getBytes_putBytes (some b) rest (forall_eq_some (of_decide_eq_true h))) :)
  case case10 => exact (mapFst_some optBytesVal (getVarintBytes_put none rest forall_eq_none) :)
  case case11 b =>
    exact (mapFst_some optBytesVal (getVarintBytes_put (some b) rest (forall_eq_some (of_decide_eq_true h))) :)
  case case12 b => exact (mapFst_some Val.bytes (getCompactBytes_put b rest (of_decide_eq_true h)) :)
  case case13 s => exact (mapFst_some Val.bytes (getString_putString s rest (of_decide_eq_true h)) :)
  case case14 => exact (mapFst_some optBytesVal (getNullableString_put none rest forall_eq_none) :)
  case case15 s =>
    exact (mapFst_some optBytesVal (getNullableString_put (some s) rest (forall_eq_some (of_decide_eq_true h))) :)
  case case16 s => exact (mapFst_some Val.bytes (getCompactString_put s rest (of_decide_eq_true h)) :)
  case case17 => exact (mapFst_some optBytesVal (getCompactNullableString_put none rest forall_eq_none) :)
  case case18 s =>
    exact (mapFst_some optBytesVal (getCompactNullableString_put (some s) rest (forall_eq_some (of_decide_eq_true h))) :)
  case case19 vs =>
    have h := Bool.and_eq_true_iff.mp h
    exact (intArray 4 (by decide) vs (of_decide_eq_true h.1) h.2 :)
  case case20 vs =>
    have h := Bool.and_eq_true_iff.mp h
    exact (intArray 8 (by decide) vs (of_decide_eq_true h.1) h.2 :)
  case case21 vs | case23 vs =>
    have h := Bool.and_eq_true_iff.mp h
    have hs := allInt_spec 4 vs h.2
    unfold decP  -- for the same reason: the function under `mapFst` is read off the goal
    refine (mapFst_some _ (getCompactInt32Array_put _ rest (intsOf_length vs ▸ of_decide_eq_true h.1) hs.2)).trans ?_
    exact congrArg (fun l => some (Val.list l, rest)) hs.1
  case case22 =>
    show decP .nci32arr (putNullableCompactInt32Array none ++ rest) = _
    unfold decP
    exact mapFst_some _ (getCompactInt32Array_putNullable none rest fun _ e => nomatch e)
  case case24 vs =>
    have h := Bool.and_eq_true_iff.mp h
    have hs := allStr_spec vs h.2
    refine (mapFst_some (fun ss => Val.list (ss.map Val.bytes))
      (getStringArray_put _ rest (bytesOf_length vs ▸ of_decide_eq_true h.1) hs.2) :).trans ?_
    rw [hs.1]
  case case25 => exact (mapFst_some (fun _ => Val.unit) (getEmptyTagged_put rest) :)
  case case26 n b => exact (mapFst_some Val.bytes (of_decide_eq_true h ▸ getRaw_append b rest) :)
  case case27 => exact Bool.noConfusion h

theorem prepCount_eq (c : Count) (n : Option Nat) : prepCount c n = (putCount c n).length := by
  cases c <;> cases n
  case i32.some k | i32null.some k | i32null.none => exact (putInt_length 4 _).symm
  all_goals rfl

theorem getCount_putCount_some (c : Count) (n : Nat) (body rest : Bytes)
    (h : countOK c n body.length = true) :
    getCount c (putCount c (some n) ++ (body ++ rest)) = some (some n, body ++ rest) := by
  have hlen : body.length ≤ (body ++ rest).length := by rw [List.length_append]; exact Nat.le_add_right ..
  have hneg : ¬ (n : Int) < 0 := Int.not_lt.mpr (Int.natCast_nonneg n)
  have arrLen (h : n ≤ 131070 ∧ n ≤ body.length) :
      getArrayLength (putArrayLength n ++ (body ++ rest)) = some ((n : Int), body ++ rest) :=
    getArrayLength_put n _ (inInt_len 4 n (Nat.lt_of_le_of_lt h.1 (by decide)))
      (Int.ofNat_le.mpr (Nat.le_trans h.2 hlen)) (Int.ofNat_le.mpr h.1) (Int.le_trans (by decide) (Int.natCast_nonneg n))
  cases c <;> unfold getCount putCount <;> dsimp only
  case i32 =>
    rw [arrLen (of_decide_eq_true h)]
    exact (if_neg hneg).trans (by rw [Int.toNat_natCast])
  case i32null =>
    rw [arrLen (of_decide_eq_true h)]
    exact (if_neg (natCast_ne_neg_one n)).trans ((if_neg hneg).trans (by rw [Int.toNat_natCast]))
  case compact =>
    have h : n + 1 < 2 ^ 64 ∧ n ≤ body.length := of_decide_eq_true h
    rw [getCompactArrayLength_put n _ h.1 (Nat.le_trans h.2 hlen)]
  case varint =>
    have h : n < 2 ^ 63 ∧ n ≤ body.length := of_decide_eq_true h
    rw [getVarint_putVarint n _ (inInt_len 8 n h.1)]
    exact (if_neg (Int.not_lt.mpr (Int.ofNat_le.mpr (Nat.le_trans h.2 hlen)))).trans (by rw [Int.toNat_natCast])

theorem getCount_putCount_null (rest : Bytes) :
    getCount .i32null (putCount .i32null none ++ rest) = some (none, rest) := by
  unfold getCount putCount; dsimp only
  rw [getArrayLength_put (-1) rest (by decide) (by omega) (by decide) (by decide)]
  rfl

theorem size_eq_enc_length (f : Fmt) (ver : Nat) : ∀ v : Val, size f ver v = (enc f ver v).length := by
  induction f with
  | prim p => exact sizeP_eq p
  | unit => exact fun _ => rfl
  | seq a b iha ihb =>
    intro v
    cases v
    case pair x y => unfold size enc; rw [List.length_append, iha, ihb]
    all_goals rfl
  | ite lo hi a b iha ihb =>
    intro v; unfold size enc; split
    · exact iha v
    · exact ihb v
  | arr c e ih =>
    intro v
    cases v
    case null => exact prepCount_eq c none
    case list vs =>
      unfold size enc
      rw [List.length_append, prepCount_eq, length_flatten_map (enc e ver) (size e ver) vs ih]
    all_goals rfl
  | len32 f ih => intro v; unfold size enc; rw [putLen32, List.length_append, putInt_length, ih]
  | varlen f ih => intro v; unfold size enc; rw [putVarLen, List.length_append, ih]; rfl
  | crc p f ih => intro v; unfold size enc; rw [putCrc, List.length_append, be_length, ih]

theorem allWT_spec (w : Val → Bool) (vs : List Val) (h : allWT w vs = true) : ∀ v ∈ vs, w v = true := by
  induction vs with
  | nil => exact fun _ hv => nomatch hv
  | cons x xs ih =>
    have h := Bool.and_eq_true_iff.mp h
    exact List.forall_mem_cons.mpr ⟨h.1, ih h.2⟩

theorem length_append_sub (a rest : Bytes) : (a ++ rest).length - rest.length = a.length := by
  rw [List.length_append, Nat.add_sub_cancel]

theorem decMany_flatten (d : Bytes → Option (Val × Bytes)) (g : Val → Bytes) (vs : List Val) (rest : Bytes)
    (h : ∀ v ∈ vs, ∀ r, d (g v ++ r) = some (v, r)) :
    decMany d vs.length ((vs.map g).flatten ++ rest) = some (vs, rest) :=
  getMany_flatten (decMany d) d g (fun _ => rfl) (fun _ _ _ _ _ _ h1 h2 => by simp only [decMany, h1, h2]) vs rest h

theorem dec_enc (f : Fmt) (ver : Nat) : ∀ (v : Val) (rest : Bytes), WT f ver v = true →
    dec f ver (enc f ver v ++ rest) = some (v, rest) := by
  induction f with
  | prim p => exact decP_encP p
  | unit =>
    intro v rest h
    cases v
    case unit => rfl
    all_goals exact Bool.noConfusion h
  | seq a b iha ihb =>
    intro v rest h
    cases v
    case pair x y =>
      have h := Bool.and_eq_true_iff.mp h
      unfold enc dec
      rw [List.append_assoc, iha x _ h.1]
      dsimp only
      rw [ihb y _ h.2]
    all_goals exact Bool.noConfusion h
  | ite lo hi a b iha ihb =>
    intro v rest h
    unfold WT at h
    unfold enc dec
    split
    · rename_i hc; exact iha v rest (by rwa [if_pos hc] at h)
    · rename_i hc; exact ihb v rest (by rwa [if_neg hc] at h)
  | arr c e ih =>
    intro v rest h
    cases v
    case null =>
      have h : c = .i32null := eq_of_beq h
      subst h
      unfold enc dec
      rw [getCount_putCount_null]
    case list vs =>
      have h := Bool.and_eq_true_iff.mp h
      unfold enc dec
      rw [List.append_assoc, getCount_putCount_some c vs.length _ rest h.2]
      dsimp only
      rw [decMany_flatten (dec e ver) (enc e ver) vs rest fun v hv r => ih v r (allWT_spec _ _ h.1 v hv)]
    all_goals exact Bool.noConfusion h
  | len32 f ih =>
    intro v rest h
    have h : WT f ver v = true ∧ (enc f ver v).length < 2 ^ 31 := (Bool.and_eq_true_iff.mp h).imp_right of_decide_eq_true
    unfold enc dec
    rw [putLen32, List.append_assoc, getInt_putInt 4 _ _ (by decide) (inInt_len 4 _ h.2)]
    dsimp only
    rw [if_neg (by rw [List.length_append]; omega), ih v rest h.1]
    dsimp only
    rw [length_append_sub, if_pos rfl]
  | varlen f ih =>
    intro v rest h
    have h : WT f ver v = true ∧ (enc f ver v).length < 2 ^ 63 := (Bool.and_eq_true_iff.mp h).imp_right of_decide_eq_true
    unfold enc dec
    rw [putVarLen, size_eq_enc_length, List.append_assoc, getVarint_putVarint _ _ (inInt_len 8 _ h.2)]
    dsimp only
    rw [ih v rest h.1]
    dsimp only
    rw [length_append_sub, if_pos rfl]
  | crc p f ih =>
    intro v rest h
    unfold enc dec
    rw [putCrc, List.append_assoc, getUInt_be 4 _ _ (crc32_lt p _)]
    dsimp only
    rw [ih v rest h]
    dsimp only
    rw [length_append_sub, List.take_left, if_pos rfl]

end Lemmas.C09
