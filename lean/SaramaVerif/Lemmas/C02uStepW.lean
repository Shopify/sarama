/-
  C02 composition, the invariant `GoodU`: the steps of a broker worker other than the answer reaching `l`.  Whatever
  its role - `l`, the worker the partition producer is (or was last) bound to, or an old worker, which holds nothing
  and only drains - what it bounces was counted in `lanes ++ tl` and jumps, in the view, over what is to be bounced
  before it, which the bands (`Bd`) cover by chasers below the block: `goodU_stepW`.  For `l` these are all the lanes
  (`GoodU.cover`), and taking a token moves its phase on (`WRep.bounce/add/syn/fin`); for an old worker the lanes of the
  older ones (`lanes_cover`, `goodU_old_step`).  Closing `l` (`Choice.closeW`) is the change of phase of a failed set
  (`WRep.fail`, `VInv.fail`) with nothing held.  Last, each choice for a worker in either role (`goodU_bpRecv`,
  `goodU_handover`, `goodU_broker`).
-/
import SaramaVerif.Lemmas.C02uStepQ
import SaramaVerif.Lemmas.C02sysView2
import SaramaVerif.Lemmas.C02sysOutcome

namespace Lemmas.C02sys
open Model Model.Pipeline

variable {M : Nat} {K : Prop} {s s' : Sys} {olds : List Nat} {l : Nat} {v : View}

theorem stepW_lanes {w : Nat} (hf : StepW s s' w) (hw : w ∉ olds) : lanes M s' olds = lanes M s olds :=
  lanes_same fun u hu => hf.other u fun e => hw (e ▸ hu)

theorem oldU_of {w : Nat} {x : Worker} (hx : s.wk w = x) (hi : insideB x.bp = [])
    (hq : x.inq = [] ∨ ∃ q k, x.inq = q ++ [finTok k] ∧ k < M ∧
      (x.bp.closing = true ∨ (x.bp.cr 0 = true ∧ AllData q))) : OldU M s w := by
  subst hx; exact ⟨hi, hq⟩

/-- an old worker that takes the head `t` of its channel and keeps its mode stays one: behind a chaser that is not
    the final one, or a syn, it is closing -/
theorem oldU_tail {w : Nat} {t : Tok} {r : List Tok} {x : Worker} (h : OldU M s w) (hq : (s.wk w).inq = t :: r)
    (hx : s'.wk w = x) (hr : x.inq = r) (hi : insideB x.bp = []) (hcl : x.bp.closing = (s.wk w).bp.closing)
    (hcr : t.kind = .data → x.bp.cr 0 = (s.wk w).bp.cr 0) : OldU M s' w := by
  obtain ⟨q, k, e, hk, hm⟩ := h.2.resolve_left (by rw [hq]; exact nofun)
  rw [hq] at e
  refine oldU_of hx hi ?_
  rcases List.cons_eq_append_iff.1 e with ⟨_, e2⟩ | ⟨q', rfl, e2⟩
  · exact .inl (hr.trans (List.cons.inj e2).2.symm)
  · exact .inr ⟨q', k, hr.trans e2, hk, hm.imp (hcl.trans ·) fun a =>
      ⟨(hcr (a.2 t (List.mem_cons_self ..))).trans a.1, fun y hy => a.2 y (List.mem_cons_of_mem _ hy)⟩⟩

theorem repU_stepW {w : Nat} {y : Worker} {I gw tl : List Tok} {g : Bool} (hf : StepW s s' w) (hy : s'.wk l = y)
    (hI : insideB y.bp = I) (hwr : WRep M l s.cur y.inq y.bp.closing (y.bp.cr 0) I gw tl g)
    (hbd : Bd K (lanes M s' olds) tl) :
    RepU M K s' olds l ⟨s.pp, gw, s.pq ++ s.dq ++ s'.ret ++ (lanes M s' olds ++ tl), g⟩ :=
  ⟨gw, tl, g, by rw [hf.cur, insW, hy, hI]; exact hwr, by rw [hf.pp, hf.pq, hf.dq], hbd⟩

/-- a step of worker `w` (its new state: `x`), `l` or an old worker that stays one, that moves the block `B` of what
    is still to be bounced to the retries queue (`hret`): in the view `B` jumps over `Y`, whose tokens are covered by
    chasers below `B` (`hc`).  What is still to be bounced reads `Y ++ B ++ Z` before the step (`hW`: the lanes, then
    `tl` of `l`) and `Y ++ Z` after it (`hW'`: the new lanes `L`, then `tl'` of `l`): `Z` is what stands behind the
    block and stays.  `y` is `l` after the step, read by `hwr`.  `hlg`: the log clauses hold after the step against any
    view with no new live id (the view the step leads to is built here).  A step that bounces nothing is the case
    `Y = B = []`. -/
theorem goodU_stepW (h : GoodU M K s olds l v) {w : Nat} {x y : Worker} (hf : StepW s s' w) (hx : s'.wk w = x)
    (hq : x.inq <:+ (s.wk w).inq) (hrole : w = l ∨ (w ∈ olds ∧ OldU M s' w))
    (hlg : ∀ {v'}, (∀ a, LiveId v' a → LiveId v a) → LogInvU s' l v') {gw tl tl' L Y B Z : List Tok} {g : Bool}
    (hv : v = ⟨s.pp, gw, s.pq ++ s.dq ++ s.ret ++ (lanes M s olds ++ tl), g⟩) (hy : s'.wk l = y)
    (hwr : WRep M l s.cur y.inq y.bp.closing (y.bp.cr 0) (insideB y.bp) gw tl' g) (hL : lanes M s' olds = L)
    (hbd : Bd K L tl') (hret : s'.ret = s.ret ++ B) (hW : lanes M s olds ++ tl = Y ++ B ++ Z) (hW' : L ++ tl' = Y ++ Z)
    (hc : ∀ y ∈ Y, ∃ f ∈ Y, f.kind = .fin ∧ y.retries ≤ f.retries ∧ ∀ c ∈ B, f.retries < c.retries) :
    ∃ v', GoodU M K s' olds l v' := by
  subst hv hL
  have hav : s.pq ++ s.dq ++ s.ret ++ (lanes M s olds ++ tl) = s.pq ++ s.dq ++ s.ret ++ Y ++ B ++ Z := by
    rw [hW, ← List.append_assoc, ← List.append_assoc]
  obtain ⟨hB, hlow⟩ := jump_facts h.vinv (fun y hy => (hav.symm ▸
    List.mem_append_left Z (List.mem_append_left B (List.mem_append_right _ hy)) : y ∈ _ ++ (lanes M s olds ++ tl))) hc
  have hmv := h.vinv.moveBlock _ _ _ _ hav hB hlow
  have hp : (s.pq ++ s.dq ++ s.ret ++ B ++ Y ++ Z).Perm (s.pq ++ s.dq ++ s.ret ++ (lanes M s olds ++ tl)) := by
    rw [hav, List.append_assoc _ B, List.append_assoc _ Y]
    exact (List.perm_append_comm.append_left _).append_right _
  have hr := repU_stepW hf hy rfl hwr hbd
  rw [hW', hret, ← List.append_assoc (s.pq ++ s.dq), ← List.append_assoc _ Y] at hr
  exact ⟨_, hr, hmv.inv, h.conc.step hf hx hq hrole fun hcn z hz => h.conc.capN hcn z ((hp.filter _).subset hz),
    hlg hmv.live⟩

theorem goodU_bpRecv_l {ov : Bool} (hb : BaseU M s olds l) (h : GoodU M K s olds l v)
    (hs : sysStep M s (.bpRecv l ov) = some s') : ∃ v', GoodU M K s' olds l v' := by
  obtain ⟨t, r, b', X, e, hq, rfl, _, hsets, hcl, hcase⟩ := bpRecv_casesW (hb.pinv l (.inl rfl))
    (fun t ht => hb.p0w l (.inl rfl) t (List.mem_append_left _ ht)) (h.conc.finq l (.inl rfl)) hs
  obtain ⟨gw, tl, g, hwr, hv, hbd⟩ := h.rep
  rw [hq] at hwr
  have hrep : ∃ tl', tl = bumpF M X ++ tl' ∧ WRep M l s.cur r b'.closing (b'.cr 0) (insideB b') gw tl' g := by
    rw [hcl]
    rcases hcase with ⟨hk, hn, rfl, _, rfl⟩ | ⟨hk, hn, rfl, _, hcr, hi⟩ | ⟨hk, rfl, _, hcr, hi⟩ | ⟨hk, hlt, rfl, _, hi, hcr⟩
    · exact hwr.bounce hk hn
    · rw [hcr, hi]; exact ⟨tl, rfl, hwr.add hk hn⟩
    · rw [hcr, hi]; exact ⟨tl, rfl, hwr.syn hk⟩
    · rw [hi]; exact hwr.fin hk hlt hcr
  obtain ⟨tl', rfl, hwr'⟩ := hrep
  -- what is bounced (nothing, if the token is kept) was the head of `tl` and jumps over all the lanes
  have hf := stepW_workSw M s l ⟨r, b', (s.wk l).pend⟩ X s.succ e
  exact goodU_stepW h hf (hx := setW_same ..) (hq := hq ▸ List.suffix_cons t r) (hrole := .inl rfl)
    (hlg := fun hl => logU_stepW h.log hf (setW_same ..) rfl rfl rfl hl fun _ _ _ hp => ⟨hp, hsets⟩)
    (hv := hv) (hy := setW_same ..) (hwr := hwr') (hL := stepW_lanes hf h.conc.lNo)
    (hbd := hbd.sub (.refl _) (List.sublist_append_right ..)) (hret := rfl)
    (hW := (List.append_assoc ..).symm) (hW' := rfl)
    (hc := h.cover (hbd.sub (.refl _) (List.sublist_append_left ..)))

theorem goodU_handover_l (hb : BaseU M s olds l) (h : GoodU M K s olds l v)
    (hs : sysStep M s (.handover l) = some s') : ∃ v', GoodU M K s' olds l v' := by
  obtain ⟨hd, rfl⟩ := handover_work hs
  obtain ⟨a1, a2, a3, a4, _⟩ := handover_spec M (s.wk l).bp hd
  obtain ⟨gw, tl, g, hwr, hv, hbd⟩ := h.rep
  have hf := stepW_workSw M s l ⟨(s.wk l).inq, (BrokerProd.step M (s.wk l).bp .handover).1, (s.wk l).pend⟩ [] s.succ s.errs
  refine goodU_stepW (Y := []) (B := []) h hf (hx := setW_same ..) (hq := List.suffix_refl _) (hrole := .inl rfl)
    (hlg := fun hl => logU_stepW h.log hf (setW_same ..) rfl rfl rfl hl fun _ vd base hp => ?_)
    (hv := hv) (hy := setW_same ..) (hwr := by rw [a1, a2, a3]; exact hwr) (hL := stepW_lanes hf h.conc.lNo)
    (hbd := hbd) (hret := rfl) (hW := rfl) (hW' := rfl) (hc := fun _ hy => nomatch hy)
  -- no answer can be pending: the bridge was free
  obtain ⟨sent, hx⟩ := hb.pend l (.inl rfl) vd base hp
  rw [a4] at hx; cases hx

theorem goodU_broker_l {vd : Pipeline.Verdict} (hb : BaseU M s olds l) (h : GoodU M K s olds l v)
    (hs : sysStep M s (.broker l vd) = some s') : ∃ v', GoodU M K s' olds l v' := by
  cases step_iff.1 hs with
  | worker hf => cases hf
  | @broker _ _ sent rest hsets hpend =>
    obtain rfl : rest = [] := by
      have := (hb.pinv l (.inl rfl)).one; rw [hsets] at this
      exact List.eq_nil_of_length_eq_zero (Nat.eq_zero_of_le_zero (Nat.le_of_succ_le_succ this))
    -- the set at the bridge is the front of what `l` holds
    obtain ⟨gw, tl, g, hwr, hv, hbd⟩ := h.rep
    obtain ⟨G, hgw⟩ := WRep.held (sent := sent) (by
      rw [← List.append_assoc, ← inside_one hsets]; exact hwr)
    obtain ⟨hcore, hlen⟩ := h.log.toLogCore.broker h.vinv (sent := sent) (by rw [hv]; exact hgw) vd.appends
    refine goodU_stepW (Y := []) (B := []) h (stepW_setW ..) (hx := setW_same ..) (hq := List.suffix_refl _)
      (hrole := .inl rfl) (hlg := fun hl => ⟨hcore.mono hl, fun vd' base sent' hp hs' => ?_⟩)
      (hv := hv) (hy := setW_same ..) (hwr := hwr) (hL := stepW_lanes (stepW_setW ..) h.conc.lNo)
      (hbd := hbd) (hret := (List.append_nil _).symm) (hW := rfl) (hW' := rfl) (hc := fun _ hy => nomatch hy)
    -- the answer that is now pending: the set, with the log length before the append as base offset
    dsimp only at hp hs' ⊢
    rw [setW_same] at hp hs'
    obtain ⟨rfl, rfl⟩ := Prod.mk.inj (Option.some.inj hp)
    cases List.singleton_inj.1 (hs'.symm.trans hsets)
    exact ⟨h.log.S5, fun hok => by subst hok; exact Nat.le_of_eq hlen⟩

/-- closing `l`, which holds nothing: what it would have accepted it is going to bounce, one level above the
    watermark and so above every chaser of the view -/
theorem goodU_closeW {w : Nat} (h : GoodU M K s olds l v) (hs : sysStep M s (.closeW w) = some s') :
    ∃ v', GoodU M K s' olds l v' := by
  cases step_iff.1 hs with
  | worker hf => cases hf
  | closeW hg =>
    obtain ⟨hc, _, hcl, hcr, hsets, hbuf, hwait, _⟩ := canClose_facts hg
    obtain rfl : w = l := Option.some.inj (hc.symm.trans (h.conc.cur.resolve_left fun e => nomatch hc.symm.trans e))
    have hins : insW s w = [] := by simp [insW, insideB, Props.C02bp.inside, hsets, hbuf, hwait]
    obtain ⟨gw, tl, g, hwr, rfl, hbd⟩ := h.rep
    rw [hins] at hwr
    obtain ⟨rfl, rfl, tl', e, hwr'⟩ := hwr.fail (cl' := true) (cr' := (s.wk w).bp.cr 0) (by rw [hcl, hcr]; rfl) (.inl rfl)
    obtain rfl : tl' = bumpF M gw := e.symm
    rw [List.append_nil] at h
    have hfl := h.vinv.fail M rfl
    dsimp only at hfl
    rw [List.append_assoc _ (lanes M s olds)] at hfl
    have hN := rb_bumped h.vinv (N := bumpF M gw) fun c hc => by
      obtain ⟨y, hy, _, rfl⟩ := mem_bumpF hc; exact ⟨y, hy, rfl⟩
    have hbd' := hbd.app hN.1 fun a ha c hc =>
      hN.2 a (List.mem_append_right _ (List.append_nil (lanes M s olds) ▸ ha)) c hc
    have hf : StepW s { s with wk := setW s.wk w ⟨(s.wk w).inq, closeBp (s.wk w).bp, none⟩ } w := stepW_setW ..
    have hla := stepW_lanes (M := M) hf h.conc.lNo
    exact ⟨_, hla ▸ repU_stepW hf (setW_same ..) hins hwr' (hla ▸ hbd'), hfl.inv,
      h.conc.step hf (setW_same ..) (List.suffix_refl _) (.inl rfl) (fun hcn => nomatch hc.symm.trans hcn),
      logU_stepW h.log hf (setW_same ..) rfl rfl rfl hfl.live (fun _ _ _ hp => nomatch hp)⟩

/-- a step of the old worker `w` (its new state: `x`) that bounces the tokens `T` (at most the head) of its channel:
    in the view they jump over the lanes of the workers older than `w` -/
theorem goodU_old_step (h : GoodU M K s olds l v) {w : Nat} (hw : w ∈ olds) {x : Worker} {T : List Tok}
    (hf : StepW s s' w) (hx : s'.wk w = x) (hret : s'.ret = s.ret ++ bumpF M T) (hn : s'.next = s.next)
    (hlog : s'.log = s.log) (hsucc : s'.succ = s.succ) (hq : x.inq <:+ (s.wk w).inq)
    (hns : nosynq (s.wk w).inq = T ++ nosynq x.inq) (hold : OldU M s' w) : ∃ v', GoodU M K s' olds l v' := by
  obtain ⟨gw, tl, g, hwr, hv, hbd⟩ := h.rep
  obtain ⟨pre, post, ho⟩ := List.append_of_mem hw
  obtain ⟨hpre, hpost⟩ := nodup_split (ho ▸ h.conc.nodup)
  have hne : l ≠ w := fun e => h.conc.lNo (e ▸ hw)
  have hlo : lanes M s olds = lanes M s pre ++ bumpF M T ++ (bumpF M (nosynq x.inq) ++ lanes M s post) := by
    rw [ho, lanes_append, lanes_cons, lane, hns, bumpF_append, List.append_assoc, ← List.append_assoc]
  have hln : lanes M s' olds = lanes M s pre ++ (bumpF M (nosynq x.inq) ++ lanes M s post) := by
    rw [ho, lanes_append, lanes_cons, stepW_lanes hf hpre, stepW_lanes hf hpost, lane, hx]
  -- the lanes in front of `w` are covered by chasers below everything bounced after them
  have hc := lanes_cover (fun u hu => h.conc.oldok u (ho ▸ List.mem_append_left _ hu))
    (by have := hbd.old; rwa [hlo, List.append_assoc] at this)
  refine goodU_stepW h hf (hx := hx) (hq := hq) (hrole := .inr ⟨hw, hold⟩)
    (hlg := fun hl => logU_stepW h.log hf hx hn hlog hsucc hl fun e => absurd e.symm hne)
    (hv := hv) (hy := hf.other l hne) (hwr := hwr) (hL := hln) (hbd := hbd.sub ?_ (.refl _)) (hret := hret)
    (hW := by rw [hlo, List.append_assoc]) (hW' := List.append_assoc ..)
    (hc := fun y hy => (hc y hy).imp fun f hf =>
      ⟨hf.1, hf.2.1, hf.2.2.1, fun c hc => hf.2.2.2 c (List.mem_append_left _ hc)⟩)
  rw [hlo, List.append_assoc]
  exact (List.Sublist.refl _).append (List.sublist_append_right ..)

theorem goodU_bpRecv_old {w : Nat} {ov : Bool} (hb : BaseU M s olds l) (h : GoodU M K s olds l v) (hw : w ∈ olds)
    (hs : sysStep M s (.bpRecv w ov) = some s') : ∃ v', GoodU M K s' olds l v' := by
  obtain ⟨t, r, b', X, e, hq, rfl, _, _, hcl, hcase⟩ := bpRecv_casesW (hb.pinv w (.inr hw))
    (fun t ht => hb.p0w w (.inr hw) t (List.mem_append_left _ ht)) (h.conc.finq w (.inr hw)) hs
  have hold := h.conc.oldok w hw
  have step : insideB b' = [] → (t.kind = .data → b'.cr 0 = (s.wk w).bp.cr 0) → nosynq (t :: r) = X ++ nosynq r →
      ∃ v', GoodU M K (workSw M s w ⟨r, b', (s.wk w).pend⟩ X s.succ e) olds l v' := fun hi hcr hns =>
    goodU_old_step h hw (stepW_workSw ..) (setW_same ..) rfl rfl rfl rfl (hq ▸ List.suffix_cons ..) (hq ▸ hns)
      (oldU_tail hold hq (setW_same ..) rfl hi hcl hcr)
  rcases hcase with ⟨hkd, _, rfl, _, rfl⟩ | ⟨_, hn, _⟩ | ⟨hks, rfl, _, _, hi⟩ | ⟨hkf, _, rfl, _, hi, _⟩
  · exact step hold.1 (fun _ => rfl) (nosynq_cons_data _ (by rw [hkd]; exact nofun))
  · -- until its final chaser is out an old worker refuses the partition
    obtain ⟨_, _, _, _, hm⟩ := hold.2.resolve_left (by rw [hq]; exact nofun)
    obtain ⟨c1, c2⟩ := Bool.or_eq_false_iff.1 ((needsRetry_iff _).symm.trans hn)
    exact hm.elim (fun c => by cases c.symm.trans c1) (fun c => by cases c.1.symm.trans c2)
  · exact step (hi.trans hold.1) (fun hk => by rw [hks] at hk; cases hk) (nosynq_cons_syn _ hks)
  · exact step (hi.trans hold.1) (fun hk => by rw [hkf] at hk; cases hk) (nosynq_cons_data _ (by rw [hkf]; exact nofun))

theorem goodU_handover_old {w : Nat} (h : GoodU M K s olds l v) (hw : w ∈ olds)
    (hs : sysStep M s (.handover w) = some s') : ∃ v', GoodU M K s' olds l v' := by
  obtain ⟨hd, rfl⟩ := handover_work hs
  obtain ⟨a1, a2, a3, _⟩ := handover_spec M (s.wk w).bp hd
  obtain ⟨hins, hshape⟩ := h.conc.oldok w hw
  exact goodU_old_step (T := []) h hw (stepW_workSw ..) (setW_same ..) rfl rfl rfl rfl (List.suffix_refl _) rfl
    (oldU_of (setW_same ..) (a3.trans hins) (by rw [a1, a2]; exact hshape))

theorem goodU_broker_old {w : Nat} {vd : Pipeline.Verdict} (h : GoodU M K s olds l v) (hw : w ∈ olds)
    (hs : sysStep M s (.broker w vd) = some s') : ∃ v', GoodU M K s' olds l v' := by
  cases step_iff.1 hs with
  | worker hf => cases hf
  | @broker _ _ sent rest hsets hpend =>
    obtain ⟨hins, hshape⟩ := h.conc.oldok w hw
    -- the set at the bridge of a worker that holds nothing is empty: nothing is appended to the log
    have hsent : sent = [] := by
      have : (s.wk w).bp.sets.flatten ++ (s.wk w).bp.buffer ++ (s.wk w).bp.wait.toList = [] := hins
      rw [hsets, List.flatten_cons] at this
      exact (List.append_eq_nil_iff.1 (List.append_eq_nil_iff.1 (List.append_eq_nil_iff.1 this).1).1).1
    subst hsent
    exact goodU_old_step (T := []) h hw (stepW_setW ..) (setW_same ..)
      (List.append_nil _).symm rfl
      (by show (if vd.appends then s.log ++ dataIds [] else s.log) = s.log
          rw [show dataIds [] = [] from rfl, List.append_nil, ite_self])
      rfl (List.suffix_refl _) rfl (oldU_of (setW_same ..) hins hshape)

theorem resp_empty (hM : 1 ≤ M) {x : BrokerProd.St} {st : BrokerProd.St × List BrokerProd.Action}
    (hpi : Props.C02bp.PInv x) (hin : insideB x = []) (vd : Pipeline.Verdict) (still : Bool)
    (hst : BrokerProd.step M x (.resp vd.toResp still) = st) (hd : st.2 ≠ [.disabled]) :
    insideB st.1 = [] ∧ Bounces M st.2 [] ∧ (st.1.closing = true ∨ (st.1.closing = x.closing ∧ st.1.cr = x.cr)) := by
  obtain ⟨sent, hsets⟩ := resp_disabled M x vd.toResp still hpi.one (hst ▸ hd)
  rcases resp_cases hM hpi (hin ▸ nofun) hsets vd still hst with ⟨a1, a2, hi, r1, hout⟩ | ⟨a4, r, hm⟩
  · obtain ⟨rfl, hi'⟩ := List.append_eq_nil_iff.1 (hi.symm.trans hin)
    exact ⟨hi', ⟨r1, hout.elim (fun h => h.2) id⟩, .inr ⟨a1, a2⟩⟩
  · exact ⟨a4, hin ▸ r, hm.imp (·.1) fun a => absurd hin a.2.2⟩

theorem goodU_deliver_old (hM : 1 ≤ M) {w : Nat} {still : Bool} (hb : BaseU M s olds l) (h : GoodU M K s olds l v)
    (hw : w ∈ olds) (hs : sysStep M s (.deliver w still) = some s') : ∃ v', GoodU M K s' olds l v' := by
  obtain ⟨vd, base, _, hd, rfl⟩ := step_deliver.1 hs
  have hold := h.conc.oldok w hw
  obtain ⟨a1, a2, a3⟩ := resp_empty hM (hb.pinv w (.inr hw)) hold.1 vd still rfl hd
  rw [afterW_quiet rfl a2]
  exact goodU_old_step (T := []) h hw (stepW_workSw ..) (setW_same ..) rfl rfl rfl rfl (List.suffix_refl _) rfl
    (oldU_of (setW_same ..) a1 (hold.2.imp_right fun ⟨q, k, e, hk, hm⟩ => ⟨q, k, e, hk,
      a3.elim .inl fun c => hm.imp (c.1.trans ·) fun a => ⟨(congrFun c.2 0).trans a.1, a.2⟩⟩))

variable {w : Nat}

theorem goodU_bpRecv {ov : Bool} (hb : BaseU M s olds l) (h : GoodU M K s olds l v) (hw : w = l ∨ w ∈ olds)
    (hs : sysStep M s (.bpRecv w ov) = some s') : ∃ v', GoodU M K s' olds l v' :=
  hw.elim (fun e => goodU_bpRecv_l hb h (e ▸ hs)) (fun ho => goodU_bpRecv_old hb h ho hs)

theorem goodU_handover (hb : BaseU M s olds l) (h : GoodU M K s olds l v) (hw : w = l ∨ w ∈ olds)
    (hs : sysStep M s (.handover w) = some s') : ∃ v', GoodU M K s' olds l v' :=
  hw.elim (fun e => goodU_handover_l hb h (e ▸ hs)) (fun ho => goodU_handover_old h ho hs)

theorem goodU_broker {vd : Pipeline.Verdict} (hb : BaseU M s olds l) (h : GoodU M K s olds l v) (hw : w = l ∨ w ∈ olds)
    (hs : sysStep M s (.broker w vd) = some s') : ∃ v', GoodU M K s' olds l v' :=
  hw.elim (fun e => goodU_broker_l hb h (e ▸ hs)) (fun ho => goodU_broker_old h ho hs)

end Lemmas.C02sys
