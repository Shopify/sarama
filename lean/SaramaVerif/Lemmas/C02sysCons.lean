/-
  C02 composition: conservation of tokens in the single-worker system.
  `census M s i` = how often the id `i` occurs among the data tokens of all places (queues, partition producer
  buffers, worker 0) plus the terminal outcomes (successes, errors); `Cons`: every submitted id is counted once, nothing
  else is.  First the counting lemmas (bouncing, `PartProd.recv`: `recv_count`), then a lemma for each choice that
  runs a component or submits (`cons_submit`, `cons_bpRecv`, `cons_handover`, `cons_deliver`, `cons_ppRecv`); the
  sweep over the choices is `cons_step`, Props/C02sys.lean, where the other four choices leave the census as it is
  (`census_queues`, or by unfolding).  For the partition producer no view is needed: its actions move into the census
  exactly the messages they forward (`census_ppActs`, for ANY action list, as long as it is bound to worker 0 or to
  none and the look-ups find worker 0 or fail; what a list of actions forwards as messages is
  `dataIds (emToks as)`), and `PartProd.recv` forwards or parks the message it takes.
-/
import SaramaVerif.Lemmas.C02sysEmit
import SaramaVerif.Lemmas.C02sysOutcome

namespace Lemmas.C02sys
open Model Model.Pipeline

/-- ids parked in the retry buffers of levels `< B` -/
def bufIdsUpTo (B : Nat) (bufs : Nat → List PartProd.Tok) : List Int :=
  (List.range B).flatMap (fun k => (bufs k).map (·.id))

def census (M : Nat) (s : Sys) (i : Int) : Nat :=
  (dataIds s.pq).count i + (dataIds s.dq).count i + (dataIds s.ret).count i + (dataIds (W s).inq).count i +
  (dataIds (ins s)).count i + (bufIdsUpTo (M + 1) s.pp.bufs).count i + (s.succ.map (·.1)).count i + s.errs.count i

theorem dataIds_cons_data {t : Tok} (l : List Tok) (h : t.kind = .data) : dataIds (t :: l) = t.id :: dataIds l := by
  simp [dataIds, h]

theorem dataIds_cons_not {t : Tok} (l : List Tok) (h : t.kind ≠ .data) : dataIds (t :: l) = dataIds l := by
  simp [dataIds, h]

theorem count_dataIds_cons (t : Tok) (r : List Tok) (i : Int) :
    (dataIds (t :: r)).count i = (dataIds [t]).count i + (dataIds r).count i := by
  rw [← List.count_append, ← dataIds_append]; rfl

theorem count_bounce (M : Nat) (X : List Tok) (i : Int) :
    (dataIds (bumpF M X)).count i + (errOut M X).count i = (dataIds X).count i := by
  induction X with
  | nil => rfl
  | cons t r ih =>
    rw [bumpF_cons, show t :: r = [t] ++ r from rfl, errOut_append, dataIds_append, dataIds_append,
      List.count_append, List.count_append, List.count_append]
    have h1 : (dataIds (bumpF M [t])).count i + (errOut M [t]).count i = (dataIds [t]).count i := by
      rcases Nat.lt_or_ge t.retries M with hm | hm
      · rw [(bump1_lt hm).1, (bump1_lt hm).2]
        by_cases hk : t.kind = .data
        · rw [dataIds_cons_data _ (show (bump t).kind = .data from hk), dataIds_cons_data _ hk]; rfl
        · rw [dataIds_cons_not _ (show (bump t).kind ≠ .data from hk), dataIds_cons_not _ hk]; rfl
      · rw [(bump1_ge hm).1, (bump1_ge hm).2]; exact Nat.zero_add _
    rw [Nat.add_add_add_comm, h1, ih]

theorem offs_ids (l : List Tok) (off : Nat) : (offs l off).map (·.1) = l.map (·.id) := by
  induction l generalizing off with
  | nil => rfl
  | cons t r ih => simp [offs, ih]

theorem count_range_flatMap_set (B : Nat) (bufs : Nat → List PartProd.Tok) (j : Nat) (v : List PartProd.Tok)
    (i : Int) (hj : j < B) :
    (bufIdsUpTo B (PartProd.setBuf bufs j v)).count i + ((bufs j).map (·.id)).count i =
      (bufIdsUpTo B bufs).count i + (v.map (·.id)).count i := by
  have := sum_map_update (f := fun k => ((bufs k).map (·.id)).count i)
    (g := fun k => ((PartProd.setBuf bufs j v k).map (·.id)).count i) (l := j)
    (fun k hk => by simp only [PartProd.setBuf, hk, if_false]) (List.range B) List.nodup_range
  simpa only [List.mem_range, hj, if_true, PartProd.setBuf, bufIdsUpTo, List.count_flatMap, Function.comp_def] using this

theorem dataIds_buf (l : List PartProd.Tok) (h : ∀ x ∈ l, x.fin = false) :
    dataIds (emToks (l.map fun t => PartProd.Action.emit t.id t.retries t.fin)) = l.map (·.id) := by
  rw [emToks_buf, dataIds_allData, List.map_map]; rfl
  intro x hx
  obtain ⟨t, ht, rfl⟩ := List.mem_map.1 hx
  rw [ofPP, h t ht]; rfl

/-- flushRetryBuffers conserves: the buffers hold messages only, and what leaves them is forwarded -/
theorem flush_dataIds (B : Nat) (i : Int) (e : Nat → Bool) : ∀ (h : Nat) (bufs : Nat → List PartProd.Tok), h ≤ B →
    (∀ l, ∀ x ∈ bufs l, x.fin = false) →
    (bufIdsUpTo B (PartProd.flush h bufs e).2.1).count i + (dataIds (emToks (PartProd.flush h bufs e).2.2)).count i =
      (bufIdsUpTo B bufs).count i := by
  have hset := fun h (bufs : Nat → List PartProd.Tok) => count_range_flatMap_set B bufs h [] i
  simp only [List.map_nil, List.count_nil, Nat.add_zero] at hset
  refine flush_ind e (P := fun h bufs r => h ≤ B → (∀ l, ∀ x ∈ bufs l, x.fin = false) →
      (bufIdsUpTo B r.2.1).count i + (dataIds (emToks r.2.2)).count i = (bufIdsUpTo B bufs).count i)
    (fun _ _ _ => rfl) (fun h bufs _ hB hty => ?_) (fun h bufs _ _ ih hB hty => ?_)
  · dsimp only
    rw [dataIds_buf _ (hty h)]; exact hset h bufs hB
  · dsimp only
    rw [emToks_append, dataIds_append, List.count_append, dataIds_buf _ (hty h), Nat.add_left_comm,
      ih (Nat.le_of_succ_le hB) (fun l x hx => hty l x (mem_setBuf_nil hx)), Nat.add_comm]
    exact hset h bufs hB

theorem recv_count (M : Nat) (p : PartProd.St) (x : PartProd.Tok) (hr : x.retries ≤ M)
    (hty : ∀ l, ∀ y ∈ p.bufs l, y.fin = false) (i : Int) :
    (bufIdsUpTo (M + 1) (PartProd.recv p x).1.bufs).count i + (dataIds (emToks (PartProd.recv p x).2)).count i =
    (bufIdsUpTo (M + 1) p.bufs).count i + (dataIds [ofPP x]).count i := by
  have hT : x.fin = true → dataIds [ofPP x] = [] := fun hf => by rw [ofPP, hf]; rfl
  rcases recv_eq p x with ⟨_, e⟩ | ⟨_, hf, e⟩ | ⟨_, hf, e⟩ | ⟨he, _, hf, e⟩ | ⟨_, _, e⟩ <;> rw [e]
  · rfl
  · rw [hT hf]; rfl
  · have := count_range_flatMap_set (M + 1) p.bufs x.retries (p.bufs x.retries ++ [x]) i (Nat.lt_succ_of_le hr)
    rw [List.map_append, List.count_append, ← Nat.add_assoc, Nat.add_right_comm] at this
    rw [show dataIds [ofPP x] = [x].map (·.id) by rw [ofPP, hf]; rfl]
    exact Nat.add_right_cancel this
  · rw [hT hf]
    exact flush_dataIds (M + 1) i _ p.hwm p.bufs (Nat.le_succ_of_le (he ▸ hr)) hty
  · rfl

theorem dataIds_ofPP_toPP {t : Tok} (hk : t.kind ≠ .syn) : dataIds [ofPP (toPP t)] = dataIds [t] := by
  obtain ⟨_, _, _, k⟩ := t
  cases k with
  | syn => exact absurd rfl hk
  | _ => rfl

def Cons (M : Nat) (s : Sys) : Prop :=
  ∀ i : Int, census M s i = if 0 ≤ i ∧ i < (s.next : Int) then 1 else 0

theorem cons_of_eq {M : Nat} {s s' : Sys} (h : Cons M s) (hn : s'.next = s.next)
    (he : ∀ i, census M s' i = census M s i) : Cons M s' := by
  intro i; rw [he i, hn]; exact h i

theorem cons_submit {M : Nat} {s : Sys} (h : Cons M s) : Cons M (submitS s) := by
  intro i
  have e : census M (submitS s) i = census M s i + [(s.next : Int)].count i := by
    simp only [census, submitS, dataIds_append, List.count_append, ins, W]
    rw [show dataIds [mkTok (s.next : Int) 0 false] = [(s.next : Int)] from rfl]; simp +arith
  rw [e, h i, show ((submitS s).next : Int) = (s.next : Int) + 1 from Int.natCast_succ _]
  by_cases hi : (s.next : Int) = i
  · subst hi; simp; omega
  · simp only [List.count_cons, List.count_nil, beq_iff_eq, hi, ↓reduceIte, Nat.add_zero]
    by_cases h1 : 0 ≤ i ∧ i < (s.next : Int)
    · rw [if_pos h1, if_pos ⟨h1.1, by omega⟩]
    · rw [if_neg h1, if_neg (by omega)]

/-- the queues in front of the partition producer count as one list -/
theorem census_queues {M : Nat} {s s' : Sys} (hQ : s'.pq ++ s'.dq ++ s'.ret = s.pq ++ s.dq ++ s.ret)
    (hW : s'.wk 0 = s.wk 0) (hpp : s'.pp = s.pp) (hsucc : s'.succ = s.succ) (herrs : s'.errs = s.errs) (i : Int) :
    census M s' i = census M s i := by
  have := congrArg (fun l => (dataIds l).count i) hQ
  simp only [dataIds_append, List.count_append] at this
  simp only [census, ins, W, hW, hpp, hsucc, herrs, this]

theorem cons_work {M : Nat} {s : Sys} (hcs : Cons M s) {w : Worker} {X : List Tok} {sc : List (Int × Nat)}
    {e : List Int}
    (h : ∀ i, (dataIds X).count i + (dataIds w.inq).count i + (dataIds (insideB w.bp)).count i +
        (sc.map (·.1)).count i + e.count i =
      (errOut M X).count i + (dataIds (W s).inq).count i + (dataIds (ins s)).count i + (s.succ.map (·.1)).count i +
        s.errs.count i) : Cons M (workSw M s 0 w X sc e) := by
  refine cons_of_eq hcs rfl (fun i => ?_)
  have h := h i; have := count_bounce M X i
  simp only [census, workSw, ins, W, setW_same, dataIds_append, List.count_append] at h ⊢; omega

theorem cons_bpRecv {M : Nat} {s s' : Sys} {v : View} {ov : Bool} (hc : Conc M s v) (hcs : Cons M s)
    (hs : sysStep M s (.bpRecv 0 ov) = some s') : Cons M s' := by
  obtain ⟨t, r, b', X, e, hq, rfl, _, _, _, hcase⟩ := bpRecv_casesW hc.pinv
    (fun t ht => hc.p0 t (List.mem_append_left _ (List.mem_append_right _ ht))) hc.finq hs
  refine cons_work hcs (fun i => ?_)
  dsimp only [W, ins]
  dsimp only [insW] at hcase
  have hcq := count_dataIds_cons t r i
  have h0 : (dataIds ([] : List Tok)).count i = 0 ∧ (errOut M []).count i = 0 := ⟨rfl, rfl⟩
  rw [hq]
  rcases hcase with ⟨_, _, rfl, rfl, rfl⟩ | ⟨_, _, rfl, rfl, _, hi⟩ | ⟨hk, rfl, rfl, _, hi⟩ | ⟨_, _, rfl, rfl, hi, _⟩
  · -- a data token is bounced
    rw [List.count_append]; simp +arith [hcq]
  · -- a data token is taken in
    rw [hi, dataIds_append, List.count_append]; simp +arith [hcq, h0]
  · -- a syn is consumed: it is no data token
    have : (dataIds [t]).count i = 0 := by rw [dataIds_cons_not _ (by rw [hk]; exact nofun)]; rfl
    rw [hi]; simp +arith [hcq, h0, this]
  · -- a chaser is bounced
    rw [hi, List.count_append]; simp +arith [hcq]

theorem cons_handover {M : Nat} {s s' : Sys} (hcs : Cons M s)
    (hs : sysStep M s (.handover 0) = some s') : Cons M s' := by
  obtain ⟨hd, rfl⟩ := handover_work hs
  exact cons_work hcs (fun i => by dsimp only; rw [(handover_spec M (W s).bp hd).2.2.1]; rfl)

theorem cons_deliver {M : Nat} (hM : 1 ≤ M) {s s' : Sys} {v : View} {still : Bool} (hc : Conc M s v)
    (hcs : Cons M s) (hs : sysStep M s (.deliver 0 still) = some s') : Cons M s' := by
  obtain ⟨vd, base, sent, b', X, sc, e, _, hsets, rfl, _, hcase⟩ :=
    deliver_casesW hM hc.pinv (fun x hx => hc.p0 x (List.mem_append_right _ hx)) hs
  have hsd : dataIds sent = sent.map (·.id) := dataIds_allData fun t ht =>
    hc.pinv.data t (by rw [Props.C02bp.inside, hsets]; simp [ht])
  refine cons_work hcs (fun i => ?_)
  dsimp only [W, ins]
  dsimp only [insW] at hcase
  have h0 : (dataIds ([] : List Tok)).count i = 0 ∧ (errOut M []).count i = 0 := ⟨rfl, rfl⟩
  rcases hcase with ⟨rfl, _, _, hi, hout⟩ | ⟨rfl, hi, rfl, rfl, _⟩
  · -- the set leaves the worker: its messages become successes, or errors
    rw [hi, dataIds_append, List.count_append]
    rcases hout with ⟨_, rfl, rfl⟩ | ⟨rfl, rfl⟩
    · rw [List.map_append, List.count_append, offs_ids, ← hsd]; simp +arith [h0]
    · rw [List.count_append, ← hsd]; simp +arith [h0]
  · -- the set fails: everything the worker holds is bounced
    rw [hi, List.count_append]; simp +arith [h0]

theorem census_push (M : Nat) (s : Sys) (c : Option Nat) (wk : Nat → Worker) (q : List Tok)
    (hw : wk 0 = { W s with inq := (W s).inq ++ q }) (i : Int) :
    census M { s with cur := c, wk := wk } i = census M s i + (dataIds q).count i := by
  simp only [census, ins, W, hw, dataIds_append, List.count_append]; simp +arith

theorem census_ppAct (M : Nat) (s : Sys) (lks : List (Option Nat)) (a : PartProd.Action)
    (hc : s.cur = none ∨ s.cur = some 0) (hl : ∀ l ∈ lks, l = none ∨ l = some 0) (i : Int) :
    census M (ppAct s lks a).1 i = census M s i + (dataIds (emToks [a])).count i ∧
      ((ppAct s lks a).1.cur = none ∨ (ppAct s lks a).1.cur = some 0) ∧
      ∀ l ∈ (ppAct s lks a).2, l = none ∨ l = some 0 := by
  have cur0 : ∀ {w}, s.cur = some w → w = 0 := fun hw =>
    hc.elim (fun h => nomatch h.symm.trans hw) fun h => (Option.some.inj (h.symm.trans hw)).symm
  cases a with
  | park | finDone => exact ⟨(Nat.add_zero _).symm, hc, hl⟩
  | finSend l =>
    rcases ppAct_finSend_eq s lks l with ⟨hn, e⟩ | ⟨w, hw, e⟩ <;> rw [e]
    · exact ⟨(Nat.add_zero _).symm, .inl hn, hl⟩
    · cases cur0 hw
      exact ⟨census_push M s none _ [finTok l] (by rw [pushW_apply, if_pos rfl]) i, .inl rfl, hl⟩
  | emit id l fin =>
    rcases ppAct_emit_eq s lks id l fin with ⟨w, hw, e⟩ | ⟨hn, _, e⟩ | ⟨w, r, hn, rfl, e⟩ <;> rw [e]
    · cases cur0 hw
      exact ⟨census_push M s s.cur _ [mkTok id l fin] (by rw [pushW_apply, if_pos rfl]) i, .inr hw, hl⟩
    · refine ⟨?_, .inl hn, fun x hx => hl x (List.mem_of_mem_tail hx)⟩
      cases fin
      · show census M { s with errs := s.errs ++ [id] } i = _
        simp only [census, ins, W, List.count_append]; exact (Nat.add_assoc ..).symm
      · exact (Nat.add_zero _).symm
    · obtain ⟨h0, hr⟩ := List.forall_mem_cons.1 hl
      obtain rfl : w = 0 := h0.elim (fun h => nomatch h) fun h => Option.some.inj h
      exact ⟨census_push M s (some 0) (openS s 0 (mkTok id l fin)).wk [synTok, mkTok id l fin]
        (by rw [openS_wk, if_pos rfl]) i, .inr rfl, hr⟩

theorem census_ppActs (M : Nat) (i : Int) (as : List PartProd.Action) : ∀ (s : Sys) (lks : List (Option Nat)),
    (s.cur = none ∨ s.cur = some 0) → (∀ l ∈ lks, l = none ∨ l = some 0) →
    census M (ppActs s lks as) i = census M s i + (dataIds (emToks as)).count i := by
  induction as with
  | nil => exact fun _ _ _ _ => (Nat.add_zero _).symm
  | cons a r ih =>
    intro s lks hc hl
    obtain ⟨h1, h2, h3⟩ := census_ppAct M s lks a hc hl i
    rw [ppActs, ih _ _ h2 h3, h1, show emToks (a :: r) = _ from emToks_append [a] r, dataIds_append, List.count_append,
      Nat.add_assoc]

theorem cons_ppRecv {M : Nat} {s : Sys} {lks : List (Option Nat)} (hc : s.cur = none ∨ s.cur = some 0)
    (hl : ∀ l ∈ lks, l = none ∨ l = some 0) {t : Tok} {r : List Tok} (hq : s.pq = t :: r) (hk : t.kind ≠ .syn) (hr : t.retries ≤ M)
    (hty : ∀ l, ∀ x ∈ s.pp.bufs l, x.fin = false) (hcs : Cons M s) :
    Cons M (ppActs (popS s r (PartProd.recv s.pp (toPP t)).1) lks (PartProd.recv s.pp (toPP t)).2) := by
  refine cons_of_eq hcs (ppActs_grows ..).next (fun i => ?_)
  have := dataIds_ofPP_toPP hk ▸ recv_count M s.pp (toPP t) hr hty i
  have := count_dataIds_cons t r i
  rw [census_ppActs M i _ (popS s r _) lks hc hl]
  simp only [census, ins, W, popS, hq]
  omega

end Lemmas.C02sys
