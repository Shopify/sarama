import SaramaVerif.Lemmas.C08StickyInv
/-
  C13, sticky: soundness of the balance test, what blocks reassignment, re-planning a complete balanced plan.
-/
namespace Model.Balance

theorem nodup_subset_of_length_le {α : Type} [BEq α] [LawfulBEq α] : ∀ (l1 l2 : List α), l1.Nodup →
    (∀ x, x ∈ l1 → x ∈ l2) → l2.length ≤ l1.length → ∀ x, x ∈ l2 → x ∈ l1 := by
  intro l1
  induction l1 with
  | nil =>
    intro l2 _ _ hlen x hx
    rw [List.eq_nil_of_length_eq_zero (Nat.le_zero.mp hlen)] at hx
    exact hx
  | cons a t ih =>
    -- take `a` out of both lists
    intro l2 hnd hs hlen x hx
    obtain ⟨ha, hnd⟩ := List.nodup_cons.mp hnd
    by_cases hxa : x = a
    · exact hxa ▸ List.mem_cons_self
    · refine List.mem_cons_of_mem _ (ih (l2.erase a) hnd (fun y hy => ?_) ?_ x ((List.mem_erase_of_ne hxa).mpr hx))
      · exact (List.mem_erase_of_ne fun h : y = a => ha (h ▸ hy)).mpr (hs y (List.mem_cons_of_mem _ hy))
      · rw [List.length_erase_of_mem (hs a List.mem_cons_self)]
        exact Nat.sub_le_of_le_add hlen

theorem le_foldl_max (l : Asg) : ∀ (acc : Nat), acc ≤ l.foldl (fun acc x => max acc x.2.length) acc ∧
    ∀ e, e ∈ l → e.2.length ≤ l.foldl (fun acc x => max acc x.2.length) acc := by
  induction l with
  | nil => exact fun acc => ⟨Nat.le_refl _, fun e he => nomatch he⟩
  | cons x r ih =>
    intro acc
    obtain ⟨h1, h2⟩ := ih (max acc x.2.length)
    rw [List.foldl_cons]
    refine ⟨Nat.le_trans (Nat.le_max_left _ _) h1, fun e he => ?_⟩
    rcases List.mem_cons.mp he with rfl | he
    · exact Nat.le_trans (Nat.le_max_right _ _) h1
    · exact h2 e he

theorem foldl_min_le (l : Asg) : ∀ (acc : Nat), l.foldl (fun acc x => min acc x.2.length) acc ≤ acc ∧
    ∀ e, e ∈ l → l.foldl (fun acc x => min acc x.2.length) acc ≤ e.2.length := by
  induction l with
  | nil => exact fun acc => ⟨Nat.le_refl _, fun e he => nomatch he⟩
  | cons x r ih =>
    intro acc
    obtain ⟨h1, h2⟩ := ih (min acc x.2.length)
    rw [List.foldl_cons]
    refine ⟨Nat.le_trans h1 (Nat.min_le_left _ _), fun e he => ?_⟩
    rcases List.mem_cons.mp he with rfl | he
    · exact Nat.le_trans h1 (Nat.min_le_right _ _)
    · exact h2 e he

theorem size_le_maxSize {cur : Asg} {e : Member × List TP} (he : e ∈ cur) : e.2.length ≤ maxSize cur :=
  (le_foldl_max cur 0).2 e he

theorem minSize_le_size {cur : Asg} {e : Member × List TP} (he : e ∈ cur) : minSize cur ≤ e.2.length := by
  cases cur with
  | nil => cases he
  | cons x r =>
    unfold minSize
    rcases List.mem_cons.mp he with rfl | he
    · exact (foldl_min_le r _).1
    · exact (foldl_min_le r _).2 e he

theorem holderIn_eq : ∀ {cur : Asg} {a : Member} {la : List TP} {p : TP}, AL.countAll cur p ≤ 1 →
    (a, la) ∈ cur → p ∈ la → holderIn cur p = some a := by
  intro cur
  induction cur with
  | nil => exact fun _ h => nomatch h
  | cons e r ih =>
    intro a la p hc hm hp
    have hc : e.2.count p + AL.countAll r p ≤ 1 := hc
    unfold holderIn
    by_cases hpe : p ∈ e.2
    · rw [List.find?_cons_of_pos (by exact List.contains_iff_mem.mpr hpe)]
      rcases List.mem_cons.mp hm with h | h
      · rw [← h]; rfl
      · -- two holders would make the count 2
        exact absurd (Nat.le_trans (Nat.add_le_add (List.count_pos_iff.mpr hpe) (AL.countAll_pos_iff.mpr ⟨_, h, hp⟩)) hc)
          (Nat.lt_irrefl 1)
    · rw [List.find?_cons_of_neg (by exact hpe ∘ List.contains_iff_mem.mp)]
      rcases List.mem_cons.mp hm with h | h
      · exact absurd (h ▸ hp) hpe
      · exact ih (Nat.le_trans (Nat.le_add_left ..) hc) h hp

theorem balanced_blocks_moves (v : Variant) (env : SEnv) (st : SState) (hb : isBalanced st.cur env.pot = true)
    (p q : TP) : guard v env st (.movePrev p q) = false ∧ guard v env st (.moveOther p q) = false := by
  unfold guard
  simp only [hb, Bool.not_true, Bool.and_false, Bool.false_and, and_self]

theorem revert_needs_move (v : Variant) (env : SEnv) (st : SState) (h : st.performed = false) :
    guard v env st .revert = false := by
  unfold guard
  simp only [h, Bool.and_false, Bool.false_and]

theorem closed_after_snapshot (v : Variant) (env : SEnv) (st : SState) (hs : st.snap.isSome = true)
    (ha : st.assigned = true) (hp : st.performed = false) (hb : isBalanced st.cur env.pot = true) (op : SOp) :
    guard v env st op = false := by
  have hn : st.snap.isNone = false := by cases hsn : st.snap with
    | none => rw [hsn] at hs; cases hs
    | some _ => rfl
  cases op with
  | assignAll us => simp only [guard, ha, Bool.not_true, Bool.false_and]
  | park m => simp only [guard, hn, Bool.and_false, Bool.false_and]
  | snapshot => simp only [guard, hn, Bool.and_false]
  | movePrev p q => exact (balanced_blocks_moves v env st hb p q).1
  | moveOther p q => exact (balanced_blocks_moves v env st hb p q).2
  | revert => exact revert_needs_move v env st hp

theorem get_addFixed_congr (fixed : Asg) : ∀ (c c' : Asg) (m : Member), AL.get c m = AL.get c' m →
    AL.get (addFixed c fixed) m = AL.get (addFixed c' fixed) m := by
  induction fixed with
  | nil => exact fun c c' m h => h
  | cons e r ih =>
    intro c c' m h
    refine ih (AL.set c e.1 e.2) (AL.set c' e.1 e.2) m ?_
    by_cases hk : e.1 = m
    · rw [hk, AL.get_set_same, AL.get_set_same]
    · rw [AL.get_set_other _ _ _ _ hk, AL.get_set_other _ _ _ _ hk]; exact h

theorem get_addFixed_not_mem (fixed : Asg) : ∀ (c : Asg) (m : Member), m ∉ AL.keys fixed →
    AL.get (addFixed c fixed) m = AL.get c m := by
  induction fixed with
  | nil => exact fun c m _ => rfl
  | cons e r ih =>
    intro c m hm
    exact (ih (AL.set c e.1 e.2) m fun h => hm (List.mem_cons_of_mem _ h)).trans
      (AL.get_set_other _ _ _ _ fun h => hm (h ▸ List.mem_cons_self))

theorem addFixed_snoc (c fixed : Asg) (k : Member) (v : List TP) :
    addFixed c (fixed ++ [(k, v)]) = AL.set (addFixed c fixed) k v :=
  List.foldl_append

theorem run_parks (v : Variant) (env : SEnv) (tail : List SOp) : ∀ (ps : List Member) (st st' : SState),
    (AL.keys st.cur ++ AL.keys st.fixed).Nodup →
    runOps v env st (ps.map SOp.park ++ tail) = some st' →
    ∃ stp, runOps v env stp tail = some st' ∧ stp.cur = ps.foldl AL.erase st.cur ∧
      stp.reverted = st.reverted ∧ stp.assigned = st.assigned ∧
      (∀ m, AL.get (addFixed stp.cur stp.fixed) m = AL.get (addFixed st.cur st.fixed) m) := by
  intro ps
  induction ps with
  | nil => exact fun st st' _ h => ⟨st, h, rfl, rfl, rfl, fun m => rfl⟩
  | cons m0 ps ih =>
    intro st st' hnd h
    obtain ⟨hg, h⟩ := runOps_cons_some h
    have hm : m0 ∈ AL.keys st.cur :=
      AL.hasKey_iff.mp (Bool.and_eq_true_iff.mp (Bool.and_eq_true_iff.mp hg).1).2
    have hmf : m0 ∉ AL.keys st.fixed := fun hf => (List.nodup_append.mp hnd).2.2 m0 hm m0 hf rfl
    obtain ⟨stp, h1, h2, h3, h4, h5⟩ := ih (apply v env st (.park m0)) st'
      ((keys_park_perm hm hmf _).nodup_iff.mpr hnd) h
    refine ⟨stp, h1, h2, h3, h4, fun m => (h5 m).trans ?_⟩
    -- the parked member's list is written back last; the others read what they read before
    show AL.get (addFixed (AL.erase st.cur m0) (AL.set st.fixed m0 (AL.get st.cur m0))) m = _
    rw [AL.set_eq_snoc_of_not_mem _ hmf, addFixed_snoc]
    by_cases hmm : m0 = m
    · rw [← hmm, AL.get_set_same, get_addFixed_not_mem _ _ _ hmf]
    · rw [AL.get_set_other _ _ _ _ hmm]
      exact get_addFixed_congr _ _ _ m (AL.get_erase_other _ _ _ hmm)

theorem assignFold_noop (env : SEnv) (us : List TP) (co : Asg × OwnerMap)
    (h : ∀ u, u ∈ us → consumersOf env.pot u = []) : us.foldl (assignOne env) co = co :=
  List.foldlRecOn us (assignOne env) (motive := (· = co)) rfl fun _ hb u hu => by
    rw [hb, assignOne, h u hu]; rfl

end Model.Balance
