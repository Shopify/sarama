import SaramaVerif.Model.BalancePlan
/-
  The association-list operations and `Plan.add` of the balance models, and how the executable validity predicate
  `validPlan` follows from counting and membership facts about a plan.
-/
namespace Model.Balance
namespace AL
variable {α : Type}

theorem get_set_same (a : AL α) (k : Nat) (v : List α) : get (set a k v) k = v := by
  induction a with
  | nil => simp only [set, get, ↓reduceIte]
  | cons e r ih =>
    by_cases h : e.1 = k
    · simp only [set, get, h, ↓reduceIte]
    · simp only [set, get, h, ↓reduceIte, ih]

theorem get_set_other (a : AL α) (k k2 : Nat) (v : List α) (h : k ≠ k2) : get (set a k v) k2 = get a k2 := by
  induction a with
  | nil => simp only [set, get, h, ↓reduceIte]
  | cons e r ih =>
    by_cases h1 : e.1 = k
    · simp only [set, get, h1, h, ↓reduceIte]
    · simp only [set, get, h1, ↓reduceIte, ih]

theorem get_erase_other (a : AL α) (k m : Nat) (h : k ≠ m) : get (erase a k) m = get a m := by
  induction a with
  | nil => rfl
  | cons e r ih =>
    by_cases h1 : e.1 = k
    · simp only [erase, get, h1, h, ↓reduceIte]
    · simp only [erase, get, h1, ↓reduceIte, ih]

theorem get_eq_nil_of_not_mem_keys {a : AL α} {k : Nat} (h : k ∉ keys a) : get a k = [] := by
  induction a with
  | nil => rfl
  | cons e r ih =>
    have h1 : e.1 ≠ k := fun hk => h (hk ▸ List.mem_cons_self)
    simp only [get, h1, ↓reduceIte, ih fun hk => h (List.mem_cons_of_mem _ hk)]

theorem mem_of_mem_keys {a : AL α} {k : Nat} (h : k ∈ keys a) : (k, get a k) ∈ a := by
  induction a with
  | nil => cases h
  | cons e r ih =>
    by_cases hk : e.1 = k
    · simp only [get, hk, ↓reduceIte]; exact hk ▸ List.mem_cons_self
    · simp only [get, hk, ↓reduceIte]
      exact List.mem_cons_of_mem _ (ih ((List.mem_cons.mp h).resolve_left (Ne.symm hk)))

theorem get_mem {a : AL α} {k : Nat} {x : α} (h : x ∈ get a k) : (k, get a k) ∈ a :=
  mem_of_mem_keys (Decidable.by_contra fun hk => by rw [get_eq_nil_of_not_mem_keys hk] at h; cases h)

theorem get_of_mem_nodup {a : AL α} {k : Nat} {v : List α} (hnd : (keys a).Nodup) (h : (k, v) ∈ a) :
    get a k = v := by
  induction a with
  | nil => cases h
  | cons e r ih =>
    obtain ⟨hn, hnd⟩ := List.nodup_cons.mp hnd
    rcases List.mem_cons.mp h with rfl | h
    · simp only [get, ↓reduceIte]
    · have : e.1 ≠ k := fun hk => hn (List.mem_map.mpr ⟨_, h, hk.symm⟩)
      simp only [get, this, ↓reduceIte, ih hnd h]

theorem hasKey_iff {a : AL α} {k : Nat} : hasKey a k = true ↔ k ∈ keys a := List.contains_iff_mem

theorem mem_set {a : AL α} {k : Nat} {v : List α} {e : Nat × List α} (h : e ∈ set a k v) :
    e = (k, v) ∨ e ∈ a := by
  induction a with
  | nil => exact .inl (List.mem_singleton.mp h)
  | cons e' r ih =>
    by_cases h1 : e'.1 = k
    · simp only [set, h1, ↓reduceIte] at h
      exact (List.mem_cons.mp h).imp_right (List.mem_cons_of_mem _)
    · simp only [set, h1, ↓reduceIte] at h
      rcases List.mem_cons.mp h with rfl | h
      · exact .inr List.mem_cons_self
      · exact (ih h).imp_right (List.mem_cons_of_mem _)

theorem keys_set_of_mem {a : AL α} {k : Nat} (v : List α) (h : k ∈ keys a) : keys (set a k v) = keys a := by
  induction a with
  | nil => cases h
  | cons e r ih =>
    by_cases h1 : e.1 = k
    · simp only [set, h1, ↓reduceIte, keys, List.map_cons]
    · simp only [set, h1, ↓reduceIte]
      exact congrArg (e.1 :: ·) (ih ((List.mem_cons.mp h).resolve_left (Ne.symm h1)))

theorem set_eq_snoc_of_not_mem {a : AL α} {k : Nat} (v : List α) (h : k ∉ keys a) : set a k v = a ++ [(k, v)] := by
  induction a with
  | nil => rfl
  | cons e r ih =>
    have h1 : e.1 ≠ k := fun hk => h (hk ▸ List.mem_cons_self)
    simp only [set, h1, ↓reduceIte]
    exact congrArg (e :: ·) (ih fun hk => h (List.mem_cons_of_mem _ hk))

theorem keys_set_of_not_mem {a : AL α} {k : Nat} (v : List α) (h : k ∉ keys a) :
    keys (set a k v) = keys a ++ [k] := by
  rw [set_eq_snoc_of_not_mem v h]; exact List.map_append

theorem keys_set (a : AL α) (k : Nat) (v : List α) (m : Nat) :
    m ∈ keys (set a k v) ↔ m = k ∨ m ∈ keys a := by
  by_cases h : k ∈ keys a
  · rw [keys_set_of_mem v h]; exact ⟨.inr, fun h' => h'.elim (· ▸ h) id⟩
  · rw [keys_set_of_not_mem v h, List.mem_append, List.mem_singleton]; exact Or.comm

theorem mem_erase {a : AL α} {k : Nat} {e : Nat × List α} (h : e ∈ erase a k) : e ∈ a := by
  induction a with
  | nil => cases h
  | cons e' r ih =>
    by_cases h1 : e'.1 = k
    · simp only [erase, h1, ↓reduceIte] at h
      exact List.mem_cons_of_mem _ h
    · simp only [erase, h1, ↓reduceIte] at h
      exact (List.mem_cons.mp h).elim (· ▸ List.mem_cons_self) fun h => List.mem_cons_of_mem _ (ih h)

theorem keys_erase (a : AL α) (k : Nat) : keys (erase a k) = (keys a).erase k := by
  induction a with
  | nil => rfl
  | cons e r ih =>
    by_cases h1 : e.1 = k
    · subst h1
      simp only [erase, ↓reduceIte]
      exact (List.erase_cons_head e.1 (keys r)).symm
    · simp only [erase, h1, ↓reduceIte]
      exact (congrArg (e.1 :: ·) ih).trans (List.erase_cons_tail (by simpa using h1)).symm

section Count
variable [BEq α]

theorem countAll_append (a b : AL α) (x : α) : countAll (a ++ b) x = countAll a x + countAll b x := by
  induction a with
  | nil => exact (Nat.zero_add _).symm
  | cons e r ih => exact (congrArg (e.2.count x + ·) ih).trans (Nat.add_assoc ..).symm

theorem countAll_set (a : AL α) (k : Nat) (v : List α) (x : α) :
    countAll (set a k v) x + (get a k).count x = countAll a x + v.count x := by
  induction a with
  | nil => exact (Nat.add_zero _).trans (Nat.zero_add _).symm
  | cons e r ih =>
    by_cases h : e.1 = k
    · simp only [set, get, h, ↓reduceIte, countAll]
      exact (Nat.add_comm ..).trans ((Nat.add_left_comm ..).trans (Nat.add_comm ..))
    · simp only [set, get, h, ↓reduceIte, countAll]
      exact (Nat.add_assoc ..).trans ((congrArg (e.2.count x + ·) ih).trans (Nat.add_assoc ..).symm)

theorem countAll_give (b : AL α) (k : Nat) (l : List α) (y : α) :
    countAll (set b k (get b k ++ l)) y = countAll b y + l.count y := by
  have h := countAll_set b k (get b k ++ l) y
  rw [List.count_append, Nat.add_left_comm, Nat.add_comm] at h
  exact Nat.add_left_cancel h

theorem countAll_set_of_not_mem {a : AL α} {k : Nat} (v : List α) (x : α) (h : k ∉ keys a) :
    countAll (set a k v) x = countAll a x + v.count x := by
  have := countAll_set a k v x
  rwa [get_eq_nil_of_not_mem_keys h, List.count_nil, Nat.add_zero] at this

theorem countAll_erase (a : AL α) (k : Nat) (x : α) :
    countAll (erase a k) x + (get a k).count x = countAll a x := by
  induction a with
  | nil => rfl
  | cons e r ih =>
    by_cases h1 : e.1 = k
    · simp only [erase, get, h1, ↓reduceIte, countAll]
      exact Nat.add_comm ..
    · simp only [erase, get, h1, ↓reduceIte, countAll]
      exact (Nat.add_assoc ..).trans (congrArg (e.2.count x + ·) ih)

theorem count_le_countAll {a : AL α} {x : α} {e : Nat × List α} (he : e ∈ a) :
    e.2.count x ≤ countAll a x := by
  induction a with
  | nil => cases he
  | cons e' rest ih =>
    rcases List.mem_cons.mp he with rfl | he
    · exact Nat.le_add_right ..
    · exact Nat.le_trans (ih he) (Nat.le_add_left ..)

variable [LawfulBEq α]

theorem countAll_take {a : AL α} {k : Nat} {x : α} (h : x ∈ get a k) (y : α) :
    countAll (set a k ((get a k).erase x)) y + [x].count y = countAll a y := by
  have h1 := countAll_set a k ((get a k).erase x) y
  have h2 : (get a k).count y = [x].count y + ((get a k).erase x).count y :=
    ((List.perm_cons_erase h).count_eq y).trans (List.count_append (l₁ := [x]))
  rw [h2, ← Nat.add_assoc] at h1
  exact Nat.add_right_cancel h1

theorem countAll_pos_iff {a : AL α} {x : α} : 0 < countAll a x ↔ ∃ e, e ∈ a ∧ x ∈ e.2 := by
  refine ⟨fun h => ?_, fun h => h.elim fun _ h => Nat.lt_of_lt_of_le (List.count_pos_iff.mpr h.2) (count_le_countAll h.1)⟩
  induction a with
  | nil => cases h
  | cons e r ih =>
    by_cases hc : 0 < e.2.count x
    · exact ⟨e, List.mem_cons_self, List.count_pos_iff.mp hc⟩
    · obtain ⟨e', he, hx⟩ := ih ((Nat.add_pos_iff_pos_or_pos.mp h).resolve_left hc)
      exact ⟨e', List.mem_cons_of_mem _ he, hx⟩

theorem countAll_eq_zero_iff {a : AL α} {x : α} : countAll a x = 0 ↔ ∀ e, e ∈ a → x ∉ e.2 :=
  ⟨fun h e he hx => absurd h (Nat.ne_of_gt (countAll_pos_iff.mpr ⟨e, he, hx⟩)),
    fun h => Nat.eq_zero_of_not_pos fun hp => (countAll_pos_iff.mp hp).elim fun e he => h e he.1 he.2⟩

end Count

end AL

theorem count_map_pair (t t' : Topic) (p : Int) (ps : List Int) :
    (ps.map (fun q => ((t, q) : TP))).count (t', p) = if t' = t then ps.count p else 0 := by
  by_cases h : t' = t
  · subst h
    rw [if_pos rfl, List.count_eq_countP, List.countP_map, List.count_eq_countP]
    exact congrArg (List.countP · ps) (funext fun q => by
      rw [Function.comp_apply, Bool.eq_iff_iff, beq_iff_eq, beq_iff_eq, Prod.mk.injEq]; exact and_iff_right rfl)
  · rw [if_neg h]
    exact List.count_eq_zero.mpr fun hm =>
      (List.mem_map.mp hm).elim fun _ hq => h (Prod.mk.inj hq.2).1.symm

theorem countAll_add (plan : Plan) (m : Member) (t : Topic) (ps : List Int) (x : TP) :
    AL.countAll (plan.add m t ps) x = AL.countAll plan x + (ps.map (fun q => ((t, q) : TP))).count x := by
  unfold Plan.add
  cases ps with
  | nil => rfl
  | cons q r => exact AL.countAll_give ..

def PlanAll (P : Member → TP → Prop) (plan : Plan) : Prop := ∀ e, e ∈ plan → ∀ tp, tp ∈ e.2 → P e.1 tp

theorem planAll_nil (P : Member → TP → Prop) : PlanAll P [] := fun _ h => absurd h List.not_mem_nil

theorem planAll_set {P : Member → TP → Prop} {a : Plan} (h : PlanAll P a) (k : Member) (v : List TP)
    (hv : ∀ tp, tp ∈ v → P k tp) : PlanAll P (AL.set a k v) := by
  intro e he tp htp
  rcases AL.mem_set he with rfl | he
  · exact hv tp htp
  · exact h e he tp htp

theorem planAll_get {P : Member → TP → Prop} {a : Plan} (h : PlanAll P a) (k : Member) :
    ∀ tp, tp ∈ AL.get a k → P k tp :=
  fun tp htp => h _ (AL.get_mem htp) tp htp

theorem planAll_add {P : Member → TP → Prop} {plan : Plan} (h : PlanAll P plan) (m : Member) (t : Topic)
    (ps : List Int) (hp : ∀ p, p ∈ ps → P m (t, p)) : PlanAll P (plan.add m t ps) := by
  unfold Plan.add
  split
  · exact h
  · exact planAll_set h m _ fun tp htp => (List.mem_append.mp htp).elim (planAll_get h m tp) fun h' =>
      (List.mem_map.mp h').elim fun q hq => hq.2 ▸ hp q hq.1

def PlanKeys (Q : Member → Prop) (plan : Plan) : Prop := ∀ k, k ∈ AL.keys plan → Q k

theorem planKeys_nil (Q : Member → Prop) : PlanKeys Q [] := fun _ h => absurd h List.not_mem_nil

theorem planKeys_add {Q : Member → Prop} {plan : Plan} (h : PlanKeys Q plan) (m : Member) (t : Topic) (ps : List Int)
    (hm : Q m) : PlanKeys Q (plan.add m t ps) := by
  unfold Plan.add
  split
  · exact h
  · intro k hk
    rcases (AL.keys_set _ _ _ _).mp hk with rfl | hk
    · exact hm
    · exact h k hk

theorem get_add (plan : Plan) (m m' : Member) (t : Topic) (ps : List Int) :
    AL.get (plan.add m' t ps) m = AL.get plan m ++ if m' = m then ps.map (fun p => ((t, p) : TP)) else [] := by
  unfold Plan.add
  cases ps with
  | nil => rw [if_pos (show ([] : List Int).isEmpty = true from rfl), List.map_nil, ite_self, List.append_nil]
  | cons q r =>
    rw [if_neg (show ¬(q :: r).isEmpty = true from Bool.false_ne_true)]
    by_cases hm : m' = m
    · rw [if_pos hm, hm, AL.get_set_same]
    · rw [if_neg hm, AL.get_set_other _ _ _ _ hm, List.append_nil]

theorem heldOf_add (plan : Plan) (m m' : Member) (t t' : Topic) (ps : List Int) :
    heldOf (plan.add m' t' ps) m t = heldOf plan m t ++ (if m' = m ∧ t' = t then ps else []) := by
  unfold heldOf
  rw [get_add, List.filterMap_append]
  refine congrArg _ ?_
  by_cases hm : m' = m
  · rw [if_pos hm, List.filterMap_map]
    by_cases ht : t' = t
    · simp only [Function.comp_def, hm, ht, and_self, ↓reduceIte, List.filterMap_some]
    · simp only [Function.comp_def, hm, ht, and_false, ↓reduceIte, List.filterMap_eq_nil_iff, implies_true]
  · rw [if_neg hm, if_neg fun h => hm h.1]; rfl

theorem hasSubscriber_iff {ms : Members} {t : Topic} : hasSubscriber ms t = true ↔ ∃ e, e ∈ ms ∧ t ∈ e.2 :=
  List.any_eq_true.trans (exists_congr fun _ => and_congr_right fun _ => List.contains_iff_mem)

theorem subscribed_of_mem {ms : Members} (hnd : (ms.map (·.1)).Nodup) {e : Member × List Topic} (he : e ∈ ms)
    {t : Topic} (ht : t ∈ e.2) : subscribed ms e.1 t = true := by
  unfold subscribed
  rw [AL.get_of_mem_nodup (a := ms) hnd he]
  exact List.contains_iff_mem.mpr ht

theorem isMember_of_mem {ms : Members} {e : Member × List Topic} (he : e ∈ ms) : isMember ms e.1 = true := by
  unfold isMember
  exact List.contains_iff_mem.mpr (List.mem_map.mpr ⟨e, he, rfl⟩)

theorem count_partsOf_eq_one {ts : Topics} (htk : (AL.keys ts).Nodup) (htp : ∀ e, e ∈ ts → e.2.Nodup)
    {e : Topic × List Int} (he : e ∈ ts) {p : Int} (hp : p ∈ e.2) : (partsOf ts e.1).count p = 1 := by
  rw [partsOf, AL.get_of_mem_nodup htk he, (htp e he).count, if_pos hp]

theorem validPlan_of {ms : Members} {ts : Topics} {plan : Plan}
    (hids : (ms.map (·.1)).Nodup)
    (hkeys : PlanKeys (fun m => ∃ e, e ∈ ms ∧ e.1 = m) plan)
    (hall : PlanAll (fun m tp => (∃ e, e ∈ ms ∧ e.1 = m ∧ tp.1 ∈ e.2) ∧ tp.2 ∈ partsOf ts tp.1) plan)
    (hcov : ∀ e, e ∈ ts → hasSubscriber ms e.1 = true → ∀ p, p ∈ e.2 → AL.countAll plan (e.1, p) = 1) :
    validPlan ms ts plan = true := by
  unfold validPlan plannedOK coveredOnce
  simp only [Bool.and_eq_true, List.all_eq_true, Bool.or_eq_true, Bool.not_eq_true', beq_iff_eq]
  constructor
  · intro e he
    constructor
    · obtain ⟨e', he', hm⟩ := hkeys e.1 (List.mem_map.mpr ⟨e, he, rfl⟩)
      rw [← hm]; exact isMember_of_mem he'
    · intro tp htp
      obtain ⟨⟨e', he', hm, ht⟩, hp⟩ := hall e he tp htp
      constructor
      · rw [← hm]; exact subscribed_of_mem hids he' ht
      · exact List.contains_iff_mem.mpr hp
  · intro e he
    cases hs : hasSubscriber ms e.1 with
    | false => exact Or.inl rfl
    | true => exact Or.inr (fun p hp => hcov e he hs p hp)

end Model.Balance
