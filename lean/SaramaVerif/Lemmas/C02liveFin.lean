/-
  C02 composition, progress: every chaser the partition producer still expects is on its way (`FinS`), so a
  message parked in a retry buffer is never left alone.
-/
import SaramaVerif.Lemmas.C02liveFrame

namespace Lemmas.C02sys
open Model Model.Pipeline

/-- in a worker's input channel the chaser counts one level below: the worker will bounce it -/
def finAt (s : Sys) (k : Nat) : Prop :=
  (∃ f ∈ s.pq ++ s.dq ++ s.ret, f.kind = .fin ∧ f.retries = k) ∨
  (∃ w, ∃ f ∈ (s.wk w).inq, f.kind = .fin ∧ f.retries + 1 = k)

/-- `top`: an open retry level still expects its chaser (that is what keeps it open); `onWay`: a chaser that is
    expected is on its way.  Together: whatever is parked will be released. -/
structure FinS (s : Sys) : Prop where
  top   : 0 < s.pp.hwm → s.pp.expect s.pp.hwm = true
  onWay : ∀ k, s.pp.expect k = true → finAt s k

theorem finS_init : FinS {} := ⟨fun h => by simp at h, fun k h => by simp at h⟩

theorem finS_mono {s s' : Sys} (h : FinS s) (hp : s'.pp = s.pp)
    (hq : ∀ f ∈ s.pq ++ s.dq ++ s.ret, f ∈ s'.pq ++ s'.dq ++ s'.ret)
    (hw : ∀ w, ∀ f ∈ (s.wk w).inq, f ∈ (s'.wk w).inq) : FinS s' := by
  refine ⟨by rw [hp]; exact h.top, fun k hk => ?_⟩
  rcases h.onWay k (by rw [hp] at hk; exact hk) with ⟨f, hf, h1, h2⟩ | ⟨w, f, hf, h1, h2⟩
  · exact .inl ⟨f, hq f hf, h1, h2⟩
  · exact .inr ⟨w, f, hw w f hf, h1, h2⟩

theorem finS_afterW {M : Nat} {s : Sys} {w : Nat} {q : List Tok} {pend : Option (Pipeline.Verdict × Nat)}
    {off : Nat} {i : BrokerProd.In} (h : FinS s)
    (hq : ∀ f ∈ (s.wk w).inq, f ∈ q ∨ (f.kind = .fin →
      ∃ g ∈ actRet (BrokerProd.step M (s.wk w).bp i).2, g.kind = .fin ∧ g.retries = f.retries + 1)) :
    FinS (afterW M s w q pend off i) := by
  refine ⟨h.top, fun k hk => ?_⟩
  rcases h.onWay k hk with ⟨f, hf, h1, h2⟩ | ⟨k', f, hf, h1, h2⟩
  · exact .inl ⟨f, List.append_assoc .. ▸ List.mem_append_left _ hf, h1, h2⟩
  · by_cases hk' : k' = w
    · subst hk'
      rcases hq f hf with hm | hb
      · exact .inr ⟨k', f, by show f ∈ (setW s.wk k' _ k').inq; rw [setW_same]; exact hm, h1, h2⟩
      · obtain ⟨g, hg, g1, g2⟩ := hb h1
        exact .inl ⟨g, List.mem_append_right _ (List.mem_append_right _ hg), g1, g2.trans h2⟩
    · exact .inr ⟨k', f, by show f ∈ (setW s.wk w _ k').inq; rw [setW_other _ _ hk']; exact hf, h1, h2⟩

theorem finSend_lands (s0 : Sys) (lks : List (Option Nat)) (l : Nat) (as : List PartProd.Action)
    (hc : (ppActs s0 lks (.finSend l :: as)).crash = false) :
    ∃ w, finTok l ∈ ((ppActs s0 lks (.finSend l :: as)).wk w).inq := by
  have hg := ppActs_grows as (ppAct s0 lks (.finSend l)).1 (ppAct s0 lks (.finSend l)).2
  rw [ppActs] at hc ⊢
  rcases ppAct_finSend_eq s0 lks l with ⟨_, e⟩ | ⟨w, _, e⟩ <;> rw [e] at hg hc ⊢
  · rw [hg.crash rfl] at hc; cases hc
  · exact ⟨w, hg.mem_inq (mem_pushW ..)⟩

theorem finS_ppRecv {M : Nat} {s s' : Sys} {lks : List (Option Nat)} (h : FinS s)
    (hfin1 : ∀ t r, s.pq = t :: r → t.kind = .fin → 1 ≤ t.retries ∧ t.retries ≤ s.pp.hwm)
    (hcr : s'.crash = false) (hs : sysStep M s (.ppRecv lks) = some s') : FinS s' := by
  -- Two ideas.  A level expected before: its witness stays where it is, unless it is the token taken - but a chaser
  -- that is consumed clears its own `expect` (`recv_fin_clears`), so that level is not expected afterwards.  A level
  -- expected by this step (a rise): its chaser is sent to the worker bound, and lands there since `crash = false`.
  obtain ⟨t, r, hq, rfl, hg⟩ := ppRecv_grows hs
  refine ⟨by rw [hg.pp]; exact recv_top _ _ h.top, fun k hk => ?_⟩
  rw [hg.pp] at hk
  rcases recv_expect _ _ _ hk with he | ⟨hr, hkk⟩
  · rcases h.onWay k he with ⟨f, hf, h1, h2⟩ | ⟨w, f, hf, h1, h2⟩
    · rw [hq, List.cons_append, List.cons_append] at hf
      rcases List.mem_cons.1 hf with e | e
      · subst e
        obtain ⟨a1, a2⟩ := hfin1 f r hq h1
        have := recv_fin_clears s.pp (toPP f) (Props.C02bp.isFin_of_fin h1) a2 (Nat.lt_of_lt_of_le a1 a2)
        rw [← h2] at hk
        exact absurd (hk.symm.trans this) (by simp)
      · exact .inl ⟨f, by rw [hg.pq, hg.dq, hg.ret]; exact e, h1, h2⟩
    · exact .inr ⟨w, f, hg.mem_inq hf, h1, h2⟩
  · rw [recv_rise s.pp (toPP t) hr] at hcr ⊢
    obtain ⟨w, hw⟩ := finSend_lands _ lks _ _ hcr
    exact .inr ⟨w, _, hw, rfl, (Nat.sub_add_cancel (Nat.lt_of_le_of_lt (Nat.zero_le _) hr)).trans hkk.symm⟩

/-- `hfin1`, `hfinq` and `hcr` are facts of the safety invariant -/
theorem finS_step {M : Nat} {s s' : Sys} {c : Choice} (h : FinS s)
    (hfin1 : ∀ t r, s.pq = t :: r → t.kind = .fin → 1 ≤ t.retries ∧ t.retries ≤ s.pp.hwm)
    (hfinq : ∀ w, ∀ t ∈ (s.wk w).inq, t.kind = .fin → t.retries < M)
    (hcr : s'.crash = false) (hs : sysStep M s c = some s') : FinS s' := by
  have st := step_iff.1 hs
  by_cases hc : plain c = true
  · obtain ⟨hp, _, _, hw, hq⟩ := plain_step hc st
    exact finS_mono h hp hq (fun w f hf => by rw [(hw w).1]; exact hf)
  cases st with
  | ppRecv lks => exact finS_ppRecv h hfin1 hcr hs
  | @worker w _ _ _ _ _ hf hd =>
    refine finS_afterW h (fun f hm => ?_)
    cases hf with
    | recv ov hq =>
      have hlt := hfinq w f hm
      rw [hq] at hm
      rcases List.mem_cons.1 hm with rfl | e
      · exact .inr (fun hk => bpRecv_fin hk (hlt hk) hd)
      · exact .inl e
    | _ => exact .inl hm
  | _ => exact absurd rfl hc

end Lemmas.C02sys
