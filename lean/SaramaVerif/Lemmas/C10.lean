import SaramaVerif.Model.DecoderFmt
/-
  Two calculi over `Model.Decoder.Res`, each with a rule per way the text of a getter is put together (a verdict, `if`,
  `bind`, `addAlloc`), so that a fact about a getter is proved by a term that follows its text.
  `SafeN c m raw off r` (Model/Decoder.lean), the safety statement: the outcome is never a panic or a hang and its offset
  stays inside the buffer, a value has consumed at least `m` bytes, the allocation is at most `c` per byte.  It is
  introduced by a verdict at an offset inside the buffer (`ok0`, `err0`, …), weakened (`mono`), moved to an earlier start
  offset (`shift`), composed (`after`, `bind`, `map`, `addAlloc`) and inverted (`of_ok`).
  `Post Q r`: what the value and the offset of an ok outcome satisfy.  `guard` hands the failed test of an error branch to
  the branch that goes on, `bind` the fact about the first value to the continuation, `of_ok` applies the whole to an
  equation `r = .ok v off a`.  It says nothing of errors and assumes no bound on the start offset (several results of
  Props/C10.lean about a successful decode have none to give), so it is no clause of `SafeN`.
  Then, with these: the fixed-width and the varint getters (with the length facts of `binary.Uvarint`), what a successful
  length getter returns, counted loops and `for remaining() > 0` loops.
-/
namespace Lemmas.C10
open Model.Decoder Go

theorem alloc_add {c a1 a2 o m n : Nat} (h1 : a1 ≤ c * (m - o)) (h2 : a2 ≤ c * (n - m)) (hom : o ≤ m) (hmn : m ≤ n) :
    a1 + a2 ≤ c * (n - o) := by
  rw [← Nat.sub_add_sub_cancel hmn hom, Nat.mul_add, Nat.add_comm a1]
  exact Nat.add_le_add h2 h1

theorem steps_le {off m off1 m2 off' : Nat} (h1 : off + m ≤ off1) (h2 : off1 + m2 ≤ off') : off + (m + m2) ≤ off' :=
  Nat.add_assoc .. ▸ Nat.le_trans (Nat.add_le_add_right h1 m2) h2

theorem eq_zero_of_le_zero_mul {a n : Nat} (h : a ≤ 0 * n) : a = 0 := Nat.le_zero.mp (Nat.zero_mul n ▸ h)

theorem mul_le_of_le {c a b : Nat} (h : a ≤ b) : c * a ≤ c * b := Nat.mul_le_mul_left c h

/-- the `else` branch of `if rd.remaining() < k` -/
theorem rem_ge {raw : Bytes} {off k : Nat} (h : ¬ rem raw off < (k : Int)) : off + k ≤ raw.length := by
  unfold rem at h; omega

theorem add_toNat_le {raw : Bytes} {off : Nat} {n : Int} (h : n ≤ rem raw off) (ho : off ≤ raw.length) :
    off + n.toNat ≤ raw.length := by
  unfold rem at h; omega

theorem slice_length {raw : Bytes} {off : Nat} {n : Int} (h : off + n.toNat ≤ raw.length) :
    (slice raw off (off + n)).length = n.toNat := by
  rw [slice, List.length_take, List.length_drop, Int.add_comm, Int.add_sub_cancel, Int.toNat_natCast]
  exact Nat.min_eq_left (Nat.le_sub_of_add_le' h)

theorem SafeN.ok0 {α} {c m : Nat} {raw : Bytes} {off off' : Nat} {v : α} (h1 : off + m ≤ off') (h2 : off' ≤ raw.length) :
    SafeN c m raw off (Res.ok v off' 0) := ⟨h1, h2, Nat.zero_le _⟩

theorem SafeN.err0 {α} {c m : Nat} {raw : Bytes} {off off' : Nat} {e : Err} (h1 : off ≤ off') (h2 : off' ≤ raw.length) :
    SafeN c m raw off (Res.err e off' 0 : Res α) := ⟨h1, h2, Nat.zero_le _⟩

theorem SafeN.ok_here {α} {c : Nat} {raw : Bytes} {off : Nat} {v : α} (h : off ≤ raw.length) :
    SafeN c 0 raw off (Res.ok v off 0) := SafeN.ok0 (Nat.le_refl _) h

theorem SafeN.err_here {α} {c m : Nat} {raw : Bytes} {off : Nat} {e : Err} (h : off ≤ raw.length) :
    SafeN c m raw off (Res.err e off 0 : Res α) := SafeN.err0 (Nat.le_refl _) h

/-- `rd.off = len(rd.raw); return ErrInsufficientData` -/
theorem SafeN.err_end {α} {c m : Nat} {raw : Bytes} {off : Nat} {e : Err} (h : off ≤ raw.length) :
    SafeN c m raw off (Res.err e raw.length 0 : Res α) := SafeN.err0 h (Nat.le_refl _)

theorem SafeN.ite {α} {c m : Nat} {raw : Bytes} {off : Nat} {g : Prop} [Decidable g] {a b : Res α}
    (ha : g → SafeN c m raw off a) (hb : ¬ g → SafeN c m raw off b) : SafeN c m raw off (if g then a else b) :=
  iteInduction ha hb

theorem SafeN.check {α} {c : Nat} {raw : Bytes} {off : Nat} {g : Prop} [Decidable g] {e : Err} {v : α} (h : off ≤ raw.length) :
    SafeN c 0 raw off (if g then Res.err e off 0 else Res.ok v off 0) :=
  SafeN.ite (fun _ => SafeN.err_here h) fun _ => SafeN.ok_here h

theorem SafeN.of_ok {α} {c m : Nat} {raw : Bytes} {off : Nat} {r : Res α} {v : α} {off1 a : Nat}
    (h : SafeN c m raw off r) (hr : r = .ok v off1 a) : off + m ≤ off1 ∧ off1 ≤ raw.length ∧ a ≤ c * (off1 - off) := by
  subst hr; exact h

theorem SafeN.mono {α} {c c' m m' : Nat} {raw : Bytes} {off : Nat} {r : Res α}
    (h : SafeN c m raw off r) (hc : c ≤ c') (hm : m' ≤ m) : SafeN c' m' raw off r := by
  cases r with
  | ok v off' a =>
    obtain ⟨h1, h2, h3⟩ := h
    exact ⟨Nat.le_trans (Nat.add_le_add_left hm off) h1, h2, Nat.le_trans h3 (Nat.mul_le_mul_right _ hc)⟩
  | err e off' a =>
    obtain ⟨h1, h2, h3⟩ := h
    exact ⟨h1, h2, Nat.le_trans h3 (Nat.mul_le_mul_right _ hc)⟩
  | panic a => exact h
  | hang => exact h

theorem SafeN.map {α β} {c m : Nat} {raw : Bytes} {off : Nat} {r : Res α} (f : α → β)
    (h : SafeN c m raw off r) : SafeN c m raw off (r.map f) := by
  cases r <;> exact h

theorem SafeN.shift {α} {c m m2 : Nat} {raw : Bytes} {off off1 : Nat} {r : Res α}
    (h : SafeN c m2 raw off1 r) (h1 : off + m ≤ off1) : SafeN c (m + m2) raw off r := by
  have ho : off ≤ off1 := Nat.le_of_add_right_le h1
  cases r with
  | ok v off' a => exact ⟨steps_le h1 h.1, h.2.1, Nat.le_trans h.2.2 (Nat.mul_le_mul_left _ (Nat.sub_le_sub_left ho _))⟩
  | err e off' a => exact ⟨Nat.le_trans ho h.1, h.2.1, Nat.le_trans h.2.2 (Nat.mul_le_mul_left _ (Nat.sub_le_sub_left ho _))⟩
  | panic a => exact h
  | hang => exact h

theorem SafeN.after {α} {c m m2 : Nat} {raw : Bytes} {off off1 a : Nat} {r : Res α}
    (h : SafeN c m2 raw off1 r) (h1 : off + m ≤ off1) (h2 : off1 ≤ raw.length) (h3 : a ≤ c * (off1 - off)) :
    SafeN c (m + m2) raw off (r.addAlloc a) := by
  have ho : off ≤ off1 := Nat.le_of_add_right_le h1
  cases r with
  | ok v off' a' => exact ⟨steps_le h1 h.1, h.2.1, alloc_add h3 h.2.2 ho (Nat.le_of_add_right_le h.1)⟩
  | err e off' a' => exact ⟨Nat.le_trans ho h.1, h.2.1, alloc_add h3 h.2.2 ho h2⟩
  | panic a' => exact h
  | hang => exact h

/-- `bind` with the continuation's claim stated from the start offset `off`, allocation of the first step included:
    for a continuation that does not go on in `raw` (getSubset hands it a buffer of its own) -/
theorem SafeN.bind' {α β} {c1 c m m' : Nat} {raw : Bytes} {off : Nat} {r : Res α} {f : α → Nat → Res β}
    (h : SafeN c1 m raw off r) (hc : c1 ≤ c)
    (hf : ∀ v off1 a, r = .ok v off1 a → SafeN c m' raw off ((f v off1).addAlloc a)) :
    SafeN c m' raw off (r.bind f) := by
  cases r with
  | ok v off1 a => exact hf v off1 a rfl
  | err e off1 a => exact ⟨h.1, h.2.1, Nat.le_trans h.2.2 (Nat.mul_le_mul_right _ hc)⟩
  | panic a => exact h
  | hang => exact h

theorem SafeN.bind {α β} {c1 c m m2 : Nat} {raw : Bytes} {off : Nat} {r : Res α} {f : α → Nat → Res β}
    (h : SafeN c1 m raw off r) (hc : c1 ≤ c)
    (hf : ∀ v off1 a, r = .ok v off1 a → off + m ≤ off1 → off1 ≤ raw.length → SafeN c m2 raw off1 (f v off1)) :
    SafeN c (m + m2) raw off (r.bind f) :=
  SafeN.bind' h hc fun v off1 a hr =>
    have ⟨h1, h2, h3⟩ := SafeN.of_ok (SafeN.mono h hc (Nat.le_refl m)) hr
    SafeN.after (hf v off1 a hr h1 h2) h1 h2 h3

theorem SafeN.addAlloc {α} {c c' m A : Nat} {raw : Bytes} {off : Nat} {r : Res α}
    (h : SafeN c m raw off r) (hA : A ≤ c' * m) (hm : off + m ≤ raw.length) :
    SafeN (c' + c) m raw off (r.addAlloc A) := by
  cases r with
  | ok v off' a =>
    refine ⟨h.1, h.2.1, ?_⟩
    rw [Nat.add_mul]
    exact Nat.add_le_add (Nat.le_trans hA (Nat.mul_le_mul_left _ (Nat.le_sub_of_add_le' h.1))) h.2.2
  | err e off' a =>
    refine ⟨h.1, h.2.1, ?_⟩
    rw [Nat.add_mul]
    exact Nat.add_le_add (Nat.le_trans hA (Nat.mul_le_mul_left _ (Nat.le_sub_of_add_le' hm))) h.2.2
  | panic a => exact h
  | hang => exact h

theorem SafeN.addAlloc_zero {α} {c m : Nat} {raw : Bytes} {off : Nat} {r : Res α}
    (h : SafeN c m raw off r) : SafeN c m raw off (r.addAlloc 0) := by
  cases r <;> simp only [Res.addAlloc, Nat.zero_add] <;> exact h

theorem map_ok {α β} {r : Res α} {f : α → β} {w : β} {off2 a2 : Nat}
    (h : r.map f = .ok w off2 a2) : ∃ v, r = .ok v off2 a2 ∧ f v = w := by
  cases r with
  | ok v off1 a => cases h; exact ⟨v, rfl, rfl⟩
  | _ => cases h

/-- what holds of the value and the offset of a successful outcome (partial correctness) -/
def Post {α} (Q : α → Nat → Prop) (r : Res α) : Prop := ∀ v off a, r = .ok v off a → Q v off

section
variable {α β : Type} {P Q : α → Nat → Prop} {R : β → Nat → Prop} {r : Res α}

theorem Post.of_ok {v : α} {off a : Nat} (h : Post Q r) (hr : r = .ok v off a) : Q v off := h v off a hr

theorem Post.mono (h : Post P r) (hPQ : ∀ v off, P v off → Q v off) : Post Q r :=
  fun v off a hr => hPQ v off (h v off a hr)

theorem Post.ok {v : α} {off a : Nat} (h : Q v off) : Post Q (.ok v off a) :=
  fun _ _ _ e => by cases e; exact h

theorem Post.err {e : Err} {off a : Nat} : Post Q (.err e off a) := nofun

theorem Post.panic {a : Nat} : Post Q (.panic a) := nofun

theorem Post.hang : Post Q .hang := nofun

theorem Post.ite {g : Prop} [Decidable g] {x y : Res α} (hx : g → Post Q x) (hy : ¬ g → Post Q y) :
    Post Q (if g then x else y) :=
  iteInduction hx hy

theorem Post.guard {g : Prop} [Decidable g] {e : Err} {o al : Nat} {x : Res α} (hx : ¬ g → Post Q x) :
    Post Q (if g then .err e o al else x) :=
  Post.ite (fun _ => Post.err) hx

theorem Post.addAlloc {a0 : Nat} (h : Post Q r) : Post Q (r.addAlloc a0) := by
  cases r with
  | ok v off a => exact Post.ok (h.of_ok rfl)
  | err e off a => exact Post.err
  | panic a => exact Post.panic
  | hang => exact Post.hang

/-- the continuation gets the equation `r = .ok v off1 a` itself (to take a `SafeN` fact of `r` through `SafeN.of_ok`, or
    to return `r`'s value in an existential); `Post.bind` gives it a `Post` fact of `r` instead -/
theorem Post.bind' {f : α → Nat → Res β} (hf : ∀ v off1 a, r = .ok v off1 a → Post R (f v off1)) :
    Post R (r.bind f) := by
  cases r with
  | ok v off1 a => exact Post.addAlloc (hf v off1 a rfl)
  | err e off a => exact Post.err
  | panic a => exact Post.panic
  | hang => exact Post.hang

theorem Post.bind {f : α → Nat → Res β} (hr : Post P r) (hf : ∀ v off1, P v off1 → Post R (f v off1)) :
    Post R (r.bind f) :=
  Post.bind' fun v off1 _ e => hf v off1 (hr.of_ok e)

end

/-- getInt8 … getInt64 and `push(crc32Field)`: `if rd.remaining() < k { error } else { value; rd.off += k }` -/
theorem fixedWidth_safe {α} {raw : Bytes} {off : Nat} (k : Nat) (v : α) (h : off ≤ raw.length) :
    SafeN 0 k raw off (if rem raw off < (k : Int) then .err .insufficient raw.length 0 else .ok v (off + k) 0) :=
  SafeN.ite (fun _ => SafeN.err_end h) fun hk => SafeN.ok0 (Nat.le_refl _) (rem_ge hk)

/-- what `binary.Uvarint` returns: n = 0, or n > 0 bytes read and a value that fits a uint64, or overflow after −n bytes;
    the bytes counted lie within the bytes it was given -/
theorem uvarintGo_n (l : Bytes) : ∀ (i x s v : Nat) (n : Int), uvarintGo l i x s = (v, n) →
    n = 0 ∨ ((i : Int) < n ∧ n ≤ (i : Int) + l.length ∧ v < 18446744073709551616) ∨
    (n < 0 ∧ (i : Int) < -n ∧ -n ≤ (i : Int) + l.length) := by
  induction l with
  | nil => intro i x s v n h; cases h; exact .inl rfl
  | cons b rest ih =>
    intro i x s v n h
    rw [uvarintGo] at h
    rw [List.length_cons]
    by_cases h10 : i = 10
    · rw [if_pos h10] at h
      obtain ⟨-, rfl⟩ := Prod.mk.inj h
      exact .inr (.inr (by omega))
    · rw [if_neg h10] at h
      by_cases hb : b.toNat < 128
      · rw [if_pos hb] at h
        by_cases h9 : i = 9 ∧ b.toNat > 1
        · rw [if_pos h9] at h
          obtain ⟨-, rfl⟩ := Prod.mk.inj h
          exact .inr (.inr (by omega))
        · rw [if_neg h9] at h
          obtain ⟨rfl, rfl⟩ := Prod.mk.inj h
          exact .inr (.inl ⟨by omega, by omega, Nat.mod_lt _ (by decide)⟩)
      · rw [if_neg hb] at h
        exact (ih _ _ _ _ _ h).imp id (Or.imp (fun ⟨h1, h2, h3⟩ => ⟨by omega, by omega, h3⟩)
          fun ⟨h1, h2, h3⟩ => ⟨h1, by omega, by omega⟩)

/-- the three outcomes of getUVarint / getVarint: they differ in the overflow error and in what they make of the value -/
theorem varint_safe {α} {raw : Bytes} {off : Nat} (e : Err) (val : Nat → α) (h : off ≤ raw.length) :
    SafeN 0 1 raw off
      (if (uvarintGo (raw.drop off) 0 0 0).2 = 0 then .err .insufficient raw.length 0
       else if (uvarintGo (raw.drop off) 0 0 0).2 < 0 then .err e (off + (-(uvarintGo (raw.drop off) 0 0 0).2).toNat) 0
       else .ok (val (uvarintGo (raw.drop off) 0 0 0).1) (off + (uvarintGo (raw.drop off) 0 0 0).2.toNat) 0) := by
  have hb := uvarintGo_n (raw.drop off) 0 0 0 _ _ rfl
  rw [List.length_drop] at hb
  generalize (uvarintGo (raw.drop off) 0 0 0).2 = n at hb ⊢
  generalize hL : raw.length - off = L at hb
  have hk : (-n).toNat ≤ L ∧ n.toNat ≤ L ∧ (¬ n = 0 → ¬ n < 0 → 1 ≤ n.toNat) := by omega
  subst hL
  exact SafeN.ite (fun _ => SafeN.err_end h) fun h0 =>
    SafeN.ite (fun _ => SafeN.err0 (Nat.le_add_right _ _) (Nat.add_le_of_le_sub' h hk.1)) fun hn =>
      SafeN.ok0 (Nat.add_le_add_left (hk.2.2 h0 hn) off) (Nat.add_le_of_le_sub' h hk.2.1)

theorem getInt32_post {raw : Bytes} {off : Nat} : Post (fun _ o => o = off + 4) (getInt32 raw off) :=
  Post.guard fun _ => Post.ok rfl

theorem getArrayLength_post {v : Variant} {raw : Bytes} {off : Nat} :
    Post (fun n o => o ≤ raw.length ∧ n ≤ rem raw o ∧ (v = .checked → -1 ≤ n)) (getArrayLength v raw off) :=
  Post.guard fun h4 => Post.guard fun h1 => Post.guard fun _ => Post.guard fun h3 =>
    Post.ok ⟨rem_ge (k := 4) h4, Int.not_lt.mp h1, fun hv => Int.not_lt.mp fun ht => h3 ⟨hv, ht⟩⟩

theorem getStringLength_post {raw : Bytes} {off : Nat} :
    Post (fun n o => -1 ≤ n ∧ n ≤ rem raw o) (getStringLength raw off) :=
  Post.bind' fun _ _ _ _ => Post.guard fun h1 => Post.guard fun h2 => Post.ok ⟨Int.not_lt.mp h1, Int.not_lt.mp h2⟩

theorem getCompactArrayLength_checked_post {raw : Bytes} {off : Nat} (hoff : off ≤ raw.length) :
    Post (fun n o => 0 ≤ n ∧ n ≤ rem raw o) (getCompactArrayLength .checked raw off) :=
  Post.bind' fun _ off1 _ hu =>
    have h1 : (0 : Int) ≤ rem raw off1 :=
      Int.sub_nonneg_of_le (Int.ofNat_le.mpr (SafeN.of_ok (varint_safe .uvarintOverflow id hoff) hu).2.1)
    Post.ite (fun _ => Post.ok ⟨Int.le_refl 0, h1⟩) fun _ => Post.guard fun hc =>
      Post.ok ⟨Int.not_lt.mp fun hl => hc ⟨rfl, .inl hl⟩, Int.not_lt.mp fun hl => hc ⟨rfl, .inr hl⟩⟩

theorem getRawBytes_post {raw : Bytes} {off : Nat} {n : Int} (hoff : off ≤ raw.length) :
    Post (fun sub o => off + sub.length = o ∧ o ≤ raw.length) (getRawBytes raw off n) :=
  Post.guard fun _ => Post.guard fun h2 =>
    have hn := add_toNat_le (Int.not_lt.mp h2) hoff
    Post.ok ⟨by rw [slice_length hn], hn⟩

theorem iter_safe {c : Nat} {raw : Bytes} {step : Nat → Res Unit}
    (hstep : ∀ off, off ≤ raw.length → SafeN c 1 raw off (step off)) :
    ∀ (n off : Nat), off ≤ raw.length → SafeN c n raw off (iter step n off) := by
  intro n
  induction n with
  | zero => intro off h; exact SafeN.ok_here h
  | succ k ih =>
    intro off h
    exact SafeN.mono (SafeN.bind (hstep off h) (Nat.le_refl _) fun _ off1 _ _ _ h2 => ih off1 h2) (Nat.le_refl _) (by omega)

theorem fuel_step {len off off1 k : Nat} (hf : len - off < k + 1) (h1 : off < off1) (h2 : off1 ≤ len) : len - off1 < k :=
  Nat.lt_of_lt_of_le (Nat.sub_lt_sub_left (Nat.lt_of_lt_of_le h1 h2) h1) (Nat.le_of_lt_succ hf)

theorem loopRem_safe {c : Nat} {raw : Bytes} {step : Nat → Res Unit} (p : Bool)
    (hstep : ∀ off, off ≤ raw.length → SafeN c 1 raw off (step off)) :
    ∀ (fuel off : Nat), off ≤ raw.length → raw.length - off < fuel →
      SafeN c 0 raw off (loopRem p raw.length step fuel off) := by
  intro fuel
  induction fuel with
  | zero => intro off h hf; omega
  | succ k ih =>
    intro off h hf
    simp only [loopRem]
    refine SafeN.ite (fun _ => SafeN.ok_here h) fun _ => ?_
    have hg := hstep off h
    cases hs : step off with
    | ok u off1 a =>
      obtain ⟨h1, h2, h3⟩ := SafeN.of_ok hg hs
      exact SafeN.mono (SafeN.after (m := 1) (ih off1 h2 (fuel_step hf h1 h2)) h1 h2 h3) (Nat.le_refl _) (Nat.zero_le _)
    | err e off1 a =>
      rw [hs] at hg
      simp only []
      split
      · -- a partial trailing element becomes the value `.ok () len a`: its allocation has to be bounded against the
        -- bytes from `off` to the end, which is what the error clause of `SafeN` records (`raw.length - off`)
        exact ⟨h, Nat.le_refl _, hg.2.2⟩
      · exact SafeN.mono hg (Nat.le_refl _) (Nat.zero_le _)
    | panic a => rw [hs] at hg; exact hg.elim
    | hang => rw [hs] at hg; exact hg.elim

/-- the fuel of `loopRem` is not a modelling artefact -/
theorem loopRem_fuel_irrelevant {len : Nat} {step : Nat → Res Unit} (p : Bool)
    (hprog : ∀ off u off1 a, off ≤ len → step off = .ok u off1 a → off < off1 ∧ off1 ≤ len) :
    ∀ (f1 f2 off : Nat), off ≤ len → len - off < f1 → len - off < f2 →
      loopRem p len step f1 off = loopRem p len step f2 off := by
  intro f1
  induction f1 with
  | zero => intro f2 off h h1 h2; omega
  | succ k ih =>
    intro f2 off h h1 h2
    cases f2 with
    | zero => omega
    | succ j =>
      simp only [loopRem]
      by_cases hlt : off < len
      · simp only [hlt, not_true_eq_false, ↓reduceIte]
        cases hs : step off with
        | ok u off1 a =>
          have := hprog off u off1 a h hs
          simp only []
          rw [ih j off1 this.2 (fuel_step h1 this.1 this.2) (fuel_step h2 this.1 this.2)]
        | err e off1 a => rfl
        | panic a => rfl
        | hang => rfl
      · simp only [hlt, not_false_eq_true, ↓reduceIte]

end Lemmas.C10
