import SaramaVerif.Lemmas.C15Update
/-
  C15: the candidate iteration of tryRefreshMetadata (seeds first, then known brokers): where a pass ends, whom it
  asks, and what it leaves untouched.
-/
namespace Lemmas.C15
open Model.Metadata

/-- brokers are a map: ids unique -/
def BNodup (s : State) : Prop := (keys Prod.fst s.brokers).Nodup

def candidates (s : State) : List Addr := s.seeds ++ s.brokers.map Prod.snd

theorem mem_candidates {s : State} {a : Addr} : a ∈ candidates s ↔ a ∈ s.seeds ∨ ∃ b ∈ s.brokers, b.2 = a := by
  rw [candidates, List.mem_append, List.mem_map]

theorem seed_mem_candidates {s : State} {a : Addr} (h : a ∈ s.seeds) : a ∈ candidates s :=
  List.mem_append_left _ h

theorem broker_mem_candidates {s : State} {b : Int × Addr} (h : b ∈ s.brokers) : b.2 ∈ candidates s :=
  List.mem_append_right _ (List.mem_map.mpr ⟨b, h, rfl⟩)

theorem candidates_length (s : State) : (candidates s).length = s.seeds.length + s.brokers.length := by
  rw [candidates, List.length_append, List.length_map]

theorem pickKnown_nil (pick : List (Int × Addr) → Nat) : pickKnown pick [] = none := by
  simp [pickKnown]

theorem pickKnown_mem (pick : List (Int × Addr) → Nat) {bs : List (Int × Addr)} (h : bs ≠ []) :
    ∃ b, pickKnown pick bs = some b ∧ b ∈ bs :=
  have hi : pick bs % bs.length < bs.length := Nat.mod_lt _ (List.length_pos_iff.mpr h)
  ⟨bs[pick bs % bs.length], List.getElem?_eq_getElem hi, List.getElem_mem hi⟩

theorem pickKnown_some_mem (pick : List (Int × Addr) → Nat) {bs : List (Int × Addr)} {b : Int × Addr}
    (h : pickKnown pick bs = some b) : b ∈ bs :=
  List.mem_of_getElem? h

theorem pickKnown_none (pick : List (Int × Addr) → Nat) {bs : List (Int × Addr)} (h : pickKnown pick bs = none) :
    bs = [] :=
  Decidable.by_contra fun he => by
    obtain ⟨b, hb, _⟩ := pickKnown_mem pick he
    cases hb.symm.trans h

theorem length_kerase_lt {bs : List (Int × Addr)} {b : Int × Addr} (h : b ∈ bs) :
    (kerase Prod.fst b.1 bs).length < bs.length :=
  List.length_filter_lt_length_iff_exists.mpr ⟨b, h, by simp⟩

theorem eq_of_same_id {bs : List (Int × Addr)} {b b' : Int × Addr} (h : (keys Prod.fst bs).Nodup)
    (hb : b ∈ bs) (hb' : b' ∈ bs) (e : b.1 = b'.1) : b = b' :=
  Option.some.inj ((kget_of_mem_nodup Prod.fst h hb).symm.trans (e ▸ kget_of_mem_nodup Prod.fst h hb'))

section Pass
variable (pick : List (Int × Addr) → Nat) (reach : Addr → Reach)

theorem passKnown_frame (n : Nat) (s : State) (tr : List Addr) :
    (passKnown pick reach n s tr).s.seeds = s.seeds ∧ (passKnown pick reach n s tr).s.dead = s.dead ∧
    (passKnown pick reach n s tr).s.metadata = s.metadata ∧ (passKnown pick reach n s tr).s.cached = s.cached ∧
    (passKnown pick reach n s tr).s.tracked = s.tracked ∧ (passKnown pick reach n s tr).s.controller = s.controller ∧
    (BNodup s → BNodup (passKnown pick reach n s tr).s) := by
  -- the branches of `passKnown`: 1 out of fuel, 2 no broker left (`hp : pickKnown .. = none`), and with a broker `b`
  -- picked (`hp : pickKnown .. = some b`) by what `hr` says `reach b.2` is: 3 the broker answers, 4 fatal error,
  -- 5 the broker fails, is dropped, and the loop goes on (`ih`)
  fun_induction passKnown pick reach n s tr with
  | case5 n s tr b hp hr ih =>
    obtain ⟨hseeds, hdead, hmeta, hcached, htracked, hctl, hnd⟩ := ih
    exact ⟨hseeds, hdead, hmeta, hcached, htracked, hctl, fun hn => hnd (keys_filter_nodup Prod.fst _ hn)⟩
  | _ => exact ⟨rfl, rfl, rfl, rfl, rfl, rfl, id⟩

theorem passKnown_tried (n : Nat) (s : State) (tr : List Addr) :
    ∃ asked : List (Int × Addr), (passKnown pick reach n s tr).tried = tr ++ asked.map Prod.snd ∧
      asked.length ≤ s.brokers.length ∧ ∀ b ∈ asked, b ∈ s.brokers := by
  -- branches numbered as in `passKnown_frame`
  fun_induction passKnown pick reach n s tr with
  | case1 | case2 => exact ⟨[], (List.append_nil _).symm, Nat.zero_le _, fun _ h => nomatch h⟩
  | case3 n s tr b hp | case4 n s tr b hp =>
    have hm := pickKnown_some_mem pick hp
    exact ⟨[b], rfl, List.length_pos_of_mem hm, fun x hx => List.mem_singleton.mp hx ▸ hm⟩
  | case5 n s tr b hp hr ih =>
    obtain ⟨asked, ht, hl, hm⟩ := ih
    have hm0 := pickKnown_some_mem pick hp
    exact ⟨b :: asked, by rw [ht, List.append_assoc]; rfl, Nat.lt_of_le_of_lt hl (length_kerase_lt hm0),
      List.forall_mem_cons.mpr ⟨hm0, fun x hx => ((mem_kerase Prod.fst).mp (hm x hx)).1⟩⟩

/-- how a pass ends at a candidate that does not fail -/
def ended : Reach → PassOut
  | .answer r => .answered r
  | .fatal e => .fatal e
  | .fail => .outOfBrokers

theorem ended_outOfBrokers {x : Reach} (h : ended x = .outOfBrokers) : x = .fail := by
  cases x <;> cases h
  rfl

/-- `hnd`: with unique ids, dropping a failed broker drops no other -/
theorem passKnown_ends (n : Nat) (s : State) (tr : List Addr)
    (hn : s.brokers.length ≤ n) (hnd : BNodup s) :
    ((∀ b ∈ s.brokers, reach b.2 = .fail) ∧ (passKnown pick reach n s tr).out = .outOfBrokers ∧
      (passKnown pick reach n s tr).s.brokers = []) ∨
    ∃ b ∈ s.brokers, reach b.2 ≠ .fail ∧ (passKnown pick reach n s tr).out = ended (reach b.2) ∧
      b ∈ (passKnown pick reach n s tr).s.brokers ∧ (passKnown pick reach n s tr).tried.getLast? = some b.2 := by
  -- branches numbered as in `passKnown_frame`
  fun_induction passKnown pick reach n s tr with
  | case1 s tr =>
    have e := List.eq_nil_of_length_eq_zero (Nat.le_zero.mp hn)
    exact .inl ⟨fun b hb => (nomatch e ▸ hb), rfl, e⟩
  | case2 n s tr hp =>
    have e := pickKnown_none pick hp
    exact .inl ⟨fun b hb => (nomatch e ▸ hb), rfl, e⟩
  | case3 n s tr b hp _ hr | case4 n s tr b hp _ hr =>
    have hm := pickKnown_some_mem pick hp
    exact .inr ⟨b, hm, by rw [hr]; nofun, by rw [hr]; rfl, hm, List.getLast?_concat ..⟩
  | case5 n s tr b0 hp hr0 ih =>
    have hm0 := pickKnown_some_mem pick hp
    have hl := length_kerase_lt hm0
    rcases ih (by simp only [deregisterKnown]; omega) (keys_filter_nodup Prod.fst _ hnd) with
      ⟨hall, hout, hnil⟩ | ⟨b, hb, hne, hout, hin, hlast⟩
    · refine .inl ⟨fun b hb => ?_, hout, hnil⟩
      by_cases e : b.1 = b0.1
      · exact eq_of_same_id hnd hb hm0 e ▸ hr0
      · exact hall b ((mem_kerase Prod.fst).mpr ⟨hb, e⟩)
    · exact .inr ⟨b, ((mem_kerase Prod.fst).mp hb).1, hne, hout, hin, hlast⟩

theorem passSeeds_all_fail (s0 : State) (seeds dead tr : List Addr) (hf : ∀ a ∈ seeds, reach a = .fail) :
    passSeeds pick reach s0 seeds dead tr =
      passKnown pick reach s0.brokers.length { s0 with seeds := [], dead := dead ++ seeds } (tr ++ seeds) := by
  induction seeds generalizing dead tr with
  | nil => simp [passSeeds]
  | cons a rest ih =>
    rw [passSeeds, hf a List.mem_cons_self]
    simp only
    rw [ih _ _ fun x hx => hf x (List.mem_cons_of_mem _ hx)]
    simp [List.append_assoc]

theorem passSeeds_first_nonfail (s0 : State) (pre : List Addr) (a : Addr) (post dead tr : List Addr)
    (hf : ∀ x ∈ pre, reach x = .fail) (ha : reach a ≠ .fail) :
    passSeeds pick reach s0 (pre ++ a :: post) dead tr =
      ⟨{ s0 with seeds := a :: post, dead := dead ++ pre }, ended (reach a), tr ++ pre ++ [a]⟩ := by
  induction pre generalizing dead tr with
  | nil =>
    rw [List.nil_append, passSeeds, List.append_nil, List.append_nil]
    cases h : reach a with
    | fail => exact absurd h ha
    | _ => rfl
  | cons x pre ih =>
    rw [List.cons_append, passSeeds, hf x List.mem_cons_self]
    simp only
    rw [ih _ _ fun y hy => hf y (List.mem_cons_of_mem _ hy)]
    simp [List.append_assoc]

theorem seeds_split (seeds : List Addr) :
    (∀ a ∈ seeds, reach a = .fail) ∨
    ∃ pre a post, seeds = pre ++ a :: post ∧ (∀ x ∈ pre, reach x = .fail) ∧ reach a ≠ .fail := by
  induction seeds with
  | nil => exact .inl fun _ h => nomatch h
  | cons a rest ih =>
    by_cases h : reach a = .fail
    · rcases ih with hall | ⟨pre, b, post, e, hp, hb⟩
      · exact .inl (List.forall_mem_cons.mpr ⟨h, hall⟩)
      · exact .inr ⟨a :: pre, b, post, e ▸ rfl, List.forall_mem_cons.mpr ⟨h, hp⟩, hb⟩
    · exact .inr ⟨[], a, rest, rfl, fun _ h => (nomatch h), h⟩

def seedsFailed (s : State) : State := { s with seeds := [], dead := s.dead ++ s.seeds }

theorem pass_cases (s : State) :
    ((∀ a ∈ s.seeds, reach a = .fail) ∧
      pass pick reach s = passKnown pick reach s.brokers.length (seedsFailed s) s.seeds) ∨
    ∃ pre a post, s.seeds = pre ++ a :: post ∧ (∀ x ∈ pre, reach x = .fail) ∧ reach a ≠ .fail ∧
      pass pick reach s = ⟨{ s with seeds := a :: post, dead := s.dead ++ pre }, ended (reach a), pre ++ [a]⟩ := by
  rcases seeds_split reach s.seeds with hall | ⟨pre, a, post, hsplit, hpre, ha⟩
  · exact .inl ⟨hall, (passSeeds_all_fail pick reach s s.seeds s.dead [] hall).trans (by rw [List.nil_append]; rfl)⟩
  · refine .inr ⟨pre, a, post, hsplit, hpre, ha, ?_⟩
    rw [pass, hsplit, passSeeds_first_nonfail pick reach s pre a post s.dead [] hpre ha, List.nil_append]

theorem pass_ends (s : State) (hnd : BNodup s) :
    ((∀ a ∈ candidates s, reach a = .fail) ∧ (pass pick reach s).out = .outOfBrokers ∧
      (pass pick reach s).s.brokers = [] ∧ (pass pick reach s).s.seeds = [] ∧
      (pass pick reach s).s.dead = s.dead ++ s.seeds) ∨
    ∃ a ∈ candidates s, reach a ≠ .fail ∧ (pass pick reach s).out = ended (reach a) ∧
      (pass pick reach s).tried.getLast? = some a ∧ a ∈ candidates (pass pick reach s).s := by
  rcases pass_cases pick reach s with ⟨hall, hp⟩ | ⟨pre, a, post, hsplit, _, ha, hp⟩ <;> rw [hp]
  · have hfr := passKnown_frame pick reach s.brokers.length (seedsFailed s) s.seeds
    rcases passKnown_ends pick reach s.brokers.length (seedsFailed s) s.seeds (Nat.le_refl _) hnd with
      ⟨hbf, hout, hnil⟩ | ⟨b, hb, hne, hout, hin, hlast⟩
    · refine .inl ⟨fun a hac => ?_, hout, hnil, hfr.1, hfr.2.1⟩
      rcases mem_candidates.mp hac with h | ⟨b, hb, rfl⟩
      · exact hall a h
      · exact hbf b hb
    · exact .inr ⟨b.2, broker_mem_candidates hb, hne, hout, hlast, broker_mem_candidates hin⟩
  · exact .inr ⟨a, seed_mem_candidates (hsplit ▸ List.mem_append_right _ List.mem_cons_self), ha, rfl,
      List.getLast?_concat .., seed_mem_candidates List.mem_cons_self⟩

theorem pass_frame (s : State) :
    (pass pick reach s).tried.length ≤ (candidates s).length ∧
    (∀ x ∈ (pass pick reach s).tried, x ∈ candidates s) ∧
    (pass pick reach s).s.metadata = s.metadata ∧ (pass pick reach s).s.cached = s.cached ∧
    (BNodup s → BNodup (pass pick reach s).s) ∧
    (∀ a ∈ s.seeds, reach a ≠ .fail → a ∈ (pass pick reach s).s.seeds) := by
  rcases pass_cases pick reach s with ⟨hall, hp⟩ | ⟨pre, a, post, hsplit, hpre, _, hp⟩ <;> rw [hp]
  · have hfr := passKnown_frame pick reach s.brokers.length (seedsFailed s) s.seeds
    obtain ⟨asked, ht, hl, hm⟩ := passKnown_tried pick reach s.brokers.length (seedsFailed s) s.seeds
    refine ⟨?_, fun x hx => ?_, hfr.2.2.1, hfr.2.2.2.1, hfr.2.2.2.2.2.2, fun a ha hne => absurd (hall a ha) hne⟩
    · rw [ht, candidates_length, List.length_append, List.length_map]
      exact Nat.add_le_add_left hl _
    · rcases List.mem_append.mp (ht ▸ hx) with h | h
      · exact seed_mem_candidates h
      · obtain ⟨b, hb, rfl⟩ := List.mem_map.mp h
        exact broker_mem_candidates (hm b hb)
  · refine ⟨?_, fun x hx => seed_mem_candidates (hsplit ▸ ?_), rfl, rfl, id, fun x hx hne => ?_⟩
    · rw [candidates_length, hsplit]
      simp only [List.length_append, List.length_cons, List.length_nil]
      omega
    · rcases List.mem_append.mp hx with h | h
      · exact List.mem_append_left _ h
      · exact List.mem_append_right _ (List.mem_singleton.mp h ▸ List.mem_cons_self)
    · exact (List.mem_append.mp (hsplit ▸ hx)).resolve_left fun h => hne (hpre x h)

theorem pass_answers (s : State) (hnd : BNodup s)
    (hnf : ∀ a ∈ candidates s, ∀ e, reach a ≠ .fatal e) (hans : ∃ a ∈ candidates s, reach a ≠ .fail) :
    ∃ a ∈ candidates s, ∃ r, reach a = .answer r ∧ (pass pick reach s).out = .answered r ∧
      (pass pick reach s).tried.getLast? = some a ∧ a ∈ candidates (pass pick reach s).s := by
  rcases pass_ends pick reach s hnd with ⟨hall, _⟩ | ⟨a, hac, hne, hout, hlast, hin⟩
  · obtain ⟨a, hac, hne⟩ := hans
    exact absurd (hall a hac) hne
  · cases hr : reach a with
    | fail => exact absurd hr hne
    | fatal e => exact absurd hr (hnf a hac e)
    | answer r => exact ⟨a, hac, r, hr, by rw [hout, hr]; rfl, hlast, hin⟩

end Pass

theorem attempt_answered {pick : List (Int × Addr) → Nat} {reach : Addr → Reach} {full : Bool} {s : State} {r : Resp}
    (h : (pass pick reach s).out = .answered r) :
    attempt pick reach full s =
      ((updateMetadata (pass pick reach s).s r full).s, (updateMetadata (pass pick reach s).s r full).retry,
       .fromUpdate (updateMetadata (pass pick reach s).s r full).err) := by
  rw [attempt, h]

theorem attempt_outOfBrokers {pick : List (Int × Addr) → Nat} {reach : Addr → Reach} {full : Bool} {s : State}
    (h : (pass pick reach s).out = .outOfBrokers) :
    attempt pick reach full s = (resurrect (pass pick reach s).s, true, .outOfBrokers) := by
  rw [attempt, h]

theorem tryRefresh_no_retry {pick : Nat → List (Int × Addr) → Nat} {env : Nat → Addr → Reach} {full : Bool} {n : Nat}
    {s : State} (h : (attempt (pick n) (env n) full s).2.1 = false) :
    tryRefresh pick env full n s = ((attempt (pick n) (env n) full s).1, (attempt (pick n) (env n) full s).2.2) := by
  cases n with
  | zero => rfl
  | succ n => rw [tryRefresh, if_neg (by rw [h]; exact Bool.false_ne_true)]

end Lemmas.C15
