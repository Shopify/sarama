import SaramaVerif.Lemmas.C11Keeps
/-
  C11: a response of a transactional log at the configured isolation level (`resp_iso`): the keep decisions of
  parseResponse are the ground truth of that level (`keeps_static`, `keeps_truth`), which puts it under `resp_annot`.
-/
namespace Lemmas.C11
open Model.ConsumerParse Model.Txn Lemmas.C03

theorem resp_iso (cfg : Cfg) (L : List LUnit) (b0 : Int) (st : PState) (es : List Entry) (pt : Bool)
    (idx : List (Int × Int)) (hwf : LogWF cfg.tsFromWrapper b0 L) (hbase : BaseWF L)
    (hf : FaithfulTxnData L st.offset es idx) (hn : nRecs es ≠ 0) :
    (parseBlock cfg st (.data es pt idx)).1 = window st.offset (parseBlock cfg st (.data es pt idx)).2.1.offset
      (visibleIso cfg.readCommitted cfg.tsFromWrapper L) ∧
    st.offset < (parseBlock cfg st (.data es pt idx)).2.1.offset ∧
    (parseBlock cfg st (.data es pt idx)).2.2 = .ok ∧
    (parseBlock cfg st (.data es pt idx)).2.1.fetchSize = cfg.fetchDefault ∧
    (∀ e ∈ es, ∀ r ∈ entryRecs cfg.tsFromWrapper e, r.off < (parseBlock cfg st (.data es pt idx)).2.1.offset) := by
  obtain ⟨⟨pre, post, hL, hpre, hhead, hne, hbad⟩, hnoempty, hiEnd, hend, hidx⟩ := hf
  have hk : keeps cfg es (sortAborted idx) [] = truthKeeps cfg.readCommitted es post := by
    cases hrc : cfg.readCommitted
    · exact keeps_static cfg es post _ _ (.inl hrc)
    · exact keeps_truth cfg hrc L pre post es idx st.offset hiEnd hL (logWF_pairwise _ L b0 hwf).1 hbase hidx hpre
        (run_reaches hwf hL hhead) hend es [] (sortAborted idx) [] rfl (JInv.init idx)
  have h := resp_annot cfg cfg.readCommitted st es pt idx pre post b0 hn
  -- no batch of the response is empty: the decoder drops nothing
  rw [decodeView_id hnoempty hne, ← hL] at h
  exact h hwf hpre hhead hne hbad hk

theorem resp_rc (cfg : Cfg) (hrc : cfg.readCommitted = true) (L : List LUnit) (b0 : Int) (st : PState)
    (es : List Entry) (pt : Bool) (idx : List (Int × Int))
    (hwf : LogWF cfg.tsFromWrapper b0 L) (hbase : BaseWF L) (hf : FaithfulTxnData L st.offset es idx)
    (hn : nRecs es ≠ 0) :
    (parseBlock cfg st (.data es pt idx)).1 =
      window st.offset (parseBlock cfg st (.data es pt idx)).2.1.offset (visibleIso true cfg.tsFromWrapper L) ∧
    st.offset < (parseBlock cfg st (.data es pt idx)).2.1.offset ∧
    (parseBlock cfg st (.data es pt idx)).2.2 = .ok ∧
    (parseBlock cfg st (.data es pt idx)).2.1.fetchSize = cfg.fetchDefault ∧
    (∀ e ∈ es, ∀ r ∈ entryRecs cfg.tsFromWrapper e, r.off < (parseBlock cfg st (.data es pt idx)).2.1.offset) :=
  hrc ▸ resp_iso cfg L b0 st es pt idx hwf hbase hf hn

end Lemmas.C11
