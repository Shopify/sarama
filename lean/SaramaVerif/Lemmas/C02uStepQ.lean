/-
  C02 composition, the invariant `GoodU`: what a step leaves alone and what it has to re-establish - the moves in
  front of the partition producer (submit / retryOut / dispatch / moveLeader), and the frame of a step of a broker
  worker, `l` or an old one that drains (`ConcU.step`, `logU_stepW`).
-/
import SaramaVerif.Lemmas.C02uRep

namespace Lemmas.C02sys
open Model Model.Pipeline

variable {M : Nat} {K : Prop} {s s' : Sys} {olds : List Nat} {l : Nat} {v v' : View}

theorem lanes_ge1 (M : Nat) (s : Sys) (olds : List Nat) : ∀ t ∈ lanes M s olds, 1 ≤ t.retries := by
  intro t ht
  simp only [lanes, List.mem_flatMap] at ht
  obtain ⟨w, _, hw⟩ := ht
  obtain ⟨y, _, _, rfl⟩ := mem_bumpF hw
  simp [bump_retries]

theorem nodup_split {pre post : List Nat} {w : Nat} (h : (pre ++ w :: post).Nodup) : w ∉ pre ∧ w ∉ post := by
  rw [List.nodup_append] at h
  obtain ⟨_, h2, h3⟩ := h
  exact ⟨fun hm => h3 w hm w (List.mem_cons_self ..) rfl, (List.nodup_cons.1 h2).1⟩

structure StepW (s s' : Sys) (w : Nat) : Prop where
  pp    : s'.pp = s.pp
  pq    : s'.pq = s.pq
  dq    : s'.dq = s.dq
  cur   : s'.cur = s.cur
  crash : s'.crash = s.crash
  other : ∀ u, u ≠ w → s'.wk u = s.wk u

theorem stepW_workSw (M : Nat) (s : Sys) (w : Nat) (x : Worker) (X : List Tok) (sc : List (Int × Nat)) (e : List Int) :
    StepW s (workSw M s w x X sc e) w := by
  unfold workSw; exact ⟨rfl, rfl, rfl, rfl, rfl, fun _ hu => setW_other _ _ hu⟩

theorem stepW_setW (s : Sys) (w : Nat) (x : Worker) (lg : List Int) :
    StepW s { s with log := lg, wk := setW s.wk w x } w :=
  ⟨rfl, rfl, rfl, rfl, rfl, fun _ hu => setW_other _ _ hu⟩

theorem lanes_same (h : ∀ u ∈ olds, s'.wk u = s.wk u) : lanes M s' olds = lanes M s olds :=
  lanes_inq fun u hu => by rw [h u hu]

theorem GoodU.cover (h : GoodU M K s olds l v) {tl : List Tok} (hbd : Bd K (lanes M s olds) tl) :
    ∀ y ∈ lanes M s olds, ∃ f ∈ lanes M s olds, f.kind = .fin ∧ y.retries ≤ f.retries ∧ ∀ c ∈ tl, f.retries < c.retries := by
  intro y hy
  obtain ⟨f, hf, a1, a2, _⟩ := lanes_cover (Z := []) h.conc.oldok (by rw [List.append_nil]; exact hbd.old) y hy
  exact ⟨f, hf, a1, a2, fun c hc => (hbd.cross f hf c hc).1 a1⟩

theorem GoodU.lanes_le_hwm (h : GoodU M K s olds l v) : ∀ y ∈ lanes M s olds, y.retries ≤ v.pp.hwm := by
  obtain ⟨gw, tl, g, _, hv, hbd⟩ := h.rep
  intro y hy
  obtain ⟨f, hf, a1, a2, _⟩ := h.cover hbd y hy
  exact Nat.le_trans a2 (h.vinv.fin1 f (by rw [hv]; simp [hf]) a1).2.1

theorem rb_above (hv : VInv v) {a c : Tok} (ha : a ∈ v.av) (hc : c.kind = .data) (hl : v.pp.hwm < c.retries) : Rb a c :=
  ⟨fun hk => Nat.lt_of_le_of_lt (hv.fin1 a ha hk).2.1 hl, fun hk => by rw [hc] at hk; cases hk⟩

theorem pairwise_rb_data {N : List Tok} (h : ∀ x ∈ N, x.kind = .data) : N.Pairwise Rb :=
  List.pairwise_of_forall_mem_list fun a ha c hc =>
    ⟨(fun hk => by rw [h a ha] at hk; cases hk), fun hk => by rw [h c hc] at hk; cases hk⟩

/-- what a worker bounces of what it held or would have accepted lies above the watermark: behind every chaser -/
theorem rb_bumped (hv : VInv v) {N : List Tok} (hN : ∀ c ∈ N, ∃ y ∈ v.gw, c = bump y) :
    N.Pairwise Rb ∧ ∀ a ∈ v.av, ∀ c ∈ N, Rb a c := by
  have hd : ∀ c ∈ N, c.kind = .data ∧ v.pp.hwm < c.retries := fun c hc => by
    obtain ⟨y, hy, rfl⟩ := hN c hc
    exact ⟨hv.gdata y hy, Nat.lt_succ_of_le (hv.ghw y hy)⟩
  exact ⟨pairwise_rb_data fun c hc => (hd c hc).1, fun a ha c hc => rb_above hv ha (hd c hc).1 (hd c hc).2⟩

theorem ConcU.queues (hco : ConcU M K s olds l v) (hc : s'.cur = s.cur) (hw : s'.wk = s.wk) (hcr : s'.crash = s.crash)
    (hcap : s.cur = none → ∀ x ∈ data v'.av, x.retries ≤ v'.pp.hwm) : ConcU M K s' olds l v' := by
  -- `s'` taken apart, so that `s'.cur`, `s'.wk`, `s'.crash` are variables for `subst`
  cases s'
  subst hc hw hcr
  exact ⟨hco.finq, hco.nodup, hco.lNo, hco.cur, hco.crash, hco.oldok, hcap, hco.lend⟩

theorem RepU.congr (hr : RepU M K s olds l v) (hpp : s'.pp = s.pp) (hc : s'.cur = s.cur) (hw : s'.wk = s.wk)
    (hq : s'.pq ++ s'.dq ++ s'.ret = s.pq ++ s.dq ++ s.ret) : RepU M K s' olds l v := by
  obtain ⟨gw, tl, g, hwr, hv, hbd⟩ := hr
  have hl : lanes M s' olds = lanes M s olds := lanes_same fun _ _ => by rw [hw]
  exact ⟨gw, tl, g, by rw [hc, insW, hw]; exact hwr, by rw [hv, hpp, hq, hl], hl ▸ hbd⟩

theorem logU_same (hl : LogInvU s l v) (e_next : s'.next = s.next) (e_log : s'.log = s.log) (e_succ : s'.succ = s.succ)
    (hlive : ∀ a, LiveId v' a → LiveId v a)
    (hpend : ∀ vd base, (s'.wk l).pend = some (vd, base) → (s.wk l).pend = some (vd, base) ∧
      (s'.wk l).bp.sets = (s.wk l).bp.sets) : LogInvU s' l v' := by
  refine ⟨by rw [e_next, e_log, e_succ]; exact hl.toLogCore.mono hlive, fun vd base sent hp hs => ?_⟩
  obtain ⟨h1, h2⟩ := hpend vd base hp
  rw [e_succ, e_log]; exact hl.pend vd base sent h1 (h2 ▸ hs)

theorem goodU_queue_move (h : GoodU M K s olds l v) (hpp : s'.pp = s.pp) (hc : s'.cur = s.cur) (hw : s'.wk = s.wk)
    (hn : s'.next = s.next) (hl : s'.log = s.log) (hs : s'.succ = s.succ) (hcr : s'.crash = s.crash)
    (hq : s'.pq ++ s'.dq ++ s'.ret = s.pq ++ s.dq ++ s.ret) : GoodU M K s' olds l v :=
  ⟨h.rep.congr hpp hc hw hq, h.vinv, h.conc.queues hc hw hcr h.conc.capN,
    logU_same h.log hn hl hs (fun _ ha => ha) (fun _ _ hp => by rw [hw] at hp ⊢; exact ⟨hp, rfl⟩)⟩

theorem goodU_retryOut (h : GoodU M K s olds l v) (t : Tok) (r : List Tok) (hr : s.ret = t :: r) :
    GoodU M K { s with ret := r, dq := s.dq ++ [t] } olds l v :=
  goodU_queue_move h rfl rfl rfl rfl rfl rfl rfl (by simp [hr])

theorem goodU_dispatch (h : GoodU M K s olds l v) (t : Tok) (r : List Tok) (hr : s.dq = t :: r) :
    GoodU M K { s with dq := r, pq := s.pq ++ [t] } olds l v :=
  goodU_queue_move h rfl rfl rfl rfl rfl rfl rfl (by simp [hr])

theorem goodU_moveLeader (h : GoodU M K s olds l v) (x : Nat) : GoodU M K { s with ldr := x } olds l v :=
  goodU_queue_move h rfl rfl rfl rfl rfl rfl rfl rfl

theorem goodU_submit (hb : BaseU M s olds l) (h : GoodU M K s olds l v) : ∃ v', GoodU M K (submitS s) olds l v' := by
  obtain ⟨⟨gw, tl, g, hwr, hv, hbd⟩, hvi, hco, hlo⟩ := h
  have hav : v.av = (s.pq ++ s.dq) ++ (s.ret ++ (lanes M s olds ++ tl)) := by rw [hv]; simp
  have hl2 : ∀ x ∈ data (s.ret ++ (lanes M s olds ++ tl)), 1 ≤ x.retries := by
    intro x hx
    rcases List.mem_append.1 (mem_data.1 hx).1 with h1 | h1
    · exact hb.ret1 x h1
    · rcases List.mem_append.1 h1 with h1 | h1
      · exact lanes_ge1 M s olds x h1
      · exact hwr.tl_pos x h1
  obtain ⟨hvi', hlive⟩ := hvi.fresh (s.pq ++ s.dq) _ (s.next : Int) hav (fun x hx => hlo.idlt x.id ⟨x, hx, rfl⟩) hl2
  refine ⟨_, ⟨gw, tl, g, hwr, ?_, lanes_same (s' := submitS s) (fun _ _ => rfl) ▸ hbd⟩, hvi', ?_, ?_⟩
  · rw [hv, lanes_same (s' := submitS s) (s := s) (fun _ _ => rfl)]; simp [submitS, freshTok]
  · refine hco.queues rfl rfl rfl (fun hcn x hx => ?_)
    -- the new token is at level 0
    have hx' : x ∈ data ((s.pq ++ s.dq) ++ freshTok (s.next : Int) :: (s.ret ++ (lanes M s olds ++ tl))) := hx
    rw [data_append, data_cons_data _ (freshTok_data _)] at hx'
    rcases List.mem_append.1 hx' with h1 | h1
    · exact hco.capN hcn x (by rw [hav, data_append]; exact List.mem_append_left _ h1)
    · rcases List.mem_cons.1 h1 with rfl | h1
      · exact Nat.zero_le _
      · exact hco.capN hcn x (by rw [hav, data_append]; exact List.mem_append_right _ h1)
  · exact ⟨hlo.toLogCore.fresh hlive, hlo.pend⟩

theorem ConcU.step (hco : ConcU M K s olds l v) {w : Nat} {x : Worker} (hf : StepW s s' w) (hx : s'.wk w = x)
    (hq : x.inq <:+ (s.wk w).inq) (hrole : w = l ∨ (w ∈ olds ∧ OldU M s' w))
    (hcap : s.cur = none → ∀ x ∈ data v'.av, x.retries ≤ v'.pp.hwm) : ConcU M K s' olds l v' := by
  subst hx
  have hsuf : ∀ u, (s'.wk u).inq <:+ (s.wk u).inq := fun u => by
    by_cases e : u = w
    · rw [e]; exact hq
    · rw [hf.other u e]; exact List.suffix_refl _
  refine ⟨fun u hu y hy => hco.finq u hu y ((hsuf u).subset hy), hco.nodup, hco.lNo, hf.cur ▸ hco.cur,
    hf.crash ▸ hco.crash, fun u hu => ?_, fun hcn => hcap (hf.cur ▸ hcn), fun hb hcn => ?_⟩
  · by_cases e : u = w
    · exact hrole.elim (fun hl => absurd (hl ▸ e ▸ hu) hco.lNo) (fun ho => e ▸ ho.2)
    · have := hco.oldok u hu
      unfold OldU insW at this ⊢; rw [hf.other u e]; exact this
  · -- a channel that ends with the chaser loses tokens at its head only
    rcases hco.lend hb (hf.cur ▸ hcn) with e | ⟨q, k, e⟩
    · exact .inl (List.suffix_nil.1 (e ▸ hsuf l))
    · exact (List.suffix_concat_iff.1 (e ▸ hsuf l)).imp_right fun ⟨q', e', _⟩ => ⟨q', k, e'⟩

theorem logU_stepW {w : Nat} {x : Worker} (hl : LogInvU s l v) (hf : StepW s s' w) (hx : s'.wk w = x)
    (e_next : s'.next = s.next) (e_log : s'.log = s.log) (e_succ : s'.succ = s.succ)
    (hlive : ∀ a, LiveId v' a → LiveId v a)
    (hpend : w = l → ∀ vd base, x.pend = some (vd, base) → (s.wk w).pend = some (vd, base) ∧ x.bp.sets = (s.wk w).bp.sets) :
    LogInvU s' l v' := by
  subst hx
  refine logU_same hl e_next e_log e_succ hlive (fun vd base hp => ?_)
  by_cases e : l = w
  · subst e; exact hpend rfl vd base hp
  · rw [hf.other l e] at hp ⊢; exact ⟨hp, rfl⟩

end Lemmas.C02sys
