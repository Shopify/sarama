/-
  Checks listed by name, for statements about a function that is a `match` on string literals (`Model.Codec.bodySchema`).
  The namespace is `Bridge`: the one user, the printed file Bridge/C09Skel.lean, is in `Bridge.C09Skel`.

  The kernel decides `"a" = "b"` by encoding both literals to UTF-8, so a statement about such a match at a literal,
  evaluated as it stands, compares names at every arm it passes.  Here the match is walked once at a VARIABLE name.
  `FirstNamed cs s r` says of the list `cs` what a match says of its arms: the first entry named `s` decides.
  `FirstNamed.arm` is one step of the walk: in the then-branch of an arm the name is the arm's own by substitution, so no
  name is ever compared, and the premise that remains is closed.  That every entry is the first of its name needs the
  names to differ, which is decided once for the whole list (`nd` of `FirstNamed.holds`).  A statement about the match
  at one literal is then the i-th entry: `FirstNamed.holds h nd i rfl`.
-/
namespace Bridge
variable {α : Type}

def FirstNamed : List (String × (α → Bool)) → String → α → Prop
  | [], _, _ => True
  | c :: cs, s, r => if s = c.1 then c.2 r = true else FirstNamed cs s r

/-- One arm of a compiled literal match, `dite (s = "lit") (fun h => ..) (fun _ => rest)`.  `t` takes the name as an
    argument so that `ht`, the arm at its own name, is a closed term which evaluation decides; the else-branch of the
    compiled matcher does not use its hypothesis, so `e` is a plain value. -/
theorem FirstNamed.arm {c : String × (α → Bool)} {cs s} {t : ∀ s, s = c.1 → α} {e : α}
    (ht : c.2 (t c.1 rfl) = true) (he : FirstNamed cs s e) :
    FirstNamed (c :: cs) s (dite (s = c.1) (t s) fun _ => e) := by
  unfold FirstNamed
  split
  · next h => subst h; exact ht
  · exact he

theorem FirstNamed.first {cs : List (String × (α → Bool))} {c r} (nd : cs.Pairwise (·.1 ≠ ·.1)) (hc : c ∈ cs)
    (h : FirstNamed cs c.1 r) : c.2 r = true := by
  induction cs with
  | nil => cases hc
  | cons c0 cs ih =>
    have nd := List.pairwise_cons.mp nd
    unfold FirstNamed at h
    cases hc with
    | head => exact (if_pos rfl).mp h
    | tail _ hc => exact ih nd.2 hc ((if_neg (nd.1 c hc).symm).mp h)

theorem FirstNamed.holds {cs : List (String × (α → Bool))} {f : String → α} (h : ∀ s, FirstNamed cs s (f s))
    (nd : cs.Pairwise (·.1 ≠ ·.1)) (i : Nat) {name check} (hi : cs[i]? = some (name, check)) :
    check (f name) = true :=
  first nd (List.mem_of_getElem? hi) (h name)

end Bridge
