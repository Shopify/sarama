import SaramaVerif.Model.Metadata
import SaramaVerif.Lemmas.AssocFind
/-
  C15: two facts about folds (`foldl_last_wins`, `foldl_preserves`), on which what the loops of `updateMetadata` do to
  a map entry rests; keyed lists (the Go maps of the client, `kget` / `kset` / `kerase`); and the insertion sort that
  orders the cached partition lists.
-/
namespace Lemmas.C15
open Model.Metadata

/-- A fold in which every element either overwrites what is observed (`g`) or leaves it alone: the last
    overwriting element decides. The shape of the loops of `updateMetadata` / `updateBroker` that write a map entry or
    the returned error; the tracked topics and the retry flag only accumulate. -/
theorem foldl_last_wins {σ β γ : Type} {f : σ → β → σ} {g : σ → γ} {hit : β → Prop} [DecidablePred hit] {val : β → γ}
    (hf : ∀ s b, g (f s b) = if hit b then val b else g s) (l : List β) (s : σ) :
    g (l.foldl f s) = (l.reverse.find? (fun b => decide (hit b))).elim (g s) val := by
  induction l generalizing s with
  | nil => rfl
  | cons b l ih =>
    rw [List.foldl_cons, ih, List.reverse_cons, List.find?_append]
    cases l.reverse.find? (fun b => decide (hit b)) with
    | some b' => rfl
    | none =>
      rw [Option.none_or, List.find?_singleton, hf]
      by_cases h : hit b
      · rw [if_pos h, if_pos (decide_eq_true h)]; rfl
      · rw [if_neg h, if_neg (by rw [decide_eq_false h]; exact Bool.false_ne_true)]

theorem foldl_preserves {σ β : Type} {f : σ → β → σ} {P : σ → Prop} (hf : ∀ s b, P s → P (f s b))
    (l : List β) {s : σ} (h : P s) : P (l.foldl f s) :=
  List.foldlRecOn l f h fun s hs b _ => hf s b hs

section Keyed
variable {α : Type} (key : α → Int)

theorem kget_nil (k : Int) : kget key k ([] : List α) = none := rfl

theorem kget_cons (k : Int) (a : α) (m : List α) :
    kget key k (a :: m) = if key a = k then some a else kget key k m := by
  unfold kget
  by_cases h : key a = k <;> simp [h]

theorem kget_append (k : Int) (m₁ m₂ : List α) :
    kget key k (m₁ ++ m₂) = (kget key k m₁).or (kget key k m₂) :=
  List.find?_append

theorem kget_some {k : Int} {m : List α} {a : α} (h : kget key k m = some a) : key a = k ∧ a ∈ m :=
  ⟨of_decide_eq_true (List.find?_some (p := fun a => decide (key a = k)) h), List.mem_of_find?_eq_some h⟩

theorem kget_none {k : Int} {m : List α} : kget key k m = none ↔ ∀ a ∈ m, key a ≠ k := by
  unfold kget
  simp [List.find?_eq_none]

theorem kget_isSome {k : Int} {m : List α} : (kget key k m).isSome ↔ ∃ a ∈ m, key a = k := by
  unfold kget
  simp [List.find?_isSome]

theorem kget_filter_key (q : Int → Bool) (k : Int) (m : List α) :
    kget key k (m.filter (fun a => q (key a))) = if q k then kget key k m else none := by
  induction m with
  | nil => exact (ite_self _).symm
  | cons a m ih =>
    rw [List.filter_cons]
    by_cases h : key a = k
    · subst h; cases hq : q (key a) <;> simp [kget_cons, ih, hq]
    · rw [kget_cons key k a m, if_neg h]
      cases q (key a)
      · exact ih
      · exact (kget_cons key k a _).trans ((if_neg h).trans ih)

theorem kget_kerase (k k' : Int) (m : List α) :
    kget key k (kerase key k' m) = if k' = k then none else kget key k m := by
  rw [kerase, kget_filter_key key (fun x => decide (x ≠ k'))]
  by_cases h : k' = k
  · rw [if_pos h, if_neg (by simp [h])]
  · rw [if_neg h, if_pos (by simpa using Ne.symm h)]

theorem kget_kset (k : Int) (a : α) (m : List α) :
    kget key k (kset key a m) = if key a = k then some a else kget key k m :=
  Lemmas.Assoc.find?_replace key m a k

theorem mem_kerase {k : Int} {m : List α} {a : α} : a ∈ kerase key k m ↔ a ∈ m ∧ key a ≠ k := by
  unfold kerase
  simp [List.mem_filter]

def keys (m : List α) : List Int := m.map key

theorem mem_keys_iff {k : Int} {m : List α} : k ∈ keys key m ↔ (kget key k m).isSome := by
  rw [kget_isSome, keys, List.mem_map]

theorem keys_filter_nodup (p : α → Bool) {m : List α} (h : (keys key m).Nodup) : (keys key (m.filter p)).Nodup :=
  h.sublist (List.filter_sublist.map key)

theorem keys_kset_nodup {a : α} {m : List α} (h : (keys key m).Nodup) : (keys key (kset key a m)).Nodup := by
  refine List.nodup_cons.mpr ⟨fun hm => ?_, keys_filter_nodup key _ h⟩
  obtain ⟨b, hb, e⟩ := List.mem_map.mp hm
  exact ((mem_kerase key).mp hb).2 e

theorem kget_of_mem_nodup {m : List α} {a : α} (h : (keys key m).Nodup) (ha : a ∈ m) :
    kget key (key a) m = some a := by
  induction m with
  | nil => cases ha
  | cons b m ih =>
    have hb := List.nodup_cons.mp h
    rw [kget_cons]
    rcases List.mem_cons.mp ha with rfl | hm
    · exact if_pos rfl
    · rw [if_neg fun e : key b = key a => hb.1 (e ▸ List.mem_map.mpr ⟨a, hm, rfl⟩)]
      exact ih hb.2 hm

end Keyed

theorem mem_ins {x y : Int} {l : List Int} : y ∈ ins x l ↔ y = x ∨ y ∈ l := by
  induction l with
  | nil => simp [ins]
  | cons z zs ih => unfold ins; split <;> simp [ih, or_left_comm]

theorem mem_isort {y : Int} {l : List Int} : y ∈ isort l ↔ y ∈ l := by
  induction l with
  | nil => simp [isort]
  | cons x xs ih => simp [isort, mem_ins, ih]

theorem ins_strict {x : Int} {l : List Int} (hx : x ∉ l) (h : l.Pairwise (· < ·)) : (ins x l).Pairwise (· < ·) := by
  induction l with
  | nil => exact List.pairwise_singleton _ _
  | cons z zs ih =>
    have hz : x ≠ z := fun e => hx (e ▸ List.mem_cons_self)
    have hc := List.pairwise_cons.mp h
    unfold ins
    split
    · have hlt : x < z := Int.lt_iff_le_and_ne.mpr ⟨‹_›, hz⟩
      exact List.pairwise_cons.mpr
        ⟨fun y hy => (List.mem_cons.mp hy).elim (· ▸ hlt) fun e => Int.lt_trans hlt (hc.1 y e), h⟩
    · exact List.pairwise_cons.mpr
        ⟨fun y hy => (mem_ins.mp hy).elim (fun e => e ▸ Int.not_le.mp ‹_›) (hc.1 y), ih (fun e => hx (List.mem_cons_of_mem _ e)) hc.2⟩

theorem isort_strict {l : List Int} (h : l.Nodup) : (isort l).Pairwise (· < ·) := by
  induction l with
  | nil => exact List.Pairwise.nil
  | cons x xs ih =>
    have hc := List.nodup_cons.mp h
    exact ins_strict (fun e => hc.1 (mem_isort.mp e)) (ih hc.2)

theorem strict_sorted_ext {l₁ l₂ : List Int} (h₁ : l₁.Pairwise (· < ·)) (h₂ : l₂.Pairwise (· < ·))
    (h : ∀ x, x ∈ l₁ ↔ x ∈ l₂) : l₁ = l₂ :=
  List.Perm.eq_of_pairwise (le := (· < ·)) (fun _ _ _ _ hab hba => absurd (Int.lt_trans hab hba) (Int.lt_irrefl _))
    h₁ h₂ ((List.perm_ext_iff_of_nodup (h₁.imp Int.ne_of_lt) (h₂.imp Int.ne_of_lt)).mpr h)

end Lemmas.C15
