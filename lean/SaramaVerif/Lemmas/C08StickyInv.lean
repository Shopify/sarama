import SaramaVerif.Lemmas.C08Sticky
/-
  The state invariant `SInv` of the sticky op model (guarded variant): kept by every accepted operation, hence by
  every accepted run; holds initially for ANY prepopulated ownership (one owner per claimed partition, otherwise
  arbitrary); and makes the plan assembled at the end valid.
-/
namespace Model.Balance

/-- `core` is the content.  `pre`: before the loop over unassignedPartitions nothing is parked, snapshotted or moved
    and every member is still a key of the working assignment, which is what gives that loop a first taker.
    `snapOK`: the snapshot satisfies the core facts together with the parked assignments of the moment; only the
    revert, which reinstates it, needs this.  `movesOK`: the recorded movements are of existing partitions that can
    take part, because `getTheActualPartitionToBeMoved` may answer with one of them instead of the partition asked. -/
structure SInv (env : SEnv) (st : SState) : Prop where
  core : Core env st.cur st.owner st.fixed st.assigned
  pre : st.assigned = false →
    st.fixed = [] ∧ st.snap = none ∧ st.moves = [] ∧ ∀ k, k ∈ AL.keys env.pot → k ∈ AL.keys st.cur
  snapOK : ∀ s, st.snap = some s → Core env s.1 s.2 st.fixed true ∧ st.assigned = true
  movesOK : ∀ e, e ∈ st.moves → canPartitionParticipate env.pot e.1 = true ∧ e.1 ∈ env.parts

theorem mem_movePartition {mv : Movements} {p : TP} {old new : Member} {e : TP × Member × Member} :
    e ∈ movePartition mv p old new → e ∈ mv ∨ e.1 = p := by
  unfold movePartition
  cases movGet mv p with
  | none => exact fun h => (List.mem_append.mp h).imp_right fun h' => congrArg Prod.fst (List.mem_singleton.mp h')
  | some ex =>
    show e ∈ (if ex.1 ≠ new then movErase mv p ++ [(p, ex.1, new)] else movErase mv p) → _
    by_cases hx : ex.1 ≠ new
    · rw [if_pos hx]
      exact fun h => (List.mem_append.mp h).imp (fun h' => (List.mem_filter.mp h').1)
        fun h' => congrArg Prod.fst (List.mem_singleton.mp h')
    · rw [if_neg hx]; exact fun h => Or.inl (List.mem_filter.mp h).1

namespace SInv
variable {ms : Members} {ts : Topics} {env : SEnv} {st : SState}

/-- both move branches of `performReassignments`: `p` is reassignable, `q` an admissible answer of
    `getTheActualPartitionToBeMoved` for it, and the new consumer `new` is in the working assignment and may take `p`.
    Then `q` exists, can take part and may go to `new` too (`pot_topic_closed`), so it is held once (`Core.held`)
    and `processPartitionMovement` moves it (`Core.move`). -/
theorem moveTo (wf : SWf ms ts env) (inv : SInv env st) {p q : TP} {c new : Member}
    (hsnap : st.snap.isSome = true) (hre : env.reassignable.contains p = true)
    (hact : actualOK st.moves p q c new = true) (hnew : new ∈ AL.keys st.cur) (hpot : p ∈ AL.get env.pot new) :
    SInv env (processMove st q new) := by
  obtain ⟨s, hs⟩ := Option.isSome_iff_exists.mp hsnap
  have hass := (inv.snapOK s hs).2
  have hp := wf.reass p (List.contains_iff_mem.mp hre)
  have hq : q ∈ env.parts ∧ canPartitionParticipate env.pot q = true ∧ q ∈ AL.get env.pot new := by
    rcases actualOK_cases hact with rfl | ⟨ht, e, he, rfl⟩
    · exact ⟨hp.2, hp.1, hpot⟩
    · have := inv.movesOK e he
      exact ⟨this.2, this.1, pot_topic_closed wf hpot ht this.2⟩
  obtain ⟨hq1, hq2, hq3⟩ := hq
  obtain ⟨old, hown, hheld, hc1⟩ := inv.core.held hass hq1 hq2
  unfold processMove
  rw [hown]
  exact ⟨inv.core.move hheld hc1 hnew hq3, fun h => Bool.noConfusion (hass.symm.trans h), inv.snapOK,
    fun e he => (mem_movePartition he).elim (inv.movesOK e) fun h => h ▸ ⟨hq2, hq1⟩⟩

theorem park (inv : SInv env st) {m : Member}
    (hg : guard .guarded env st (.park m) = true) : SInv env (apply .guarded env st (.park m)) := by
  obtain ⟨hg, hcp⟩ := Bool.and_eq_true_iff.mp hg
  obtain ⟨hg, hkey⟩ := Bool.and_eq_true_iff.mp hg
  obtain ⟨hass, hsnap⟩ := Bool.and_eq_true_iff.mp hg
  -- a member that cannot take part holds only partitions that cannot
  have hany := (Bool.or_eq_false_iff.mp ((Bool.not_eq_true' _).mp hcp)).2
  exact ⟨inv.core.park (AL.hasKey_iff.mp hkey) fun p hp => Bool.eq_false_iff.mpr (List.any_eq_false.mp hany p hp),
    fun h => Bool.noConfusion (hass.symm.trans h),
    fun s hs => absurd ((Option.isNone_iff_eq_none.mp hsnap).symm.trans hs) nofun, inv.movesOK⟩

/-- what the guards of the two move operations share: a snapshot was taken and `p` is reassignable -/
private theorem guard_move {a b c d e : Bool} (h : (a && b && c && d && e) = true) : a = true ∧ c = true ∧ e = true := by
  simp only [Bool.and_eq_true] at h
  exact ⟨h.1.1.1.1, h.1.1.2, h.2⟩

theorem moveOther (wf : SWf ms ts env) (inv : SInv env st) {p q : TP}
    (hg : guard .guarded env st (.moveOther p q) = true) : SInv env (apply .guarded env st (.moveOther p q)) := by
  obtain ⟨hsnap, hre, hm⟩ := guard_move hg
  cases ho : ownerGet st.owner p with
  | none => rw [ho] at hm; cases hm
  | some c =>
    cases hn : newConsumerFor st.cur env.pot p with
    | none => rw [ho, hn] at hm; cases hm
    | some new =>
      rw [ho, hn] at hm
      rw [apply, hn]
      -- `new` is found in the sorted member list as one that may take `p`
      have hf : (sortMembers st.cur).find? (fun m => (AL.get env.pot m).contains p) = some new := hn
      have hpot := List.find?_some hf
      exact inv.moveTo wf hsnap hre (Bool.and_eq_true_iff.mp hm).2
        ((mem_sortMembers _ _).mp (List.mem_of_find?_eq_some hf)) (List.contains_iff_mem.mp hpot)

theorem movePrev (wf : SWf ms ts env) (inv : SInv env st) {p q : TP}
    (hg : guard .guarded env st (.movePrev p q) = true) : SInv env (apply .guarded env st (.movePrev p q)) := by
  obtain ⟨hsnap, hre, hm⟩ := guard_move hg
  cases ho : ownerGet st.owner p with
  | none => rw [ho] at hm; cases hm
  | some c =>
    cases hn : prevOf env p with
    | none => rw [ho, hn] at hm; cases hm
    | some pm =>
      rw [ho, hn] at hm
      rw [apply, hn]
      -- the guarded variant checks that the previous owner is in the working assignment and may take `p`
      obtain ⟨hm, hk⟩ := Bool.and_eq_true_iff.mp hm
      obtain ⟨hkey, hpot⟩ := Bool.and_eq_true_iff.mp hk
      exact inv.moveTo wf hsnap hre (Bool.and_eq_true_iff.mp hm).2 (AL.hasKey_iff.mp hkey)
        (List.contains_iff_mem.mp hpot)

end SInv

theorem SInv.snapshot {env : SEnv} {st : SState} (inv : SInv env st)
    (hg : guard .guarded env st .snapshot = true) : SInv env (apply .guarded env st .snapshot) := by
  have hass := (Bool.and_eq_true_iff.mp hg).1
  refine ⟨inv.core, fun h => Bool.noConfusion (hass.symm.trans h), fun s hs => ?_, inv.movesOK⟩
  cases (hs : some (st.cur, st.owner) = some s)
  exact ⟨hass ▸ inv.core, hass⟩

theorem SInv.revert {env : SEnv} {st : SState} (inv : SInv env st)
    (hg : guard .guarded env st .revert = true) : SInv env (apply .guarded env st .revert) := by
  -- with the state taken apart and the snapshot a constructor, `guard` and `apply` compute
  obtain ⟨cur, owner, fixed, moves, snap, performed, reverted, assigned⟩ := st
  cases snap with
  | none => cases (Bool.and_eq_true_iff.mp hg).2
  | some s =>
    obtain ⟨hc, hass⟩ := inv.snapOK s rfl
    exact ⟨hass ▸ hc, fun h => Bool.noConfusion (hass.symm.trans h), inv.snapOK, inv.movesOK⟩

/-- the facts the assignment loop maintains about (currentAssignment, currentPartitionConsumer) -/
structure ACore (env : SEnv) (cur : Asg) (owner : OwnerMap) : Prop where
  keysAll : ∀ k, k ∈ AL.keys env.pot → k ∈ AL.keys cur
  holdsC : PlanAll (fun m tp => tp ∈ AL.get env.pot m) cur
  ownerOK : ∀ e, e ∈ cur → ∀ p, p ∈ e.2 → ownerGet owner p = some e.1

/-- what the loop, run over the partitions `us` (held by nobody, each listed once), does to
    (currentAssignment, currentPartitionConsumer): the members stay, and a partition of `us` that somebody can
    take gains one holder -/
structure AStep (env : SEnv) (us : List TP) (co co' : Asg × OwnerMap) : Prop where
  core : ACore env co'.1 co'.2
  keys : AL.keys co'.1 = AL.keys co.1
  count : ∀ x, AL.countAll co'.1 x = AL.countAll co.1 x + if x ∈ us ∧ consumersOf env.pot x ≠ [] then 1 else 0

/-- every member is a key of the working assignment, so the first taker in sorted order exists -/
theorem assignOne_spec {env : SEnv} {co : Asg × OwnerMap} (hpn : (AL.keys env.pot).Nodup)
    (a : ACore env co.1 co.2) {p : TP} (h0 : AL.countAll co.1 p = 0) : AStep env [p] co (assignOne env co p) := by
  unfold assignOne
  by_cases hc : consumersOf env.pot p = []
  · rw [if_pos (List.isEmpty_iff.mpr hc)]
    exact ⟨a, rfl, fun x => by rw [if_neg fun h => h.2 (List.mem_singleton.mp h.1 ▸ hc)]; rfl⟩
  · obtain ⟨e, he, hpe⟩ := (consumersOf_ne_nil_iff _ _).mp hc
    rw [if_neg (hc ∘ List.isEmpty_iff.mp)]
    unfold assignPartition
    cases hf : (sortMembers co.1).find? (fun m => (AL.get env.pot m).contains p) with
    | none =>
      have := List.find?_eq_none.mp hf e.1
        ((mem_sortMembers _ _).mpr (a.keysAll _ (List.mem_map.mpr ⟨e, he, rfl⟩)))
      rw [AL.get_of_mem_nodup hpn he] at this
      exact absurd (List.contains_iff_mem.mpr hpe) this
    | some m =>
      have hm : m ∈ AL.keys co.1 := (mem_sortMembers _ _).mp (List.mem_of_find?_eq_some hf)
      have hk := AL.keys_set_of_mem (AL.get co.1 m ++ [p]) hm
      have hpot := List.find?_some hf
      refine ⟨⟨fun k hk' => hk ▸ a.keysAll k hk', planAll_give a.holdsC (List.contains_iff_mem.mp hpot),
        ownerOK_give a.ownerOK h0 m⟩, hk, fun x => (AL.countAll_give ..).trans ?_⟩
      by_cases hx : x ∈ [p]
      · rw [List.mem_singleton.mp hx, List.count_singleton_self, if_pos ⟨List.mem_singleton_self p, hc⟩]
      · rw [List.count_eq_zero_of_not_mem hx, if_neg (hx ∘ And.left)]

theorem assignFold_spec {env : SEnv} (hpn : (AL.keys env.pot).Nodup) :
    ∀ (us : List TP) (co : Asg × OwnerMap), us.Nodup → ACore env co.1 co.2 →
      (∀ u, u ∈ us → AL.countAll co.1 u = 0) → AStep env us co (us.foldl (assignOne env) co) := by
  intro us
  induction us with
  | nil => exact fun co _ a _ => ⟨a, rfl, fun x => by rw [if_neg fun h => List.not_mem_nil h.1]; rfl⟩
  | cons u rest ih =>
    intro co hnd a h0
    rw [List.foldl_cons]
    obtain ⟨hu, hnd⟩ := List.nodup_cons.mp hnd
    have s1 := assignOne_spec hpn a (h0 u List.mem_cons_self)
    have s2 := ih _ hnd s1.core fun u' hu' => by
      have hne : ¬(u' ∈ [u] ∧ consumersOf env.pot u' ≠ []) := fun h => hu (List.mem_singleton.mp h.1 ▸ hu')
      rw [s1.count u', h0 u' (List.mem_cons_of_mem _ hu'), if_neg hne]
    refine ⟨s2.core, s2.keys.trans s1.keys, fun x => ?_⟩
    rw [s2.count x, s1.count x]
    -- `u ∉ rest`: for x = u only the summand of `[u]` can be 1, for x ≠ u only that of `rest`
    by_cases hxu : x = u
    · simp only [hxu, hu, false_and, true_and, List.mem_cons_self, ↓reduceIte, Nat.add_zero]
    · simp only [hxu, List.mem_cons, List.not_mem_nil, false_or, false_and, ↓reduceIte, Nat.add_zero]

theorem SInv.assignAll {ms : Members} {ts : Topics} {env : SEnv} (wf : SWf ms ts env) {st : SState}
    (inv : SInv env st) {us : List TP} (hg : guard .guarded env st (.assignAll us) = true) :
    SInv env (apply .guarded env st (.assignAll us)) := by
  unfold guard at hg
  simp only [Bool.and_eq_true, Bool.not_eq_true', Option.isNone_iff_eq_none] at hg
  obtain ⟨⟨⟨hass, hfix⟩, hsnap⟩, hperm⟩ := hg
  have hp : us.Perm (todoOf env st.cur) := List.isPerm_iff.mp hperm
  have hmem : ∀ u, u ∈ us ↔ u ∈ env.parts ∧ AL.countAll st.cur u = 0 := fun u =>
    hp.mem_iff.trans (List.mem_filter.trans (and_congr_right fun _ => beq_iff_eq))
  have c := inv.core
  have hpn : (AL.keys env.pot).Nodup := wf.keys_pot ▸ wf.ids
  have hund : us.Nodup := hp.nodup_iff.mpr (List.Pairwise.filter _ (wf.parts_eq ▸ wf.pnodup))
  obtain ⟨a', hk, hc⟩ := assignFold_spec hpn us (st.cur, st.owner) hund
    ⟨(inv.pre hass).2.2.2, c.holdsC, c.ownerOK⟩ fun u hu => ((hmem u).mp hu).2
  -- a partition visited by the loop was held by nobody and gains a holder if somebody can take it; the others
  -- keep their count, which is 1 for an existing partition that was not visited
  have hcnt : ∀ p, AL.countAll (us.foldl (assignOne env) (st.cur, st.owner)).1 p + AL.countAll st.fixed p ≤ 1 ∧
      (p ∈ env.parts → consumersOf env.pot p ≠ [] →
        AL.countAll (us.foldl (assignOne env) (st.cur, st.owner)).1 p + AL.countAll st.fixed p = 1) := by
    intro p
    have hle := c.atMost p
    have hf : AL.countAll st.fixed p = 0 := by rw [List.isEmpty_iff.mp hfix]; rfl
    rw [hc p]
    by_cases hpu : p ∈ us ∧ consumersOf env.pot p ≠ []
    · rw [if_pos hpu, ((hmem p).mp hpu.1).2, hf]
      exact ⟨Nat.le_refl _, fun _ _ => rfl⟩
    · rw [if_neg hpu, Nat.add_zero]
      exact ⟨hle, fun hp hT => Nat.le_antisymm hle (Nat.le_add_right_of_le (Nat.pos_of_ne_zero
        fun h0 => hpu ⟨(hmem p).mpr ⟨hp, h0⟩, hT⟩))⟩
  exact {
    core := { c with
      keysNodup := hk ▸ c.keysNodup
      keysMem := hk ▸ c.keysMem
      holdsC := a'.holdsC
      atMost := fun p => (hcnt p).1
      once := fun _ p => (hcnt p).2
      ownerOK := a'.ownerOK }
    pre := (nomatch ·)
    snapOK := fun _ hs => nomatch hsnap.symm.trans hs
    movesOK := inv.movesOK }

theorem SInv.step {ms : Members} {ts : Topics} {env : SEnv} (wf : SWf ms ts env) {st : SState}
    (inv : SInv env st) (op : SOp) (hg : guard .guarded env st op = true) :
    SInv env (apply .guarded env st op) := by
  cases op with
  | assignAll us => exact inv.assignAll wf hg
  | park m => exact inv.park hg
  | snapshot => exact inv.snapshot hg
  | movePrev p q => exact inv.movePrev wf hg
  | moveOther p q => exact inv.moveOther wf hg
  | revert => exact inv.revert hg

theorem SInv.run {ms : Members} {ts : Topics} {env : SEnv} (wf : SWf ms ts env) (ops : List SOp) (st st' : SState) :
    SInv env st → runOps .guarded env st ops = some st' → SInv env st' :=
  runOps_induct ops st st' fun _ op _ inv hg => inv.step wf op hg

/-- members parked in `fixedAssignments` are not keys of the working assignment, so copying them back appends -/
theorem addFixed_eq_append (fixed : Asg) : ∀ cur : Asg, (AL.keys cur ++ AL.keys fixed).Nodup →
    addFixed cur fixed = cur ++ fixed := by
  induction fixed with
  | nil => exact fun cur _ => (List.append_nil cur).symm
  | cons e r ih =>
    intro cur hnd
    have hk : e.1 ∉ AL.keys cur := fun hk => (List.nodup_append.mp hnd).2.2 _ hk _ List.mem_cons_self rfl
    show addFixed (AL.set cur e.1 e.2) r = _
    rw [AL.set_eq_snoc_of_not_mem e.2 hk, ih, List.append_assoc]
    · rfl
    · rw [AL.keys, List.map_append, List.append_assoc]; exact hnd

theorem SInv.finish_valid {ms : Members} {ts : Topics} {env : SEnv} (wf : SWf ms ts env) {st : SState}
    (inv : SInv env st) (hass : st.assigned = true) :
    validPlan ms ts (finish .guarded st) = true := by
  have c := inv.core
  show validPlan ms ts (addFixed st.cur st.fixed) = true
  rw [addFixed_eq_append _ _ c.keysNodup]
  apply validPlan_of wf.ids
  · intro k hk
    rw [AL.keys, List.map_append] at hk
    exact List.mem_map.mp (wf.keys_pot ▸ c.keysMem k hk)
  · intro e he tp htp'
    have := (wf.mem_pot e.1 tp).mp ((List.mem_append.mp he).elim (c.holdsC e) (c.holdsF e) tp htp')
    exact ⟨this.1, ((mem_allParts wf.tkeys tp).mp (wf.parts_eq ▸ this.2)).2⟩
  · intro e he hs p hp
    have hpart : ((e.1, p) : TP) ∈ env.parts :=
      wf.parts_eq ▸ List.mem_flatMap.mpr ⟨e, he, List.mem_map.mpr ⟨p, hp, rfl⟩⟩
    -- a subscriber of the topic may take the partition
    obtain ⟨e', he', ht⟩ := hasSubscriber_iff.mp hs
    have hin := (wf.mem_pot e'.1 (e.1, p)).mpr ⟨⟨e', he', rfl, ht⟩, hpart⟩
    rw [AL.countAll_append]
    exact c.once hass _ hpart ((consumersOf_ne_nil_iff _ _).mpr ⟨_, AL.get_mem hin, hin⟩)

theorem initCur_spec (ms : Members) (ts : Topics) {P : Member → TP → Prop} :
    ∀ (pp : List (TP × Member × Option Member)) (cur : Asg), (∀ m, isMember ms m = true → m ∈ AL.keys cur) →
      PlanAll P cur →
      (∀ x, x ∈ pp → (isMember ms x.2.1 && (allParts ts).contains x.1 && subscribed ms x.2.1 x.1.1) = true →
        P x.2.1 x.1) →
      AL.keys (pp.foldl (keepClaim ms ts) cur) = AL.keys cur ∧ PlanAll P (pp.foldl (keepClaim ms ts) cur) ∧
      ∀ p, AL.countAll (pp.foldl (keepClaim ms ts) cur) p ≤ AL.countAll cur p + (pp.map (·.1)).count p := by
  intro pp
  induction pp with
  | nil => exact fun cur _ hP _ => ⟨rfl, hP, fun _ => Nat.le_refl _⟩
  | cons x rest ih =>
    intro cur hk hP hx
    have hx' := fun y hy => hx y (List.mem_cons_of_mem _ hy)
    rw [List.foldl_cons, keepClaim]
    by_cases hc : (isMember ms x.2.1 && (allParts ts).contains x.1 && subscribed ms x.2.1 x.1.1) = true
    · have hm : x.2.1 ∈ AL.keys cur := hk _ (Bool.and_eq_true_iff.mp (Bool.and_eq_true_iff.mp hc).1).1
      have hks := AL.keys_set_of_mem (AL.get cur x.2.1 ++ [x.1]) hm
      obtain ⟨h1, h2, h3⟩ := ih _ (fun m hm => hks ▸ hk m hm) (planAll_give hP (hx x List.mem_cons_self hc)) hx'
      rw [if_pos hc]
      refine ⟨h1.trans hks, h2, fun p => ?_⟩
      have := h3 p
      rw [AL.countAll_give, Nat.add_assoc, ← List.count_append] at this
      exact this
    · rw [if_neg hc]
      obtain ⟨h1, h2, h3⟩ := ih cur hk hP hx'
      exact ⟨h1, h2, fun p => Nat.le_trans (h3 p) (Nat.add_le_add_left List.count_le_count_cons _)⟩

theorem ownerGet_initOwner {ts : Topics} : ∀ (pp : List (TP × Member × Option Member)),
    (pp.map (·.1)).Nodup → ∀ x, x ∈ pp → (allParts ts).contains x.1 = true →
    ownerGet (initOwner ts pp) x.1 = some x.2.1 := by
  intro pp
  induction pp with
  | nil => exact fun _ _ hx => nomatch hx
  | cons y rest ih =>
    intro hnd x hx hc
    obtain ⟨hy, hnd⟩ := List.nodup_cons.mp hnd
    unfold initOwner ownerGet at ih ⊢
    rw [List.filter_cons]
    rcases List.mem_cons.mp hx with rfl | hx
    · rw [if_pos hc, List.map_cons, List.find?_cons_of_pos (by exact beq_self_eq_true x.1)]; rfl
    · have hne : y.1 ≠ x.1 := fun h => hy (List.mem_map.mpr ⟨x, hx, h.symm⟩)
      by_cases hyc : (allParts ts).contains y.1 = true
      · rw [if_pos hyc, List.map_cons, List.find?_cons_of_neg (by exact hne ∘ eq_of_beq)]
        exact ih hnd x hx hc
      · rw [if_neg hyc]; exact ih hnd x hx hc

theorem SInv.init {ms : Members} {ts : Topics} {env : SEnv} (wf : SWf ms ts env)
    (pp : List (TP × Member × Option Member)) (hpp : (pp.map (·.1)).Nodup) :
    SInv env (initState ms ts pp) := by
  -- `currentAssignment` starts with an empty list for every member
  have hb : ∀ e, e ∈ ms.map (fun e => ((e.1, []) : Member × List TP)) → ∀ p, p ∉ e.2 := fun e he p hp => by
    obtain ⟨e', _, rfl⟩ := List.mem_map.mp he
    cases hp
  have hkeys : AL.keys (ms.map (fun e => ((e.1, []) : Member × List TP))) = ms.map (·.1) := List.map_map
  -- a pair enters `currentAssignment` through an accepted claim: the member may take the partition, and the
  -- owner map records that member
  obtain ⟨h1, h2, h3⟩ := initCur_spec ms ts
    (P := fun m p => p ∈ AL.get env.pot m ∧ ownerGet (initOwner ts pp) p = some m) pp _
    (fun m hm => hkeys ▸ List.contains_iff_mem.mp hm) (fun e he p hp => absurd hp (hb e he p))
    fun x hx hc => by
      simp only [Bool.and_eq_true] at hc
      have hsub := List.contains_iff_mem.mp hc.2
      exact ⟨(wf.mem_pot _ _).mpr ⟨⟨_, AL.get_mem hsub, rfl, hsub⟩, wf.parts_eq ▸ List.contains_iff_mem.mp hc.1.2⟩,
        ownerGet_initOwner pp hpp x hx hc.1.2⟩
  rw [hkeys] at h1
  have hpk := wf.keys_pot
  refine {
    core := {
      keysNodup := ?_
      keysMem := ?_
      holdsC := fun e he p hp => (h2 e he p hp).1
      holdsF := fun _ h => absurd h List.not_mem_nil
      atMost := fun p => ?_
      once := nofun
      ownerOK := fun e he p hp => (h2 e he p hp).2
      fixedOnly := fun _ h => absurd h List.not_mem_nil }
    pre := fun _ => ⟨rfl, rfl, rfl, fun k hk => ?_⟩
    snapOK := nofun
    movesOK := fun _ h => absurd h List.not_mem_nil }
  · show (AL.keys (initCur ms ts pp) ++ []).Nodup
    rw [List.append_nil, initCur, h1]; exact wf.ids
  · intro k (hk : k ∈ AL.keys (initCur ms ts pp) ++ [])
    rw [List.append_nil] at hk
    rw [hpk, ← h1]
    exact hk
  · have := h3 p
    rw [AL.countAll_eq_zero_iff.mpr fun e he => hb e he p] at this
    exact Nat.le_trans this (Nat.zero_add _ ▸ List.nodup_iff_count.mp hpp p)
  · rw [hpk] at hk
    exact h1 ▸ hk

end Model.Balance
