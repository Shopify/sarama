/-
  C02 composition: a step of the partition producer (`ppRecv`) in the view.  The vocabulary: `popS` (the head of
  pp.input is taken), `pushV` (the view after data tokens were forwarded to the worker), `emitA` with `ppAct_emitA`
  (`ppAct_emit_eq`, Lemmas/C02sysFifo.lean, for a data token of partition 0).  `PartProd.recv` on a data token
  (`recv_emit_data`, `recv_rise_data`), the levels of what flushRetryBuffers emits (`flush_levels`), and the branches as
  lemmas about the view alone: `vinv_push1` (a token forwarded at the watermark), `VInv.finTop` (the chaser of the
  current level: the flush), `VInv.riseEmit` (a new, higher level).  Whichever of the forwarded tokens reach a worker
  (`kept`: a look-up may fail), the ordering invariant survives.
-/
import SaramaVerif.Lemmas.C02sysView2
import SaramaVerif.Lemmas.C02sysRep

namespace Lemmas.C02sys
open Model Model.Pipeline

def popS (s : Sys) (r : List Tok) (pp' : PartProd.St) : Sys := { s with pq := r, pp := pp' }

def pushV (M : Nat) (v : View) (E : List Tok) : View :=
  ⟨v.pp, v.gw ++ (if v.good then E else []), v.av ++ (if v.good then [] else bumpF M E), v.good⟩

theorem pushV_nil (M : Nat) (v : View) : pushV M v [] = v := by
  cases v with
  | mk pp gw av good => cases good <;> simp [pushV, bumpF_nil]

theorem mkTok_eq (x : Tok) (hx : x.kind = .data) (hp : x.part = 0) : mkTok x.id x.retries false = x := by
  cases x with
  | mk id part retries kind => simp_all [mkTok]

def emitA (x : Tok) : PartProd.Action := .emit x.id x.retries false

theorem ppAct_emitA (s : Sys) (lks : List (Option Nat)) {x : Tok} (hx : x.kind = .data) (hp : x.part = 0) :
    (∃ w, s.cur = some w ∧ ppAct s lks (emitA x) = ({ s with wk := pushW s.wk w x }, lks)) ∨
    (s.cur = none ∧ (∀ w r, lks ≠ some w :: r) ∧
      ppAct s lks (emitA x) = ({ s with errs := s.errs ++ [x.id] }, lks.tail)) ∨
    (∃ w r, s.cur = none ∧ lks = some w :: r ∧ ppAct s lks (emitA x) = (openS s w x, r)) := by
  have := ppAct_emit_eq s lks x.id x.retries false
  rwa [mkTok_eq x hx hp] at this

theorem ofPP_toPP (t : Tok) (hp : t.part = 0) (hk : t.kind ≠ .syn) : ofPP (toPP t) = t := by
  cases t with
  | mk id part retries kind => cases kind <;> simp_all [ofPP, toPP, mkTok, BrokerProd.Tok.isFin]

theorem sublist_single {t : Tok} {k : List Tok} (h : k.Sublist [t]) : k = [] ∨ k = [t] := by
  cases k with
  | nil => exact Or.inl rfl
  | cons x k' =>
    right
    have hl := h.length_le
    cases k' with
    | nil =>
      have := h.subset (List.mem_cons_self ..)
      rw [List.mem_singleton.1 this]
    | cons y k'' => simp at hl

theorem vinv_push1 {v : View} (h : VInv v) (M : Nat) (t : Tok) (rest : List Tok) (hav : v.av = t :: rest)
    (ht : isData t = true) (hl : t.retries = v.pp.hwm) (kept : List Tok) (hk : kept.Sublist [t]) :
    VStep v (pushV M ⟨v.pp, v.gw, rest, v.good⟩ kept) := by
  rcases sublist_single hk with rfl | rfl
  · rw [pushV_nil]
    exact h.shrink (.tail hav)
  · rcases Bool.eq_false_or_eq_true v.good with hg | hg
    · have e : pushV M ⟨v.pp, v.gw, rest, v.good⟩ [t] = ⟨v.pp, v.gw ++ [t], rest, v.good⟩ := by
        simp [pushV, hg]
      rw [e]
      exact h.emitGood t rest hav ht hl hg
    · have e : pushV M ⟨v.pp, v.gw, rest, v.good⟩ [t] = ⟨v.pp, [], rest ++ bumpF M [t], false⟩ := by
        simp [pushV, h.gbad hg, hg]
      rw [e]
      exact h.emitBad M t rest hav ht hl hg

/-- the level `k` from which a token above the high watermark `h` was bounced: where its chaser goes -/
theorem level_below {a h M : Nat} (hgt : h < a) (hM : a ≤ M) : ∃ k, a - 1 = k ∧ k + 1 = a ∧ k < M ∧ h ≤ k :=
  have hpos : 0 < a := Nat.zero_lt_of_lt hgt
  ⟨_, rfl, Nat.sub_one_add_one (Nat.ne_of_gt hpos), Nat.sub_one_lt_of_le hpos hM, Nat.le_sub_one_of_lt hgt⟩

/-- the head of pp.input heads the arrival stream of every view of `s` (`av = pq ++ dq ++ ret ++ tl`, `tl` what the
    workers will still bounce) and is among `pq ++ dq ++ ret`, over which the invariants of the run range -/
theorem pq_head {s : Sys} {t : Tok} {r : List Tok} (hq : s.pq = t :: r) (tl : List Tok) :
    t ∈ s.pq ++ s.dq ++ s.ret ∧ s.pq ++ s.dq ++ s.ret ++ tl = t :: (r ++ s.dq ++ s.ret ++ tl) := by
  rw [hq]; exact ⟨List.mem_cons_self .., rfl⟩

/-- the partition producer after newHighWatermark to level `l` -/
def risePP (pp : PartProd.St) (l : Nat) : PartProd.St :=
  { pp with hwm := l, expect := PartProd.setExp pp.expect l true }

theorem recv_emit_data (pp : PartProd.St) {t : Tok} (hk : t.kind = .data) (heq : t.retries = pp.hwm) :
    PartProd.recv pp (toPP t) = (pp, [emitA t]) := by
  have hf : (toPP t).fin = false := Props.C02bp.isFin_of_data hk
  rw [recv_emit pp (toPP t) (Nat.not_lt.2 (Nat.le_of_eq heq)) (.inr ⟨Nat.not_lt.2 (Nat.le_of_eq heq.symm), hf⟩), hf]; rfl

theorem recv_rise_data (pp : PartProd.St) {t : Tok} (hk : t.kind = .data) (hgt : t.retries > pp.hwm) :
    PartProd.recv pp (toPP t) = (risePP pp t.retries, [.finSend (t.retries - 1), emitA t]) := by
  rw [recv_rise pp (toPP t) hgt, show (toPP t).fin = false from Props.C02bp.isFin_of_data hk]; rfl

theorem flush_levels (h : Nat) (bufs : Nat → List PartProd.Tok) (e : Nat → Bool)
    (hty : ∀ l, ∀ t ∈ bufs l, t.retries = l) :
    ∀ x ∈ emToks (PartProd.flush h bufs e).2.2, (PartProd.flush h bufs e).1 ≤ x.retries := by
  have hhead : ∀ {bufs : Nat → List PartProd.Tok} {n : Nat}, (∀ t ∈ bufs n, t.retries = n) →
      ∀ y ∈ emToks ((bufs n).map (fun t => PartProd.Action.emit t.id t.retries t.fin)), y.retries = n := by
    intro bufs n hty y hy
    rw [emToks_buf] at hy
    obtain ⟨t, ht, rfl⟩ := List.mem_map.1 hy
    exact hty t ht
  refine flush_ind e
    (P := fun _ bufs r => (∀ l, ∀ t ∈ bufs l, t.retries = l) → ∀ x ∈ emToks r.2.2, r.1 ≤ x.retries)
    (fun _ _ x hx => nomatch hx) (fun h _ _ hty x hx => Nat.le_of_eq (hhead (hty h) x hx).symm)
    (fun h bufs _ _ ih hty x hx => ?_) h bufs hty
  rcases List.mem_append.1 (emToks_append _ _ ▸ hx) with hx | hx
  · rw [hhead (hty h) x hx]; exact flush_le h _ _
  · exact ih (fun l t ht => hty l t (mem_setBuf_nil ht)) x hx

theorem emits_normal {as : List PartProd.Action}
    (h : ∀ a ∈ as, ∃ id l, a = PartProd.Action.emit id l false) : as = (emToks as).map emitA := by
  induction as with
  | nil => rfl
  | cons a r ih =>
    obtain ⟨id, l, rfl⟩ := h _ (List.mem_cons_self ..)
    have := ih (fun b hb => h b (List.mem_cons_of_mem _ hb))
    simp only [emToks, List.filterMap_cons, emTok, List.map_cons] at this ⊢
    rw [← this]; simp [emitA, mkTok]

theorem emToks_data {as : List PartProd.Action}
    (h : ∀ a ∈ as, ∃ id l, a = PartProd.Action.emit id l false) :
    ∀ x ∈ emToks as, x.kind = .data ∧ x.part = 0 := by
  intro x hx
  simp only [emToks, List.mem_filterMap] at hx
  obtain ⟨a, ha, hax⟩ := hx
  obtain ⟨id, l, rfl⟩ := h a ha
  simp only [emTok, Option.some.injEq] at hax
  rw [← hax]; simp [mkTok]

theorem bumpF_sublist {M : Nat} {a b : List Tok} (h : a.Sublist b) : (bumpF M a).Sublist (bumpF M b) :=
  (h.filter _).map _

theorem shrink_pushV (M : Nat) (w : View) {kept E : List Tok} (hk : kept.Sublist E) :
    Shrink (pushV M w kept) (pushV M w E) := by
  refine ⟨rfl, rfl, ?_, ?_⟩
  · show (w.gw ++ _).Sublist (w.gw ++ _)
    refine (List.Sublist.refl _).append ?_
    split
    · exact hk
    · exact List.Sublist.refl _
  · show (w.av ++ _).Sublist (w.av ++ _)
    refine (List.Sublist.refl _).append ?_
    split
    · exact List.Sublist.refl _
    · exact bumpF_sublist hk

/-- the partition producer after the chaser of its current level has come back and flushRetryBuffers has run;
    `flushActs` are the actions of that flush -/
def flushPP (pp : PartProd.St) : PartProd.St :=
  { hwm := (PartProd.flush pp.hwm pp.bufs (PartProd.setExp pp.expect pp.hwm false)).1,
    bufs := (PartProd.flush pp.hwm pp.bufs (PartProd.setExp pp.expect pp.hwm false)).2.1,
    expect := PartProd.setExp pp.expect pp.hwm false }

def flushActs (pp : PartProd.St) : List PartProd.Action :=
  (PartProd.flush pp.hwm pp.bufs (PartProd.setExp pp.expect pp.hwm false)).2.2

/-- the chaser `t` of the current level comes back: flushRetryBuffers (`recv_finTop`).  In the view these are three
    transitions in a row: the chaser is consumed (`finDrop`), the buffers are flushed from level `hwm - 1` downwards
    (`flushAll`; its premise `ZV` is what `finDrop_Z` reads off the order behind the chaser), and the emitted tokens
    that reach no worker are dropped (`shrink` to `kept`).  The two middle conjuncts are what the system side needs of
    the emitted tokens and of the watermark after the flush. -/
theorem VInv.finTop {v : View} (h : VInv v) (M : Nat) {t : Tok} {rest : List Tok} (hav : v.av = t :: rest)
    (hk : t.kind = .fin) (heq : t.retries = v.pp.hwm) :
    PartProd.recv v.pp (toPP t) = (flushPP v.pp, .finDone :: (emToks (flushActs v.pp)).map emitA) ∧
    (∀ x ∈ emToks (flushActs v.pp), x.kind = .data ∧ x.part = 0 ∧ (flushPP v.pp).hwm ≤ x.retries) ∧
    (∀ x ∈ data rest, x.retries ≤ v.pp.hwm → x.retries ≤ (flushPP v.pp).hwm) ∧
    ∀ kept, kept.Sublist (emToks (flushActs v.pp)) → VStep v (pushV M ⟨flushPP v.pp, v.gw, rest, v.good⟩ kept) := by
  have hf1 := h.fin1 t (hav ▸ List.mem_cons_self ..) hk
  -- a chaser has level ≥ 1 (`fin1`)
  have hj : v.pp.hwm = v.pp.hwm - 1 + 1 := (Nat.sub_add_cancel (heq ▸ hf1.1)).symm
  have hform : ∀ a ∈ flushActs v.pp, ∃ id l, a = PartProd.Action.emit id l false := by
    intro a ha
    obtain ⟨l, px, hpx, rfl⟩ := flush_all_emit _ _ _ a ha
    exact ⟨px.id, px.retries, by rw [(h.pinv.typed l px hpx).2]⟩
  have hED := emToks_data hform
  have hZ := finDrop_Z h t rest hav hk
  rw [heq] at hZ
  -- `ZV` after `finDrop`: the chasers below `t` that were expected still are, `setExp` touched the level of `t` only
  have hzv : ZV (finV v t.retries rest) := by
    intro y hy
    rcases hZ y hy with g1 | g1 | ⟨k, k1, k2, k3⟩
    · exact .inl g1
    · exact .inr (.inl g1)
    · refine .inr (.inr ⟨k, k1, ?_, k3⟩)
      exact (setExp_ne _ (by omega)).trans k2
  -- with the level of `t` the watermark, `flushV` of the view after `finDrop` and `pushV` of the emissions unfold alike
  have hflush : flushV M (finV v t.retries rest) =
      pushV M ⟨flushPP v.pp, v.gw, rest, v.good⟩ (emToks (flushActs v.pp)) := by rw [heq]; rfl
  have hdrop := h.finDrop t rest hav hk
  have hvall := VInv.flushAll M (v.pp.hwm - 1) hdrop.inv hzv hj (by
    show PartProd.setExp v.pp.expect t.retries false (v.pp.hwm - 1 + 1) = false
    rw [← hj, heq, PartProd.setExp, if_pos rfl])
  refine ⟨?_, fun x hx => ⟨(hED x hx).1, (hED x hx).2,
    flush_levels _ _ _ (fun l px hpx => (h.pinv.typed l px hpx).1) x hx⟩, fun x hx h1 => ?_, fun kept hkept => ?_⟩
  · rw [recv_finTop v.pp (toPP t) heq (by omega) (Props.C02bp.isFin_of_fin hk), ← emits_normal hform]; rfl
  · -- the watermark falls to the level of the highest chaser still expected; everything is at or below it
    rcases hZ x hx with g1 | g1 | ⟨k, k1, k2, k3⟩
    · rw [g1]; exact Nat.zero_le _
    · omega
    · exact Nat.le_trans k3 (flush_hwm_ge v.pp.hwm v.pp.bufs (PartProd.setExp v.pp.expect v.pp.hwm false) k k1
        ((setExp_ne _ (Nat.ne_of_lt k1)).trans k2))
  · have hsh := shrink_pushV M ⟨flushPP v.pp, v.gw, rest, v.good⟩ hkept
    rw [← hflush] at hsh
    exact hdrop.trans (hvall.trans (hvall.inv.shrink hsh))

theorem VInv.riseEmit {v : View} (h : VInv v) (M : Nat) {t : Tok} {rest : List Tok} (hav : v.av = t :: rest)
    (hd : isData t = true) (hgt : v.pp.hwm < t.retries) (g' : Bool) (kept : List Tok) (hk : kept.Sublist [t]) :
    VStep v (pushV M ⟨risePP v.pp t.retries, v.gw, rest ++ [finTok t.retries], g'⟩ kept) := by
  have hr := h.rise t rest hav hd hgt g'
  exact hr.trans (vinv_push1 hr.inv M t (rest ++ [finTok t.retries]) (by rw [riseV, hav]; rfl) hd rfl kept hk)

end Lemmas.C02sys
