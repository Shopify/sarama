/-
  C02 composition, progress: NO LOSS.  Every submitted id is held somewhere - as a data token in a channel, at a
  worker, in a retry buffer of the partition producer - or has an outcome.  (Membership only; the exact count
  is `conservation_sys` for the single-worker runs.)  It holds in every run, with any number of workers: the step asks
  of the state only the components' own invariants (clauses of `Base`, Lemmas/C02base.lean), and reads "nothing is lost
  in a component" off the component's FIFO theorem: `Props.C02bp.step_fifo` for a worker (`bp_noloss`),
  `Props.C02.recv_level` for the partition producer (`pp_noloss`).
-/
import SaramaVerif.Lemmas.C02liveEn

namespace Lemmas.C02sys
open Model Model.Pipeline Model.BrokerProd
open Props.C02bp (ids inside outData outD PInv)

theorem mem_dataIds {i : Int} {l : List Tok} : i ∈ dataIds l ↔ ∃ t ∈ l, t.kind = .data ∧ t.id = i := by
  simp [dataIds, and_assoc]

theorem outD_out {p i : Int} {a : Action} (off : Nat) (h : outD p a = some i) :
    i ∈ dataIds (actRet [a]) ∨ i ∈ (actSucc off [a]).map (·.1) ∨ i ∈ actErrs [a] := by
  cases a <;> simp only [outD] at h
  case requeue id q rr fin =>
    cases fin <;> simp only [Option.ite_none_right_eq_some, Option.some.injEq, reduceCtorEq] at h
    exact .inl (mem_dataIds.2 ⟨_, List.mem_singleton.2 rfl, rfl, h.2⟩)
  case expire id q fin =>
    cases fin <;> simp only [Option.ite_none_right_eq_some, Option.some.injEq, reduceCtorEq] at h
    exact .inr (.inr (List.mem_singleton.2 h.2.symm))
  case succ id q =>
    simp only [Option.ite_none_right_eq_some, Option.some.injEq] at h
    exact .inr (.inl (List.mem_singleton.2 h.2.symm))
  case fail id q =>
    simp only [Option.ite_none_right_eq_some, Option.some.injEq] at h
    exact .inr (.inr (List.mem_singleton.2 h.2.symm))
  all_goals cases h

theorem acts_out (p : Int) (i : Int) (as : List Action) : ∀ off, i ∈ outData p as →
    i ∈ dataIds (actRet as) ∨ i ∈ (actSucc off as).map (·.1) ∨ i ∈ actErrs as := by
  induction as with
  | nil => exact fun _ h => nomatch h
  | cons a r ih =>
    intro off h
    obtain ⟨a', ha', ho⟩ := List.mem_filterMap.1 h
    rw [← List.singleton_append, actRet_append, actSucc_append, actErrs_append, dataIds_append, List.map_append]
    simp only [List.mem_append]
    rcases List.mem_cons.1 ha' with rfl | hr
    · rcases outD_out off ho with e | e | e
      · exact .inl (.inl e)
      · exact .inr (.inl (.inl e))
      · exact .inr (.inr (.inl e))
    · rcases ih _ (List.mem_filterMap.2 ⟨a', hr, ho⟩) with e | e | e
      · exact .inl (.inr e)
      · exact .inr (.inl (.inr e))
      · exact .inr (.inr (.inr e))

theorem mem_ids {i : Int} {l : List Tok} : i ∈ ids l ↔ ∃ t ∈ l, t.id = i := List.mem_map

theorem bp_noloss (M : Nat) (b : St) (inp : In) (h : PInv b) (i : Int)
    (hi : i ∈ ids (inside b) ∨ ∃ p, i ∈ ids (Props.C02bp.dataArrived p b inp)) :
    i ∈ ids (inside (step M b inp).1) ∨ ∃ p, i ∈ outData p (step M b inp).2 := by
  have hf := (Props.C02bp.step_fifo M b inp h).1
  have key : ∀ p, i ∈ ids (onPart p (inside b)) ++ ids (Props.C02bp.dataArrived p b inp) →
      i ∈ ids (inside (step M b inp).1) ∨ ∃ p, i ∈ outData p (step M b inp).2 := by
    intro p hm
    rw [← hf p] at hm
    rcases List.mem_append.1 hm with e | e
    · exact Or.inr ⟨p, e⟩
    · obtain ⟨t, ht, rfl⟩ := mem_ids.1 e
      exact Or.inl (mem_ids.2 ⟨t, Props.C02bp.mem_onPart ht, rfl⟩)
  rcases hi with hi | ⟨p, hi⟩
  · obtain ⟨t, ht, rfl⟩ := mem_ids.1 hi
    refine key t.part (List.mem_append_left _ (mem_ids.2 ⟨t, ?_, rfl⟩))
    simp [onPart, ht]
  · exact key p (List.mem_append_right _ hi)

theorem arrived_data (b : St) (t : Tok) (ov : Bool) (hw : b.wait = none) (hk : t.kind = .data) :
    t.id ∈ ids (Props.C02bp.dataArrived t.part b (.recv t ov)) := by
  simp [Props.C02bp.dataArrived, arrived, hw, hk, onPart, ids, Tok.isFin]

def Held (s : Sys) (i : Int) : Prop :=
  i ∈ dataIds (s.pq ++ s.dq ++ s.ret) ∨
  (∃ w, i ∈ dataIds (s.wk w).inq ∨ i ∈ ids (inside (s.wk w).bp)) ∨
  (∃ k, i ∈ (s.pp.bufs k).map (·.id)) ∨
  i ∈ s.succ.map (·.1) ∨ i ∈ s.errs

theorem dataIds_mono {a b : List Tok} (h : ∀ x ∈ a, x ∈ b) {i : Int} (hi : i ∈ dataIds a) : i ∈ dataIds b :=
  List.map_subset _ (List.filter_subset _ h) hi

theorem held_afterW {M : Nat} {s : Sys} {w : Nat} {q : List Tok} {pend : Option (Pipeline.Verdict × Nat)}
    {off : Nat} {inp : In} (hp : PInv (s.wk w).bp) {i : Int}
    (hq : i ∈ dataIds (s.wk w).inq → i ∈ dataIds q ∨ ∃ p, i ∈ ids (Props.C02bp.dataArrived p (s.wk w).bp inp))
    (h : Held s i) : Held (afterW M s w q pend off inp) i := by
  have hin : (i ∈ ids (inside (s.wk w).bp) ∨ ∃ p, i ∈ ids (Props.C02bp.dataArrived p (s.wk w).bp inp)) →
      Held (afterW M s w q pend off inp) i := by
    intro hi
    rcases bp_noloss M _ inp hp i hi with e | ⟨p, e⟩
    · exact .inr (.inl ⟨w, .inr (by simpa [afterW, setW] using e)⟩)
    · rcases acts_out p i _ off e with e | e | e
      · exact .inl (by rw [afterW, ← List.append_assoc, dataIds_append]; exact List.mem_append_right _ e)
      · exact .inr (.inr (.inr (.inl (by rw [afterW, List.map_append]; exact List.mem_append_right _ e))))
      · exact .inr (.inr (.inr (.inr (List.mem_append_right _ e))))
  rcases h with h | ⟨k, h⟩ | h | h | h
  · exact .inl (by rw [afterW, ← List.append_assoc, dataIds_append]; exact List.mem_append_left _ h)
  · by_cases hk : k = w
    · subst hk
      rcases h with h | h
      · rcases hq h with e | e
        · exact .inr (.inl ⟨k, .inl (by simpa [afterW, setW] using e)⟩)
        · exact hin (.inr e)
      · exact hin (.inl h)
    · exact .inr (.inl ⟨k, by simpa [afterW, setW, hk] using h⟩)
  · exact .inr (.inr (.inl h))
  · exact .inr (.inr (.inr (.inl (by rw [afterW, List.map_append]; exact List.mem_append_left _ h))))
  · exact .inr (.inr (.inr (.inr (List.mem_append_left _ h))))

theorem ppActs_emit (as : List PartProd.Action) : ∀ (s : Sys) (lks : List (Option Nat)) (id : Int) (l : Nat),
    PartProd.Action.emit id l false ∈ as →
    (∃ w, id ∈ dataIds ((ppActs s lks as).wk w).inq) ∨ id ∈ (ppActs s lks as).errs := by
  induction as with
  | nil => exact fun _ _ _ _ h => nomatch h
  | cons a r ih =>
    intro s lks id l h
    rcases List.mem_cons.1 h with rfl | e
    · have hg := ppActs_grows r (ppAct s lks (.emit id l false)).1 (ppAct s lks (.emit id l false)).2
      have land := fun {s1 s2 : Sys} (hg : Grows s1 s2) w (hm : mkTok id l false ∈ (s1.wk w).inq) =>
        (⟨w, mem_dataIds.2 ⟨_, hg.mem_inq hm, rfl, rfl⟩⟩ : ∃ w, id ∈ dataIds (s2.wk w).inq)
      rw [ppActs]
      rcases ppAct_emit_eq s lks id l false with ⟨w, _, e⟩ | ⟨_, _, e⟩ | ⟨w, r', _, _, e⟩ <;> rw [e] at hg ⊢
      · exact .inl (land hg w (mem_pushW ..))
      · obtain ⟨e', he'⟩ := hg.errs
        exact .inr (by rw [he']; exact List.mem_append_left _ (List.mem_append_right _ (List.mem_singleton.2 rfl)))
      · exact .inl (land hg w (by rw [openS_wk, if_pos rfl]; simp))
    · exact ih _ _ id l e

theorem mem_dataEmits {i : Int} {l : Nat} {as : List PartProd.Action} :
    i ∈ Props.C02.dataEmits l as ↔ PartProd.Action.emit i l false ∈ as := by
  simp only [Props.C02.dataEmits, List.mem_filterMap]
  constructor
  · rintro ⟨a, ha, e⟩
    cases a with
    | emit id lv fin =>
      cases fin <;> simp only [Props.C02.emitAt, Option.ite_none_right_eq_some, Option.some.injEq, reduceCtorEq] at e
      obtain ⟨rfl, rfl⟩ := e; exact ha
    | _ => cases e
  · exact fun h => ⟨_, h, by simp [Props.C02.emitAt]⟩

theorem pp_noloss (p : PartProd.St) (x : PartProd.Tok) (hi : Props.C02.PPInv p) (l : Nat) (i : Int)
    (h : i ∈ Props.C02.bufIds p l ∨ (x.fin = false ∧ x.retries = l ∧ x.id = i)) :
    i ∈ Props.C02.bufIds (PartProd.recv p x).1 l ∨ PartProd.Action.emit i l false ∈ (PartProd.recv p x).2 := by
  have hm : i ∈ Props.C02.bufIds p l ++ Props.C02.dataArrivals l [x] := by
    rcases h with h | ⟨h1, h2, h3⟩
    · exact List.mem_append_left _ h
    · exact List.mem_append_right _ (by simp [Props.C02.dataArrivals, h1, h2, h3])
  rw [← (Props.C02.recv_level p x hi l).1] at hm
  exact (List.mem_append.1 hm).symm.imp_right mem_dataEmits.1

theorem held_ppRecv {M : Nat} {s s' : Sys} {lks : List (Option Nat)} (hi : Props.C02.PPInv s.pp)
    (hs : sysStep M s (.ppRecv lks) = some s') {i : Int} (h : Held s i) : Held s' i := by
  obtain ⟨t, r, hq, rfl, hg⟩ := ppRecv_grows hs
  have moved : ∀ l, (i ∈ Props.C02.bufIds s.pp l ∨ ((toPP t).fin = false ∧ (toPP t).retries = l ∧ (toPP t).id = i)) →
      Held (ppActs { s with pq := r, pp := (PartProd.recv s.pp (toPP t)).1 } lks (PartProd.recv s.pp (toPP t)).2) i := by
    intro l hl
    rcases pp_noloss s.pp (toPP t) hi l i hl with e | e
    · exact .inr (.inr (.inl ⟨l, by rw [hg.pp]; exact e⟩))
    · rcases ppActs_emit _ { s with pq := r, pp := (PartProd.recv s.pp (toPP t)).1 } lks i l e with ⟨w, e⟩ | e
      · exact .inr (.inl ⟨w, .inl e⟩)
      · exact .inr (.inr (.inr (.inr e)))
  rcases h with h | ⟨k, h⟩ | ⟨k, h⟩ | h | h
  · obtain ⟨x, hx, x1, x2⟩ := mem_dataIds.1 h
    rw [hq, List.cons_append, List.cons_append] at hx
    rcases List.mem_cons.1 hx with rfl | e
    · exact moved _ (.inr ⟨Props.C02bp.isFin_of_data x1, rfl, x2⟩)
    · exact .inl (mem_dataIds.2 ⟨x, by rw [hg.pq, hg.dq, hg.ret]; exact e, x1, x2⟩)
  · exact .inr (.inl ⟨k, h.imp (dataIds_mono fun _ => hg.mem_inq) (fun h => by rw [hg.bp]; exact h)⟩)
  · exact moved k (.inl h)
  · exact .inr (.inr (.inr (.inl (by rw [hg.succ]; exact h))))
  · obtain ⟨e, he⟩ := hg.errs
    exact .inr (.inr (.inr (.inr (by rw [he]; exact List.mem_append_left _ h))))

theorem held_step {M : Nat} {s s' : Sys} {c : Choice} (hp : ∀ w, PInv (s.wk w).bp) (hi : Props.C02.PPInv s.pp)
    (hs : sysStep M s c = some s') {i : Int} (h : Held s i) : Held s' i := by
  have st := step_iff.1 hs
  by_cases hc : plain c = true
  · obtain ⟨e1, e2, e3, hw, hq⟩ := plain_step hc st
    rcases h with h | ⟨k, h⟩ | h | h | h
    · exact .inl (dataIds_mono hq h)
    · exact .inr (.inl ⟨k, by rw [(hw k).1, ← insideB, (hw k).2]; exact h⟩)
    · exact .inr (.inr (.inl (by rw [e1]; exact h)))
    · exact .inr (.inr (.inr (.inl (by rw [e2]; exact h))))
    · exact .inr (.inr (.inr (.inr (by rw [e3]; exact h))))
  cases st with
  | ppRecv lks => exact held_ppRecv hi hs h
  | @worker w _ _ _ _ _ hf hd =>
    refine held_afterW (hp w) (fun hm => ?_) h
    cases hf with
    | @recv t r ov hq =>
      rw [hq] at hm
      obtain ⟨x, hx, x1, x2⟩ := mem_dataIds.1 hm
      rcases List.mem_cons.1 hx with rfl | e
      · exact .inr ⟨x.part, x2 ▸ arrived_data _ x ov (recv_disabled M _ x ov hd) x1⟩
      · exact .inl (mem_dataIds.2 ⟨x, e, x1, x2⟩)
    | _ => exact .inl hm
  | _ => exact absurd rfl hc

theorem sysStep_next {M : Nat} {s s' : Sys} {c : Choice} (hs : sysStep M s c = some s') (hc : c ≠ .submit) :
    s'.next = s.next := by
  cases step_iff.1 hs with
  | submit => exact absurd rfl hc
  | ppRecv lks => exact (ppActs_grows ..).next
  | _ => rfl

def NoLoss (s : Sys) : Prop := ∀ i : Int, 0 ≤ i → i < (s.next : Int) → Held s i

theorem noLoss_init : NoLoss {} := by intro i h0 h1; simp at h1; omega

theorem noLoss_step {M : Nat} {s s' : Sys} {c : Choice} (hp : ∀ w, PInv (s.wk w).bp) (hi : Props.C02.PPInv s.pp)
    (hs : sysStep M s c = some s') (h : NoLoss s) : NoLoss s' := by
  intro i h0 h1
  by_cases hlt : i < (s.next : Int)
  · exact held_step hp hi hs (h i h0 hlt)
  · by_cases hc : c = .submit
    · subst hc
      obtain rfl := Option.some.inj hs
      have : i = (s.next : Int) := by simp at h1; omega
      exact .inl (mem_dataIds.2 ⟨mkTok (s.next : Int) 0 false, by simp, rfl, this.symm⟩)
    · rw [sysStep_next hs hc] at h1; exact absurd h1 hlt

theorem quiet_outcome {s : Sys} (hq : Quiet s) {i : Int} (h : Held s i) : i ∈ s.succ.map (·.1) ∨ i ∈ s.errs := by
  obtain ⟨q1, q2, q3, q4, q5⟩ := hq
  rcases h with h | ⟨k, h⟩ | ⟨k, h⟩ | h | h
  · simp [q1, q2, q3, dataIds] at h
  · obtain ⟨i1, i2, i3, i4, _⟩ := q4 k
    rcases h with h | h
    · simp [i1, dataIds] at h
    · simp [inside, ids, i2, i3, i4] at h
  · simp [q5 k] at h
  · exact .inl h
  · exact .inr h

end Lemmas.C02sys
