import SaramaVerif.Lemmas.C14Inv
/-
  C14: invariants of the receive loop – byte accounting of the server's stream,
  shape of the completion log (deliveries, then failures), well-formedness of what was delivered, and the
  sticky `dead`.
-/
namespace Lemmas.C14
open Model.BrokerConn

def gb (l : List DoneRec) : Bytes := ((l.filter isDeliv).map rawFrame).flatten

theorem goodBytes_eq (s : State) : goodBytes s = gb s.done := rfl

theorem gb_append_failed (l : List DoneRec) (x : DoneRec) (hx : isDeliv x = false) : gb (l ++ [x]) = gb l := by
  simp [gb, List.filter_append, hx]

theorem gb_append_deliv (l : List DoneRec) (x : DoneRec) (hx : isDeliv x = true) :
    gb (l ++ [x]) = gb l ++ rawFrame x := by
  simp [gb, List.filter_append, hx]

theorem split_append_failed (l : List DoneRec) (x : DoneRec) (hx : isDeliv x = false)
    (h : l = l.filter isDeliv ++ l.filter (fun d => !isDeliv d)) :
    l ++ [x] = (l ++ [x]).filter isDeliv ++ (l ++ [x]).filter (fun d => !isDeliv d) := by
  simp only [List.filter_append, List.filter_cons, hx, Bool.false_eq_true, ↓reduceIte, List.filter_nil,
    List.append_nil, Bool.not_false]
  rw [← List.append_assoc, ← h]

theorem split_append_deliv (l : List DoneRec) (x : DoneRec) (hx : isDeliv x = true)
    (hall : ∀ d ∈ l, isDeliv d = true) :
    l ++ [x] = (l ++ [x]).filter isDeliv ++ (l ++ [x]).filter (fun d => !isDeliv d) := by
  have h1 : l.filter isDeliv = l := List.filter_eq_self.2 hall
  have h2 : l.filter (fun d => !isDeliv d) = [] := by
    apply List.filter_eq_nil_iff.2
    intro d hd; simp [hall d hd]
  simp [List.filter_append, hx, h1, h2]

/-- the invariant of the receive loop, over the parts of the state it reads (a step that leaves them alone keeps it
    by computation) -/
structure RecvInv (maxResp : Int) (sent consumed inbuf : Bytes) (dead : Option Err) (done : List DoneRec)
    (cur : Option (Promise × Phase)) (hdr : Bytes) : Prop where
  bytes : sent = consumed ++ inbuf
  alive_all : dead = none → ∀ d ∈ done, isDeliv d = true
  split : done = done.filter isDeliv ++ done.filter (fun d => !isDeliv d)
  good_pref : gb done <+: consumed
  alive_cons : dead = none → consumed = gb done ++ hdr
  wf_done : ∀ d ∈ done, isDeliv d = true → WF maxResp d
  wf_cur : ∀ p hdr need, cur = some (p, .body hdr need) →
      ∃ len, decodeHeader maxResp p.hv hdr = .ok len p.cid ∧ hdr.length = headerLength p.hv ∧
        need = bodyLength len (headerLength p.hv)
  dead_cur : ∀ e, dead = some e → cur = none
  fail_err : ∀ d ∈ done, ∀ e, d.out = .failed e → dead = some e

abbrev InvC (s : State) : Prop :=
  RecvInv s.cfg.maxResp s.sent s.consumed s.inbuf s.dead s.done s.cur (curHdr s)

theorem invC_init (cfg : Cfg) (c0 : Int) : InvC (init cfg c0) := by
  refine ⟨by simp [init], by simp [init], by simp [init], by simp [init, gb], by simp [init, gb, curHdr],
    by simp [init], by simp [init], by simp [init], by simp [init]⟩

/-- A promise is failed with the error that `dead` holds afterwards – the one in the receiver's hand at the first
    fault (some more bytes may have been consumed just before), or one dequeued on a dead connection: the
    invariant is kept whatever else the step does outside the receive side. -/
theorem InvC.fail {s t : State} (I : InvC s) {p : Promise} {hdr : Bytes} {e : Err}
    (hs : s.dead = none ∨ s.dead = some e) (hcfg : t.cfg = s.cfg)
    (hb : t.sent = t.consumed ++ t.inbuf) (hp : s.consumed <+: t.consumed)
    (hdone : t.done = s.done ++ [⟨p, .failed e, hdr⟩]) (hdead : t.dead = some e) (hcur : t.cur = none) : InvC t := by
  have hx : isDeliv ⟨p, .failed e, hdr⟩ = false := rfl
  refine { bytes := hb, alive_all := (fun h => nomatch hdead.symm.trans h), split := ?_, good_pref := ?_,
           alive_cons := (fun h => nomatch hdead.symm.trans h), wf_done := ?_,
           wf_cur := (fun _ _ _ h => nomatch hcur.symm.trans h), dead_cur := fun _ _ => hcur, fail_err := ?_ }
  · rw [hdone]; exact split_append_failed _ _ hx I.split
  · rw [hdone, gb_append_failed _ _ hx]; exact I.good_pref.trans hp
  · intro d hd hdl
    rw [hdone] at hd; rw [hcfg]
    rcases List.mem_append.mp hd with hd | hd
    · exact I.wf_done d hd hdl
    · rw [List.mem_singleton.mp hd, hx] at hdl; cases hdl
  · intro d hd e' he'
    rw [hdone] at hd; rw [hdead]
    rcases List.mem_append.mp hd with hd | hd
    · rcases hs with hs | hs
      · have := I.alive_all hs d hd
        simp [isDeliv, he'] at this
      · exact hs.symm.trans (I.fail_err d hd e' he')
    · rw [List.mem_singleton.mp hd] at he'
      cases he'; rfl

theorem cur_alive {s : State} (I : InvC s) {p : Promise} {ph : Phase} (hcur : s.cur = some (p, ph)) :
    s.dead = none := by
  cases hd : s.dead
  · rfl
  · have := I.dead_cur _ hd; simp [hcur] at this

theorem invC_step {s s' : State} {e : Event} (h : step s e = .ok s') (I : InvC s) : InvC s' := by
  cases step_sound h with
  | recvDeqDead p rest e _ hcur _ hd => exact I.fail (.inr hd) rfl I.bytes (List.prefix_refl _) rfl hd hcur
  | recvDeq p rest _ hcur _ hd =>
    refine { I with alive_cons := ?_, wf_cur := by simp, dead_cur := by simp [hd] }
    intro hd'
    have := I.alive_cons hd
    simp only [curHdr, hcur, hdrOf] at this ⊢
    exact this
  | recvHeaderFail p e hcur =>
    exact I.fail (.inl (cur_alive I hcur)) rfl (by simp [I.bytes]) (List.prefix_append _ _) rfl rfl rfl
  | recvHeader p len hcur hlen hdec =>
    have hdead := cur_alive I hcur
    refine { I with bytes := by simp [I.bytes], good_pref := ?_, alive_cons := ?_, wf_cur := ?_, dead_cur := ?_ }
    · exact List.IsPrefix.trans I.good_pref (List.prefix_append _ _)
    · intro _
      have := I.alive_cons hdead
      simp only [curHdr, hcur, hdrOf, List.append_nil] at this
      simp only [curHdr, hdrOf, this]
    · intro q hdr need hq
      simp only [Option.some.injEq, Prod.mk.injEq, Phase.body.injEq] at hq
      obtain ⟨rfl, rfl, rfl⟩ := hq
      exact ⟨len, hdec, by simp [List.length_take]; omega, rfl⟩
    · intro e' he'
      simp [hdead] at he'
  | recvBody p hdr need hcur hlen =>
    have hdead := cur_alive I hcur
    have hall := I.alive_all hdead
    have hx : isDeliv ⟨p, .delivered (s.inbuf.take need), hdr⟩ = true := rfl
    obtain ⟨len, hdec, hhl, hneed⟩ := I.wf_cur p hdr need hcur
    have hcons := I.alive_cons hdead
    simp only [curHdr, hcur, hdrOf] at hcons
    refine { bytes := by simp [I.bytes], alive_all := ?_, split := ?_, good_pref := ?_, alive_cons := ?_, wf_done := ?_,
             wf_cur := by simp, dead_cur := by simp, fail_err := ?_ }
    · intro _ d hd
      simp only [List.mem_append, List.mem_singleton] at hd
      rcases hd with hd | rfl
      · exact hall d hd
      · rfl
    · exact split_append_deliv _ _ hx hall
    -- before the step `consumed` is the delivered frames and the header of the frame in hand (`hcons`); the body completes it
    · simp only; rw [gb_append_deliv _ _ hx, hcons]
      simp [rawFrame, bodyOf]
    · intro _
      simp only; rw [gb_append_deliv _ _ hx, hcons]
      simp [rawFrame, bodyOf, curHdr]
    · intro d hd hdl
      simp only [List.mem_append, List.mem_singleton] at hd
      rcases hd with hd | rfl
      · exact I.wf_done d hd hdl
      · exact ⟨len, hdec, hhl, by simp [bodyOf, List.length_take, hneed]; omega⟩
    · intro d hd e' he'
      simp only [List.mem_append, List.mem_singleton] at hd
      rcases hd with hd | rfl
      · exact I.fail_err d hd e' he'
      · simp at he'
  | recvEOF p ph hcur | recvTimeout p ph hcur =>
    exact I.fail (.inl (cur_alive I hcur)) rfl I.bytes (List.prefix_refl _) rfl rfl rfl
  | srvBytes => exact { I with bytes := by simp [I.bytes] }
  | _ => exact I

end Lemmas.C14
