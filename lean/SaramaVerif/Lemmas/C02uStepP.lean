/-
  C02 composition, the invariant `GoodU`: a step of the partition producer (`ppRecv`).
  Forwarding a list of data tokens: bound to the worker `l`, the partition producer puts all of them on its channel
  (`ppActs_bound`); bound to nobody, every token costs a leader look-up and is returned with an error until a look-up
  names a worker, which gets a syn and the rest of the list (`ppActs_unbound`): `l` again, or a worker in its initial
  state (hand-over: `l` joins the old workers, unless its own worker is still in the initial state).  So `l` changes at
  most once, before anything was pushed.
  Then `ppRecv` keeps the invariant, branch by branch of `Model.PartProd.recv` (`goodU_ppRecv`).  At a retry-level
  change the partition producer sends the chaser to `l` and leaves it: `l` stays the worker it was bound to last (the
  chaser comes back at the end of what `l` bounces) and joins the old workers only when a worker in its initial state
  is named afterwards.
-/
import SaramaVerif.Lemmas.C02uStepQ
import SaramaVerif.Lemmas.C02sysEmit

namespace Lemmas.C02sys
open Model Model.Pipeline

variable {M : Nat} {K : Prop} {s : Sys} {olds : List Nat} {l : Nat} {v v' : View}

/-- `q` is put on the channel of worker `c` and the partition producer is bound to `cur'`.  The states of the `ppAct`
    equations (Lemmas/C02sysFifo.lean) are of this form by unfolding: forwarding `x` to `c` (`pushW`) is `q = [x]`,
    `cur' = s.cur`; selecting `c` and forwarding `x` (`openS`) is `q = [synTok, x]`, `cur' = some c`; leaving `c` is
    `q` = the chaser, `cur' = none`. -/
def pushS (s : Sys) (c : Nat) (q : List Tok) (cur' : Option Nat) : Sys :=
  { s with wk := setW s.wk c { s.wk c with inq := (s.wk c).inq ++ q }, cur := cur' }

theorem wk_pushS_same (s : Sys) (c : Nat) (q : List Tok) (cur' : Option Nat) :
    (pushS s c q cur').wk c = ⟨(s.wk c).inq ++ q, (s.wk c).bp, (s.wk c).pend⟩ := setW_same ..

theorem wk_pushS_other (s : Sys) {c u : Nat} (q : List Tok) (cur' : Option Nat) (h : u ≠ c) :
    (pushS s c q cur').wk u = s.wk u := setW_other _ _ h

theorem pushS_pushS (s : Sys) (c : Nat) (a b : List Tok) (c1 c2 : Option Nat) :
    pushS (pushS s c a c1) c b c2 = pushS s c (a ++ b) c2 := by
  simp [pushS, setW_setW, setW_same, List.append_assoc]

theorem ppActs_bound {w : Nat} (E : List Tok) (hE : ∀ x ∈ E, x.kind = .data ∧ x.part = 0) (lks : List (Option Nat)) :
    ∀ {s : Sys}, s.cur = some w → ppActs s lks (E.map emitA) = pushS s w E s.cur := by
  induction E with
  | nil => intro s _; show s = pushS s w [] s.cur; rw [pushS, List.append_nil, setW_self]
  | cons x E' ih =>
    intro s hc
    obtain ⟨hx, hp⟩ := hE x (List.mem_cons_self ..)
    show ppActs (ppAct s lks (emitA x)).1 (ppAct s lks (emitA x)).2 _ = _
    rw [emitA, ppAct_emit_some hc, mkTok_eq x hx hp]
    exact (ih (fun y hy => hE y (List.mem_cons_of_mem _ hy)) (s := pushS s w [x] s.cur) hc).trans (pushS_pushS ..)

theorem ppActs_unbound (E : List Tok) (hE : ∀ x ∈ E, x.kind = .data ∧ x.part = 0) :
    ∀ {s s' : Sys} {lks : List (Option Nat)}, s.cur = none → ppActs s lks (E.map emitA) = s' →
      ∃ e, s' = { s with errs := e } ∨ ∃ w E2, some w ∈ lks ∧ E2.Sublist E ∧
        s' = pushS (pushS { s with errs := e } w [synTok] (some w)) w E2 (some w) := by
  induction E with
  | nil => exact fun {s _ _} _ hs' => ⟨s.errs, .inl hs'.symm⟩
  | cons x E' ih =>
    intro s s' lks hc hs'
    obtain ⟨hx, hp⟩ := hE x (List.mem_cons_self ..)
    have hE' := fun y hy => hE y (List.mem_cons_of_mem _ hy)
    have e0 : ppActs (ppAct s lks (emitA x)).1 (ppAct s lks (emitA x)).2 (E'.map emitA) = s' := hs'
    rcases ppAct_emitA s lks hx hp with ⟨c, hc', _⟩ | ⟨_, _, e⟩ | ⟨w, r, _, rfl, e⟩
    · exact nomatch hc.symm.trans hc'
    · rw [e] at e0
      obtain ⟨e2, h2⟩ := ih hE' (s := { s with errs := s.errs ++ [x.id] }) hc e0
      exact ⟨e2, h2.imp id (Exists.imp fun _ => Exists.imp fun _ a =>
        ⟨List.mem_of_mem_tail a.1, a.2.1.cons x, a.2.2⟩)⟩
    · rw [e, ppActs_bound E' hE' r (s := openS s w x) rfl] at e0
      exact ⟨s.errs, .inr ⟨w, x :: E', List.mem_cons_self .., .refl _,
        e0.symm.trans (pushS_pushS (pushS s w [synTok] (some w)) w [x] E' (some w) (some w))⟩⟩

theorem ConcU.push (hco : ConcU M K s olds l v) {q : List Tok} {cur' : Option Nat}
    (hfq : ∀ y ∈ q, y.kind = .fin → y.retries < M)
    (hcur : cur' = some l ∨ (cur' = none ∧ (∃ k, q = [finTok k]) ∧ ∀ y ∈ data v'.av, y.retries ≤ v'.pp.hwm)) :
    ConcU M K (pushS s l q cur') olds l v' := by
  have ho : ∀ u ∈ olds, (pushS s l q cur').wk u = s.wk u := fun u hu =>
    wk_pushS_other s q _ (fun e : u = l => hco.lNo (e ▸ hu))
  refine ⟨fun u hu y hy hk => ?_, hco.nodup, hco.lNo, hcur.symm.imp (·.1) id, hco.crash, fun u hu => ?_,
    fun hc => hcur.elim (fun e => nomatch e.symm.trans hc) (·.2.2), fun _ hc => ?_⟩
  · rcases hu with rfl | hu
    · rw [wk_pushS_same] at hy
      exact (List.mem_append.1 hy).elim (fun hy => hco.finq u (.inl rfl) y hy hk) (fun hy => hfq y hy hk)
    · rw [ho u hu] at hy; exact hco.finq u (.inr hu) y hy hk
  · have := hco.oldok u hu
    unfold OldU insW at this ⊢
    rw [ho u hu]; exact this
  · rcases hcur with e | ⟨_, ⟨k, rfl⟩, _⟩
    · exact nomatch e.symm.trans hc
    · rw [wk_pushS_same]; exact .inr ⟨_, k, rfl⟩

theorem RepU.push (hlo : l ∉ olds) {q gw' tl' : List Tok} {g' : Bool} {cur' : Option Nat}
    (hw : WRep M l cur' ((s.wk l).inq ++ q) (s.wk l).bp.closing ((s.wk l).bp.cr 0) (insW s l) gw' tl' g')
    (hbd : Bd K (lanes M s olds) tl') :
    RepU M K (pushS s l q cur') olds l ⟨s.pp, gw', s.pq ++ s.dq ++ s.ret ++ (lanes M s olds ++ tl'), g'⟩ := by
  have e : lanes M (pushS s l q cur') olds = lanes M s olds :=
    lanes_same fun u hu => wk_pushS_other s q _ (fun e : u = l => hlo (e ▸ hu))
  exact ⟨gw', tl', g', by rw [insW, wk_pushS_same]; exact hw, by rw [e]; rfl, e.symm ▸ hbd⟩

/-- what forwarding works on: the clauses `rep` and `conc` of `GoodU`.  `VInv` is left out because the view step is
    proved for the whole list at once, the log clauses because forwarding leaves them alone. -/
structure TieU (M : Nat) (K : Prop) (s : Sys) (olds : List Nat) (l : Nat) (v : View) : Prop where
  rep  : RepU M K s olds l v
  conc : ConcU M K s olds l v

theorem pushV_app (M : Nat) (pp : PartProd.St) (gw F L tl E : List Tok) (g : Bool) :
    pushV M ⟨pp, gw, F ++ (L ++ tl), g⟩ E =
      ⟨pp, gw ++ if g then E else [], F ++ (L ++ (tl ++ if g then [] else bumpF M E)), g⟩ := by
  simp only [pushV, List.append_assoc]

theorem TieU.pushes (h : TieU M K s olds l v) (hc : s.cur = some l) {E : List Tok} (hE : AllData E)
    (hlv : ∀ x ∈ E, ∀ a ∈ v.av, a.kind = .fin → a.retries ≤ x.retries) :
    TieU M K (pushS s l E s.cur) olds l (pushV M v E) := by
  obtain ⟨⟨gw, tl, g, hw, rfl, hbd⟩, hco⟩ := h
  rw [hc] at hw ⊢
  have hbd' : Bd K (lanes M s olds) (tl ++ if g then [] else bumpF M E) := by
    cases g with
    | true => exact (List.append_nil tl).symm ▸ hbd
    | false =>
      refine hbd.app (pairwise_rb_data fun c hc => ?_) fun a ha c hc => ?_ <;> obtain ⟨t, ht, _, rfl⟩ := mem_bumpF hc
      · exact hE t ht
      · exact ⟨fun hk => Nat.lt_succ_of_le (hlv t ht a (List.mem_append_right _ ha) hk),
          fun hk => nomatch (hE t ht).symm.trans hk⟩
  rw [pushV_app]
  exact ⟨RepU.push hco.lNo (hw.pushes hE) hbd',
    hco.push (fun y hy hk => nomatch (hE y hy).symm.trans hk) (.inl rfl)⟩

theorem TieU.select (h : TieU M K s olds l v) (hc : s.cur = none) :
    TieU M K (pushS s l [synTok] (some l)) olds l v := by
  obtain ⟨⟨gw, tl, g, hw, rfl, hbd⟩, hco⟩ := h
  rw [hc] at hw
  exact ⟨RepU.push hco.lNo hw.select hbd,
    hco.push (fun y hy hk => by rw [List.mem_singleton.1 hy] at hk; cases hk) (.inl rfl)⟩

/-- the hand-over: bound to nobody, updateLeader names a worker `w` in its initial state.  `w` gets its syn; the
    worker `l` that was left is the youngest old worker from now on - or, if nothing ever reached it, forgotten -
    and the view keeps its lists (it may be read as accepting: `VInv.regood`) -/
theorem TieU.handover {w : Nat} (h : TieU M K s olds l v) (hK : K) (hc : s.cur = none) (hwl : w ≠ l) (hwo : w ∉ olds)
    (hf : s.wk w = {}) :
    ∃ olds', TieU M K (pushS s w [synTok] (some w)) olds' w ⟨v.pp, v.gw, v.av, true⟩ ∧
      ((olds' = olds ∧ s.wk l = {}) ∨ (olds' = olds ++ [l] ∧ s.wk l ≠ {})) := by
  obtain ⟨hr, hco⟩ := h
  have hww : (pushS s w [synTok] (some w)).wk w = ⟨[synTok], {}, none⟩ := by rw [wk_pushS_same, hf]; rfl
  have ho : ∀ u, u ≠ w → (pushS s w [synTok] (some w)).wk u = s.wk u := fun u hu => wk_pushS_other s _ _ hu
  obtain ⟨hr', hold⟩ := hr.handover hK hc (hco.finq l (.inl rfl)) (hco.lend hK hc) hwl hwo
    (s' := pushS s w [synTok] (some w)) rfl rfl rfl hww ho
  have hold : OldU M s l := by unfold OldU insW at hold ⊢; rw [← ho l hwl.symm]; exact hold
  -- the side conditions, whichever of the workers left (`l` among them) count as old: first with `w` in its initial
  -- state in the place of `l`, then `w` gets its syn
  have conc : ∀ olds', (∀ u ∈ olds', u = l ∨ u ∈ olds) → olds'.Nodup → w ∉ olds' → (l ∈ olds' → OldU M s l) →
      ConcU M K (pushS s w [synTok] (some w)) olds' w ⟨v.pp, v.gw, v.av, true⟩ := fun olds' hsub hnd hwo' hl =>
    ConcU.push (v := v)
      { finq := fun u hu => hu.elim (fun e t ht => by rw [e, hf] at ht; cases ht) fun hu => hco.finq u (hsub u hu),
        nodup := hnd, lNo := hwo', cur := .inl hc, crash := hco.crash,
        oldok := fun u hu => (hsub u hu).elim (fun e => e ▸ hl (e ▸ hu)) (hco.oldok u), capN := hco.capN,
        lend := fun _ _ => .inl (by rw [hf]) }
      (fun y hy hk => by rw [List.mem_singleton.1 hy] at hk; cases hk) (.inl rfl)
  by_cases hl0 : s.wk l = {}
  · refine ⟨olds, ⟨?_, conc olds (fun _ => .inr) hco.nodup hwo (fun hl => absurd hl hco.lNo)⟩, .inl ⟨rfl, hl0⟩⟩
    have e : lanes M (pushS s w [synTok] (some w)) (olds ++ [l]) = lanes M (pushS s w [synTok] (some w)) olds := by
      rw [lanes_append, lanes_cons, lane_nil (by rw [ho l hwl.symm, hl0])]
      exact List.append_nil _
    obtain ⟨gw, tl, g, a1, a2, a3⟩ := hr'
    exact ⟨gw, tl, g, a1, e ▸ a2, e ▸ a3⟩
  · exact ⟨olds ++ [l], ⟨hr', conc _ (fun u hu => (List.mem_append.1 hu).symm.imp List.mem_singleton.1 id)
      (List.nodup_append.2 ⟨hco.nodup, List.nodup_cons.2 ⟨List.not_mem_nil, List.nodup_nil⟩, fun a ha c hc =>
        List.mem_singleton.1 hc ▸ fun e => hco.lNo (e ▸ ha)⟩)
      (fun h => (List.mem_append.1 h).elim hwo fun h => hwl (List.mem_singleton.1 h)) (fun _ => hold)⟩,
      .inr ⟨rfl, hl0⟩⟩

/-- what a step of the partition producer from `s` to `s'`, with the look-ups `lks`, does for the worker `l` it was
    bound to last and the old workers: the invariant holds with `l'`, `olds'`; no worker but `l` and `l'` is touched,
    and `l` only if it was bound or is named; and either nothing moves, or a look-up named `l'`, a worker in its
    initial state - then `l` is forgotten if it is in its initial state itself, and joins the old workers if not.
    The second and third clause are what tells a run that a worker not in its initial state after the step has been
    named (it was bound, a look-up names it, or it was not in its initial state before); the alternatives of the last
    clause are what tells it that `l` and the workers of `olds'` have been. -/
def PPStepU (M : Nat) (K : Prop) (s : Sys) (lks : List (Option Nat)) (olds : List Nat) (l : Nat) (s' : Sys) : Prop :=
  ∃ olds' l' v', GoodU M K s' olds' l' v' ∧ (∀ u, u ≠ l → u ≠ l' → s'.wk u = s.wk u) ∧
    (s'.wk l = s.wk l ∨ s.cur = some l ∨ some l ∈ lks) ∧
    ((olds' = olds ∧ l' = l) ∨ (K ∧ some l' ∈ lks ∧ l' ≠ l ∧ l' ∉ olds ∧
      ((olds' = olds ∧ s'.wk l = {}) ∨ (olds' = olds ++ [l] ∧ (s.wk l ≠ {} ∨ s.cur = some l)))))

/-- from a state `s1` the data tokens `E` are forwarded.  `s` is the state before the step, of which `hl` and the
    conclusion speak, and `v` its view; `s1` is `s` after the partition producer took the head of pp.input and
    possibly left `l` (`hwk`, `hs1`).  Bound to nobody the view of `s1` may be read as accepting (a worker in its
    initial state may be named), so the view step is asked for either flag. -/
theorem goodU_pp_emits {s1 : Sys} {v1 : View} (hlog : LogInvU s1 l v) (h1 : TieU M K s1 olds l v1) (E : List Tok)
    (hE : ∀ x ∈ E, x.kind = .data ∧ x.part = 0) (hlv : ∀ x ∈ E, v1.pp.hwm ≤ x.retries) (lks : List (Option Nat))
    (hl : ∀ w, some w ∈ lks → w = l ∨ (K ∧ w ∉ olds ∧ s.wk w = {}))
    (hV : ∀ g' kept, kept.Sublist E → (g' = v1.good ∨ (s1.cur = none ∧ g' = true)) →
      VStep v (pushV M ⟨v1.pp, v1.gw, v1.av, g'⟩ kept))
    (hwk : ∀ u, u ≠ l → s1.wk u = s.wk u) (hs1 : (s1.wk l = s.wk l ∧ s1.cur = s.cur) ∨ s.cur = some l) :
    PPStepU M K s lks olds l (ppActs s1 lks (E.map emitA)) := by
  have hst : VStep v v1 := pushV_nil M v1 ▸ hV v1.good [] (List.nil_sublist _) (.inl rfl)
  have he : ∀ e, TieU M K { s1 with errs := e } olds l v1 := fun _ =>
    ⟨h1.rep.congr rfl rfl rfl rfl, h1.conc.queues rfl rfl rfl h1.conc.capN⟩
  have lw : ∀ {x : Worker}, x = s1.wk l ∨ s1.cur = some l → x = s.wk l ∨ s.cur = some l := fun h =>
    hs1.elim (fun e => e.1 ▸ e.2 ▸ h) .inr
  -- bound to `l2` (`l`, or the worker that takes its place) in the state `s2`, the tokens `E2` go there; they are data
  -- tokens, none below a chaser in flight, and forwarding leaves the log clauses alone
  have fwd : ∀ {s2 : Sys} {olds2 : List Nat} {l2 : Nat} {g2 : Bool} {E2 : List Tok},
      TieU M K s2 olds2 l2 ⟨v1.pp, v1.gw, v1.av, g2⟩ → s2.cur = some l2 → E2.Sublist E →
      (g2 = v1.good ∨ (s1.cur = none ∧ g2 = true)) → LogInvU s1 l2 v → Grows s1 (pushS s2 l2 E2 s2.cur) →
      GoodU M K (pushS s2 l2 E2 s2.cur) olds2 l2 (pushV M ⟨v1.pp, v1.gw, v1.av, g2⟩ E2) :=
    fun {_ _ l2 g2 E2} h2 hc2 hsub hg hlog2 gr => by
      have h3 := h2.pushes hc2 (fun x hx => (hE x (hsub.subset hx)).1) fun x hx a ha hf =>
        Nat.le_trans (hst.inv.fin1 a ha hf).2.1 (hlv x (hsub.subset hx))
      obtain ⟨hvi, hlive⟩ := hV g2 E2 hsub hg
      exact ⟨h3.rep, hvi, h3.conc, logU_same hlog2 gr.next gr.log gr.succ hlive fun vd base hp => by
        obtain ⟨_, _, e⟩ := gr.wk l2
        rw [e] at hp ⊢; exact ⟨hp, rfl⟩⟩
  have g := ppActs_grows (E.map emitA) s1 lks
  rcases h1.conc.cur with hc | hc
  · obtain ⟨e, hs' | ⟨w, E2, hm, hsub, hs'⟩⟩ := ppActs_unbound E hE hc rfl <;> rw [hs'] at g ⊢
    · -- every look-up failed
      exact ⟨olds, l, v1,
        ⟨(he e).rep, hst.inv, (he e).conc, logU_same hlog rfl rfl rfl hst.live fun _ _ hp => ⟨hp, rfl⟩⟩,
        fun u hu _ => hwk u hu, (lw (.inl rfl)).imp_right .inl, .inl ⟨rfl, rfl⟩⟩
    · have hwe : ∀ u, u ≠ w →
          (pushS (pushS { s1 with errs := e } w [synTok] (some w)) w E2 (some w)).wk u = s1.wk u :=
        fun u hu => (wk_pushS_other _ _ _ hu).trans (wk_pushS_other { s1 with errs := e } _ _ hu)
      by_cases hwl : w = l
      · subst hwl
        exact ⟨olds, w, _, fwd ((he e).select hc) rfl hsub (.inl rfl) hlog g,
          fun u hu _ => (hwe u hu).trans (hwk u hu), .inr (.inr hm), .inl ⟨rfl, rfl⟩⟩
      · obtain ⟨hK, hwo, hf⟩ := (hl w hm).resolve_left hwl
        rw [← hwk w hwl] at hf
        obtain ⟨olds', h2, ho⟩ := (he e).handover hK hc hwl hwo hf
        -- a worker in its initial state has prepared no answer
        exact ⟨olds', w, _,
          fwd h2 rfl hsub (.inr ⟨hc, rfl⟩) ⟨hlog.toLogCore, fun _ _ _ hp => nomatch hf ▸ hp⟩ g,
          fun u hu hu' => (hwe u hu').trans (hwk u hu), (lw (.inl (hwe l (Ne.symm hwl)))).imp_right .inl,
          .inr ⟨hK, hm, hwl, hwo, ho.imp (fun a => ⟨a.1, (hwe l (Ne.symm hwl)).trans a.2⟩) fun a =>
            ⟨a.1, (lw (.inl rfl)).imp_left fun e : s1.wk l = s.wk l => e ▸ a.2⟩⟩⟩
  · rw [ppActs_bound E hE lks hc] at g ⊢
    exact ⟨olds, l, _, fwd h1 hc (.refl E) (.inl rfl) hlog g,
      fun u hu _ => (wk_pushS_other s1 _ _ hu).trans (hwk u hu), (lw (.inr hc)).imp_right .inl, .inl ⟨rfl, rfl⟩⟩

/-- newHighWatermark: the partition producer has sent the chaser `fin k` to `l`, which refuses the partition, and
    left it; bounced, the chaser is the last of what `l` returns -/
theorem goodU_leave {gw tl : List Tok}
    (hw : WRep M l s.cur (s.wk l).inq (s.wk l).bp.closing ((s.wk l).bp.cr 0) (insW s l) gw tl false)
    (hbd : Bd K (lanes M s olds) tl) (hco : ConcU M K s olds l v) (r : List Tok) (pp' : PartProd.St) {k : Nat}
    (hk : k < M) (hrb : ∀ a ∈ lanes M s olds ++ tl, Rb a (finTok (k + 1)))
    (hcap : ∀ y ∈ data (r ++ s.dq ++ s.ret ++ (lanes M s olds ++ tl)), y.retries ≤ pp'.hwm) :
    ∃ g', TieU M K (pushS (popS s r pp') l [finTok k] none) olds l
      ⟨pp', gw, r ++ s.dq ++ s.ret ++ (lanes M s olds ++ tl) ++ [finTok (k + 1)], g'⟩ := by
  obtain ⟨g', hw'⟩ := hw.chase hk
  rw [List.append_assoc (r ++ s.dq ++ s.ret), List.append_assoc (lanes M s olds)]
  refine ⟨g', RepU.push (s := popS s r pp') hco.lNo hw'
      (hbd.app (List.pairwise_singleton ..) fun a ha c hc => List.mem_singleton.1 hc ▸ hrb a ha),
    (hco.queues (s' := popS s r pp') rfl rfl rfl hco.capN).push (fun y hy _ => List.mem_singleton.1 hy ▸ hk)
      (.inr ⟨rfl, ⟨k, rfl⟩, fun y hy => ?_⟩)⟩
  rw [← List.append_assoc (lanes M s olds), ← List.append_assoc, data_append, data_cons_not _ (finTok_notData _)] at hy
  exact hcap y (List.append_nil (data _) ▸ hy)

theorem goodU_ppRecv {lks : List (Option Nat)} (hb : BaseU M s olds l) (h : GoodU M K s olds l v)
    (hl : ∀ w, some w ∈ lks → w = l ∨ (K ∧ w ∉ olds ∧ s.wk w = {})) {t : Tok} {r : List Tok}
    (hq : s.pq = t :: r) :
    PPStepU M K s lks olds l
      (ppActs (popS s r (PartProd.recv s.pp (toPP t)).1) lks (PartProd.recv s.pp (toPP t)).2) := by
  obtain ⟨gw, tl, g, hw, rfl, hbd⟩ := h.rep
  obtain ⟨hm, hav⟩ := pq_head hq (lanes M s olds ++ tl)
  have hp0 := hb.p0q t hm
  have hns := h.vinv.nosyn t (List.mem_append_left _ hm)
  have hM := hb.lvl t hm
  have hco := h.conc
  -- `l` is not left: from the state after the head is taken, the partition producer in state `pp'`, the tokens `E` are
  -- forwarded.  Bound to nobody the worker holds nothing and the arrival stream is capped, so the view may be read as
  -- accepting (`VInv.regood`): the view step, proved from `VInv` whatever the flag, starts from either reading
  have emits : ∀ (pp' : PartProd.St) (E : List Tok),
      (∀ x ∈ data (r ++ s.dq ++ s.ret ++ (lanes M s olds ++ tl)), x.retries ≤ s.pp.hwm → x.retries ≤ pp'.hwm) →
      (∀ x ∈ E, x.kind = .data ∧ x.part = 0 ∧ pp'.hwm ≤ x.retries) →
      (∀ g' kept, kept.Sublist E → VInv ⟨s.pp, gw, s.pq ++ s.dq ++ s.ret ++ (lanes M s olds ++ tl), g'⟩ →
        VStep ⟨s.pp, gw, s.pq ++ s.dq ++ s.ret ++ (lanes M s olds ++ tl), g'⟩
          (pushV M ⟨pp', gw, r ++ s.dq ++ s.ret ++ (lanes M s olds ++ tl), g'⟩ kept)) →
      PPStepU M K s lks olds l (ppActs (popS s r pp') lks (E.map emitA)) := fun pp' E hcap hE hV =>
    goodU_pp_emits (s1 := popS s r pp') (v1 := ⟨pp', gw, r ++ s.dq ++ s.ret ++ (lanes M s olds ++ tl), g⟩)
      (logU_same h.log rfl rfl rfl (fun _ ha => ha) (fun _ _ hp => ⟨hp, rfl⟩))
      ⟨⟨gw, tl, g, hw, rfl, hbd⟩, hco.queues rfl rfl rfl fun hn x hx => hcap x hx (hco.capN hn x (data_tail hav hx))⟩ E
      (fun x hx => ⟨(hE x hx).1, (hE x hx).2.1⟩) (fun x hx => (hE x hx).2.2) lks hl
      (fun g' kept hk hg => by
        rcases hg with rfl | ⟨hc, rfl⟩
        · exact hV _ kept hk h.vinv
        · have hre := h.vinv.regood (hw.gw_nil hc) (hco.capN hc)
          exact hre.trans (hV true kept hk hre.inv))
      (fun _ _ => rfl) (.inl ⟨rfl, rfl⟩)
  rcases kind_cases t with hk | hk | hk
  · have hd : isData t = true := by simp [isData, hk]
    rcases Nat.lt_trichotomy t.retries s.pp.hwm with hlt | heq | hgt
    · -- a data token below the watermark is parked
      have hfin : (toPP t).fin = false := Props.C02bp.isFin_of_data hk
      rw [recv_park s.pp (toPP t) (Nat.not_lt.2 (Nat.le_of_lt hlt)) hlt hfin]
      rw [← ofPP_toPP t hp0 hns] at hav
      exact emits _ [] (fun _ _ hx => hx) (fun _ hx => absurd hx List.not_mem_nil) fun g' kept hkept hu => by
        rw [List.eq_nil_of_sublist_nil hkept, pushV_nil]; exact hu.park (toPP t) _ hav hfin hlt
    · -- a data token at the watermark is forwarded
      rw [recv_emit_data s.pp hk heq]
      exact emits s.pp [t] (fun _ _ hx => hx)
        (fun x hx => by rw [List.mem_singleton.1 hx]; exact ⟨hk, hp0, Nat.le_of_eq heq.symm⟩)
        fun _ kept hkept hu => vinv_push1 hu M t _ hav hd heq kept hkept
    · -- a data token above the watermark: `l` is bound (otherwise the arrival stream is capped by the watermark) and
      -- refuses the partition; it gets the chaser of the level below and is left, then the token is forwarded
      obtain rfl : g = false := rise_bad h.vinv hav hd hgt
      have hc : s.cur = some l := hco.cur.resolve_left fun hc => Nat.not_le.2 hgt
        (hco.capN hc t (by rw [hav, data_cons_data _ hd]; exact List.mem_cons_self ..))
      have hcap := rise_cap h.vinv hav hd hgt
      obtain ⟨k, hk1, hk2, hkM, _⟩ := level_below hgt hM
      obtain ⟨g', h1⟩ := goodU_leave hw hbd hco r (risePP s.pp t.retries) hkM
        (fun a ha => by
          have hma : a ∈ s.pq ++ s.dq ++ s.ret ++ (lanes M s olds ++ tl) := List.mem_append_right _ ha
          have hlt : a.kind = .fin → a.retries < k + 1 := fun hka =>
            hk2 ▸ Nat.lt_of_le_of_lt (h.vinv.fin1 a hma hka).2.1 hgt
          refine ⟨hlt, fun _ => ?_⟩
          rcases kind_cases a with hka | hka | hka
          · exact hk2 ▸ hcap a (mem_data.2 ⟨hma, hka⟩)
          · exact absurd hka (h.vinv.nosyn a hma)
          · exact Nat.le_of_lt (hlt hka))
        (fun y hy => hcap y (data_tail hav hy))
      rw [hk2] at h1
      rw [recv_rise_data s.pp hk hgt, ppActs, ppAct_finSend_some (s := popS s r (risePP s.pp t.retries)) hc, hk1]
      exact goodU_pp_emits (s1 := pushS (popS s r (risePP s.pp t.retries)) l [finTok k] none)
        (logU_same h.log rfl rfl rfl (fun _ ha => ha) fun _ _ hp => by rw [wk_pushS_same] at hp ⊢; exact ⟨hp, rfl⟩)
        h1 [t] (fun x hx => by rw [List.mem_singleton.1 hx]; exact ⟨hk, hp0⟩)
        (fun x hx => by rw [List.mem_singleton.1 hx]; exact Nat.le_refl _) lks hl
        (fun g' kept hkept _ => h.vinv.riseEmit M hav hd hgt g' kept hkept)
        (fun u hu => wk_pushS_other (popS s r (risePP s.pp t.retries)) _ _ hu) (.inr hc)
  · exact absurd hk hns
  · rcases Nat.lt_or_eq_of_le (h.vinv.fin1 t (by rw [hav]; exact List.mem_cons_self ..) hk).2.1 with hlt | heq
    · -- a chaser below the watermark is dropped
      rw [recv_finLow s.pp (toPP t) (Nat.not_lt.2 (Nat.le_of_lt hlt)) hlt (Props.C02bp.isFin_of_fin hk)]
      exact emits _ [] (fun _ _ hx => hx) (fun _ hx => absurd hx List.not_mem_nil) fun g' kept hkept hu => by
        rw [List.eq_nil_of_sublist_nil hkept, pushV_nil]; exact hu.finDrop t _ hav hk
    · -- the chaser of the watermark: the retry buffers below it are flushed
      obtain ⟨hrec, hE, hcap, _⟩ := h.vinv.finTop M hav hk heq
      rw [show PartProd.recv s.pp (toPP t) = _ from hrec]
      exact emits (flushPP s.pp) (emToks (flushActs s.pp)) hcap hE
        fun _ kept hkept hu => (hu.finTop M hav hk heq).2.2.2 kept hkept

end Lemmas.C02sys
